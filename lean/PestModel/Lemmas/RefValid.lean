import PestModel.Lemmas.RefHoare
import PestModel.Lemmas.RefConcat
/-! Successful evaluation keeps the position on a character boundary: the end of a consumed word is
one, so this is the soundness rule with the trivial postcondition. -/
namespace PestModel.Ref

theorem postOK_true (c : Ctx) : PostOK c fun _ _ _ _ _ _ => True := ⟨fun _ _ _ _ _ _ _ _ _ _ _ => trivial, fun _ _ _ _ _ _ _ _ _ => trivial⟩

/-- the Hoare rule for the limit semantics. -/
theorem V_sound {c : Ctx} {P : Post} (hP : PostOK c P) : Sound c P (V c) :=
  V_induct c (Φ := fun q r => ∀ s' F, r = .ok s' F → Span c q.s s' (q.Claim P F)) (fun _ _ _ h => nomatch h)
    fun _ => step_sound hP

theorem inv_valid (c : Ctx) : (V c).Keeps (Valid c) := (V_sound (postOK_true c)).keeps

end PestModel.Ref
