import PestModel.Model.Lower
import PestModel.Lemmas.GenVmRun
/-! C02: states equal up to the saved snapshots of the stack (`SEq`) and the relation they induce on
outcomes (`ORel`). -/
namespace PestModel.GenVm
open PestModel.PS PestModel.Stack
open PestModel.LineCol (Str isBoundary)

def ws (st : Stk Str) (s : PState) : PState := { s with stack := st }

theorem ws_ws (a b : Stk Str) (s : PState) : ws a (ws b s) = ws a s := rfl
theorem ws_stack (a : Stk Str) (s : PState) : (ws a s).stack = a := rfl

/-- same state up to the stack, whose current contents agree (the saved snapshots may differ). -/
def SEq0 (s1 s2 : PState) : Prop := s2 = ws s2.stack s1 ∧ s1.stack.cache = s2.stack.cache

structure SEq (s1 s2 : PState) : Prop where
  core : SEq0 s1 s2
  g1 : Good s1
  g2 : Good s2

theorem SEq0.refl (s : PState) : SEq0 s s := ⟨rfl, rfl⟩

theorem SEq0.symm {a b : PState} (h : SEq0 a b) : SEq0 b a := by
  obtain ⟨h1, h2⟩ := h
  refine ⟨?_, h2.symm⟩
  rw [h1]; rfl

theorem SEq0.trans {a b c : PState} (h1 : SEq0 a b) (h2 : SEq0 b c) : SEq0 a c := by
  obtain ⟨e1, c1⟩ := h1
  obtain ⟨e2, c2⟩ := h2
  refine ⟨?_, c1.trans c2⟩
  rw [e2, e1]; rfl

theorem SEq.refl {s : PState} (h : Good s) : SEq s s := ⟨SEq0.refl s, h, h⟩
theorem SEq.symm {a b : PState} (h : SEq a b) : SEq b a := ⟨h.core.symm, h.g2, h.g1⟩
theorem SEq.trans {a b c : PState} (h1 : SEq a b) (h2 : SEq b c) : SEq a c :=
  ⟨h1.core.trans h2.core, h1.g1, h2.g2⟩

theorem SEq0.of_ws {s : PState} {st : Stk Str} (h : s.stack.cache = st.cache) : SEq0 s (ws st s) :=
  ⟨rfl, h⟩

theorem SEq0.ws_ws {s : PState} {a b : Stk Str} (h : a.cache = b.cache) : SEq0 (ws a s) (ws b s) :=
  ⟨rfl, h⟩

def ORel (R : PState → PState → Prop) : Out → Out → Prop
  | .ok a, .ok b => R a b
  | .err a, .err b => R a b
  | .panic, .panic => True
  | .fuel, .fuel => True
  | _, _ => False

abbrev OEq0F := ORel SEq0
abbrev OEqF := ORel SEq

def OEq (o1 o2 : Out) : Prop := ORel SEq o1 o2 ∧ o1 ≠ .fuel

@[elab_as_elim]
theorem ORel.elim {R : PState → PState → Prop} {motive : Out → Out → Prop} {o1 o2 : Out} (h : ORel R o1 o2)
    (ok : ∀ a b, R a b → motive (.ok a) (.ok b)) (err : ∀ a b, R a b → motive (.err a) (.err b))
    (panic : motive .panic .panic) (fuel : motive .fuel .fuel) : motive o1 o2 := by
  cases o1 <;> cases o2 <;> first | exact False.elim h | exact ok _ _ h | exact err _ _ h | exact panic | exact fuel

theorem ORel.ne_fuel {R} {o1 o2 : Out} (h : ORel R o1 o2) (h1 : o1 ≠ .fuel) : o2 ≠ .fuel :=
  h.elim (motive := fun o1 o2 => o1 ≠ .fuel → o2 ≠ .fuel) (fun _ _ _ _ => Out.noConfusion)
    (fun _ _ _ _ => Out.noConfusion) (fun _ => Out.noConfusion) id h1

theorem ORel.ne_fuel' {R} {o1 o2 : Out} (h : ORel R o1 o2) (h1 : o2 ≠ .fuel) : o1 ≠ .fuel :=
  h.elim (motive := fun o1 o2 => o2 ≠ .fuel → o1 ≠ .fuel) (fun _ _ _ _ => Out.noConfusion)
    (fun _ _ _ _ => Out.noConfusion) (fun _ => Out.noConfusion) id h1

theorem OEq.ne_fuel {o1 o2 : Out} (h : OEq o1 o2) : o2 ≠ .fuel := h.1.ne_fuel h.2

theorem ORel.symm {R : PState → PState → Prop} (hR : ∀ a b, R a b → R b a) {o1 o2 : Out}
    (h : ORel R o1 o2) : ORel R o2 o1 :=
  h.elim hR hR trivial trivial

theorem ORel.trans {R : PState → PState → Prop} (hR : ∀ a b c, R a b → R b c → R a c) {o1 o2 o3 : Out}
    (h1 : ORel R o1 o2) (h2 : ORel R o2 o3) : ORel R o1 o3 := by
  cases o1 <;> cases o2 <;> cases o3 <;>
    first | exact False.elim h1 | exact False.elim h2 | exact hR _ _ _ h1 h2 | trivial

theorem OEq.symm {o1 o2 : Out} (h : OEq o1 o2) : OEq o2 o1 :=
  ⟨ORel.symm (R := SEq) (fun _ _ a => SEq.symm a) h.1, h.ne_fuel⟩

theorem OEq.trans {o1 o2 o3 : Out} (h1 : OEq o1 o2) (h2 : OEq o2 o3) : OEq o1 o3 :=
  ⟨ORel.trans (R := SEq) (fun _ _ _ a b => SEq.trans a b) h1.1 h2.1, h1.2⟩

theorem OEqF.symm {o1 o2 : Out} (h : OEqF o1 o2) : OEqF o2 o1 := ORel.symm (R := SEq) (fun _ _ a => SEq.symm a) h

theorem OEqF.trans {o1 o2 o3 : Out} (h1 : OEqF o1 o2) (h2 : OEqF o2 o3) : OEqF o1 o3 :=
  ORel.trans (R := SEq) (fun _ _ _ a b => SEq.trans a b) h1 h2

theorem ORel.upgrade {o1 o2 : Out} (h : OEq0F o1 o2) (h1 : ∀ x, o1.state? = some x → Good x)
    (h2 : ∀ x, o2.state? = some x → Good x) : OEqF o1 o2 :=
  h.elim (motive := fun o1 o2 => (∀ x, o1.state? = some x → Good x) → (∀ x, o2.state? = some x → Good x) →
      OEqF o1 o2)
    (fun a b r g1 g2 => ⟨r, g1 a rfl, g2 b rfl⟩) (fun a b r g1 g2 => ⟨r, g1 a rfl, g2 b rfl⟩)
    (fun _ _ => trivial) (fun _ _ => trivial) h1 h2

end PestModel.GenVm
