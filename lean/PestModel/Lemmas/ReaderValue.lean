import PestModel.Lemmas.ReaderNoPanic
import PestModel.Thm.C07Full
/-!
C07, pair level: **what the pairs of a grammar text denote, and that `consume_rules` computes it.**

`ExprV` / `UnArgsV` / `UnBodyV` / `PostsV` say, without reference to the reader's code, which expression a list of pairs
stands for: `~` binds tighter than `|` and both group to the left (`foldGo`), a leading `|` is ignored, a tag wraps the whole
term, prefix operators apply to everything after them in the term, postfix operators apply left to right to the node before
them, parentheses are transparent. `reads_value`: the reader returns exactly that expression.
-/
namespace PestModel.ReaderValue
open PestModel.G PestModel.Reader PestModel.ReaderFull PestModel.ReaderShape
open PestModel.Views (Tree sizeList)
open PestModel.LineCol (Str)
open PestModel.C07Full

/-- whatever `.seq` and `.choice` preserve holds of the fold when it holds of the parts. -/
theorem foldGo_closed (P : Expr → Prop) (hs : ∀ a b, P a → P b → P (.seq a b)) (hc : ∀ a b, P a → P b → P (.choice a b)) :
    ∀ (xs : List (Bool × Expr)) (acc : Option Expr) (cur : Expr),
      (∀ a, acc = some a → P a) → P cur → (∀ p ∈ xs, P p.2) → P (foldGo acc cur xs)
  | [], none, _, _, h, _ => h
  | [], some a, _, ha, h, _ => hc _ _ (ha a rfl) h
  | (false, x) :: r, acc, _, ha, h, hx =>
    foldGo_closed P hs hc r acc _ ha (hs _ _ h (hx (false, x) (by simp))) (fun p hp => hx p (by simp [hp]))
  | (true, x) :: r, acc, _, ha, h, hx =>
    foldGo_closed P hs hc r _ x
      (by rintro _ ⟨⟩; cases acc with
          | none => exact h
          | some a => exact hc _ _ (ha a rfl) h)
      (hx (true, x) (by simp)) (fun p hp => hx p (by simp [hp]))

/-- one postfix operator. -/
def PostV (text : Str) (p : Tree) (x y : Expr) : Prop :=
  (kind p = "optional_operator" ∧ y = .opt x) ∨ (kind p = "repeat_operator" ∧ y = .rep x) ∨
  (kind p = "repeat_once_operator" ∧ y = .repOnce x) ∨
  (kind p = "repeat_exact" ∧ ∃ o n c r, p.children = o :: n :: c :: r ∧ ∃ k, numberOf text n = some k ∧ k ≠ 0 ∧ y = .repExact x k) ∨
  (kind p = "repeat_min" ∧ ∃ o n r, p.children = o :: n :: r ∧ ∃ k, numberOf text n = some k ∧ y = .repMin x k) ∨
  (kind p = "repeat_max" ∧ ∃ o cm n r, p.children = o :: cm :: n :: r ∧ ∃ k, numberOf text n = some k ∧ k ≠ 0 ∧ y = .repMax x k) ∨
  (kind p = "repeat_min_max" ∧ ∃ o a cm b r, p.children = o :: a :: cm :: b :: r ∧
    ∃ lo hi, numberOf text a = some lo ∧ numberOf text b = some hi ∧ hi ≠ 0 ∧ y = .repMinMax x lo hi)

/-- postfix operators, applied left to right. -/
inductive PostsV (text : Str) : List Tree → Expr → Expr → Prop
  | nil (x : Expr) : PostsV text [] x x
  | cons {p : Tree} {ps : List Tree} {x y z : Expr} : PostV text p x y → PostsV text ps y z → PostsV text (p :: ps) x z

/-- a terminal other than `PUSH(…)`: what it denotes is what its text spells (C07's `unescape_spell`, `count_roundtrip`,
`index_roundtrip` are the theorems about the spellings). -/
def LeafV (extras : Bool) (text : Str) (t : Tree) (x : Expr) : Prop :=
  (kind t = "_push_literal" ∨ kind t = "peek_slice" ∨ kind t = "identifier" ∨ kind t = "string" ∨
    kind t = "insensitive_string" ∨ kind t = "range") ∧ leafNode extras text t = some x

mutual
  inductive ExprV (extras : Bool) (text : Str) : List Tree → Expr → Prop
    | mk (lead : List Tree) (t0 : Tree) (rest : List Tree) (x0 : Expr) (xs : List (Bool × Expr)) :
        LeadOK lead → kind t0 = "term" → UnArgsV extras text t0.children x0 → RestV extras text rest xs →
        ExprV extras text (lead ++ t0 :: rest) (foldGo none x0 xs)
  /-- `(infix_operator ~ term)*`: `true` = `|`, `false` = `~`. -/
  inductive RestV (extras : Bool) (text : Str) : List Tree → List (Bool × Expr) → Prop
    | nil : RestV extras text [] []
    | cons {p t : Tree} {ps : List Tree} {o : Bool} {x : Expr} {xs : List (Bool × Expr)} :
        IsOpOf p o → kind t = "term" → UnArgsV extras text t.children x → RestV extras text ps xs →
        RestV extras text (p :: t :: ps) ((o, x) :: xs)
  inductive UnArgsV (extras : Bool) (text : Str) : List Tree → Expr → Prop
    | tagged {g asg : Tree} {rest : List Tree} {name : Str} {x : Expr} : strOf text g = some ('#' :: name) →
        kind asg = "assignment_operator" → UnBodyV extras text rest x →
        UnArgsV extras text (g :: asg :: rest) (if extras then .nodeTag x name else x)
    | plain {rest : List Tree} {x : Expr} : UnBodyV extras text rest x → UnArgsV extras text rest x
    | parenRest {e c : Tree} {post : List Tree} {x y : Expr} : kind e = "expression" → ExprV extras text e.children x →
        kind c = "closing_paren" → PostsV text post x y → UnArgsV extras text (e :: c :: post) y
  inductive UnBodyV (extras : Bool) (text : Str) : List Tree → Expr → Prop
    | pos {p : Tree} {rest : List Tree} {x : Expr} : kind p = "positive_predicate_operator" → UnBodyV extras text rest x →
        UnBodyV extras text (p :: rest) (.posPred x)
    | neg {p : Tree} {rest : List Tree} {x : Expr} : kind p = "negative_predicate_operator" → UnBodyV extras text rest x →
        UnBodyV extras text (p :: rest) (.negPred x)
    | paren {o e c : Tree} {post : List Tree} {x y : Expr} : kind o = "opening_paren" → kind e = "expression" →
        ExprV extras text e.children x → kind c = "closing_paren" → PostsV text post x y →
        UnBodyV extras text (o :: e :: c :: post) y
    | push {t o e : Tree} {cs post : List Tree} {x y : Expr} : kind t = "_push" → t.children = o :: e :: cs →
        kind e = "expression" → ExprV extras text e.children x → PostsV text post (.push x) y →
        UnBodyV extras text (t :: post) y
    | leaf {t : Tree} {post : List Tree} {x y : Expr} : LeafV extras text t x → PostsV text post x y →
        UnBodyV extras text (t :: post) y
end

theorem postV_kind_ne {text : Str} {p : Tree} {x y : Expr} (h : PostV text p x y) :
    kind p ≠ "assignment_operator" ∧ kind p ≠ "closing_paren" := by
  rcases h with ⟨h, _⟩ | ⟨h, _⟩ | ⟨h, _⟩ | ⟨h, _⟩ | ⟨h, _⟩ | ⟨h, _⟩ | ⟨h, _⟩ <;> simp [h]

theorem postfixOp_value {text : Str} {p : Tree} {x y : Expr} (h : PostV text p x y) : postfixOp text x p = some y := by
  rcases h with ⟨hk, rfl⟩ | ⟨hk, rfl⟩ | ⟨hk, rfl⟩ | ⟨hk, o, n, c, r, hc, k, hn, hk0, rfl⟩ | ⟨hk, o, n, r, hc, k, hn, rfl⟩ |
    ⟨hk, o, cm, n, r, hc, k, hn, hk0, rfl⟩ | ⟨hk, o, a, cm, b, r, hc, lo, hi, ha, hb, h0, rfl⟩
  · simp [postfixOp, hk]
  · simp [postfixOp, hk]
  · simp [postfixOp, hk]
  · simp [postfixOp, hk, hc, hn, hk0]
  · simp [postfixOp, hk, hc, hn]
  · simp [postfixOp, hk, hc, hn, hk0]
  · simp [postfixOp, hk, hc, ha, hb, h0]

theorem postfixes_value {text : Str} {ps : List Tree} {x y : Expr} (h : PostsV text ps x y) : postfixes text x ps = some y := by
  induction h with
  | nil x => rfl
  | cons hp _ ih => rw [postfixes_cons, postfixOp_value hp]; simpa using ih

theorem postfixes_paren_value {text : Str} {c : Tree} {ps : List Tree} {x y : Expr} (hc : kind c = "closing_paren")
    (h : PostsV text ps x y) : postfixes text x (c :: ps) = some y := by
  rw [postfixes_cons, postfixOp_closing hc]
  simpa using postfixes_value h

theorem posts_noTag {text : Str} {ps : List Tree} {x y : Expr} (h : PostsV text ps x y) : NoTag ps := by
  intro q r hq
  cases h with
  | nil => cases hq
  | cons hp _ => cases hq; exact (postV_kind_ne hp).1

/-! ### the reader computes the denoted value -/

theorem unBodyV_cons {extras : Bool} {text : Str} {l : List Tree} {x : Expr} (h : UnBodyV extras text l x) :
    ∃ p r, l = p :: r ∧ kind p ≠ "assignment_operator" ∧ NoTag r := by
  cases h with
  | pos hk hb =>
    obtain ⟨p', r', rfl, hp', _⟩ := unBodyV_cons hb
    exact ⟨_, _, rfl, by simp [hk], by intro q r hq; cases hq; exact hp'⟩
  | neg hk hb =>
    obtain ⟨p', r', rfl, hp', _⟩ := unBodyV_cons hb
    exact ⟨_, _, rfl, by simp [hk], by intro q r hq; cases hq; exact hp'⟩
  | paren ho he _ _ _ => exact ⟨_, _, rfl, by simp [ho], by intro q r hq; cases hq; simp [he]⟩
  | push ht _ _ _ hp => exact ⟨_, _, rfl, by simp [ht], posts_noTag hp⟩
  | leaf hl hp => exact ⟨_, _, rfl, (LeafKind.ne hl.1).2.2.2.2.2, posts_noTag hp⟩

theorem body_value {extras : Bool} {text : Str} {f : Nat}
    (ih1 : ∀ pairs e, ExprV extras text pairs e → sizeList pairs + 1 ≤ f → consumeExpr extras text f pairs = some e)
    (ih2 : ∀ pairs e, UnArgsV extras text pairs e → sizeList pairs + 1 ≤ f → unaries extras text f pairs = some e)
    {p : Tree} {r : List Tree} {x : Expr} (h : UnBodyV extras text (p :: r) x) (hfit : sizeList (p :: r) ≤ f) :
    unaries extras text (f + 1) (p :: r) = some x := by
  obtain ⟨_, _, he, _, hnt⟩ := unBodyV_cons h
  cases he
  have hr := fit_tail hfit
  cases h with
  | pos hk hb => rw [unaries_pos extras text f p r hk hnt, ih2 r _ (.plain hb) hr]; rfl
  | neg hk hb => rw [unaries_neg extras text f p r hk hnt, ih2 r _ (.plain hb) hr]; rfl
  | paren ho he hx hc hp =>
    rw [unaries_paren extras text f p _ ho hnt]
    exact ih2 _ _ (.parenRest he hx hc hp) hr
  | push ht hc he hx hp =>
    rename_i o e cs x'
    rw [unaries_push extras text f p o e cs r ht hc hnt,
      ih1 _ _ hx (fit_grandchild (List.mem_cons_self ..) (by simp [hc]) hfit)]
    simpa using postfixes_value hp
  | leaf hl hp =>
    obtain ⟨h1, h2, h3, h4, h5, _⟩ := LeafKind.ne hl.1
    rw [unaries_leaf extras text f p r h1 h2 h3 h4 h5 hnt, hl.2]
    simpa using postfixes_value hp

theorem reads_of_restV {extras : Bool} {text : Str} {f : Nat}
    (ih2 : ∀ pairs e, UnArgsV extras text pairs e → sizeList pairs + 1 ≤ f → unaries extras text f pairs = some e)
    {ps : List Tree} {xs : List (Bool × Expr)} (h : RestV extras text ps xs) (hfit : sizeList ps ≤ f) :
    Reads (fun p => unaries extras text f p.children) ps xs := by
  cases h with
  | nil => exact .nil
  | cons hop ht hu hr =>
    have h1 := fit_tail hfit
    exact .cons hop (isTerm_of_kind ht) (ih2 _ _ hu (fit_child (List.mem_cons_self ..) (Nat.le_of_succ_le h1)))
      (reads_of_restV ih2 hr (Nat.le_of_succ_le (fit_tail (Nat.le_of_succ_le h1))))

/-- **`consume_expr` / `unaries` return the expression the pairs denote.** -/
theorem reads_value (extras : Bool) (text : Str) : ∀ f : Nat,
    (∀ pairs e, ExprV extras text pairs e → sizeList pairs + 1 ≤ f → consumeExpr extras text f pairs = some e) ∧
    (∀ pairs e, UnArgsV extras text pairs e → sizeList pairs + 1 ≤ f → unaries extras text f pairs = some e) := by
  intro f
  induction f with
  | zero => exact ⟨fun _ _ _ h => by omega, fun _ _ _ h => by omega⟩
  | succ f ih =>
    obtain ⟨ih1, ih2⟩ := ih
    constructor
    · intro pairs e hk hfit
      cases hk with
      | mk lead t0 rest x0 xs hl h0 hu0 hr =>
        have hd := dropLead_lead (r := rest) hl h0
        have hsz : sizeList (t0 :: rest) ≤ f := by
          have := sizeList_dropLead_le (lead ++ t0 :: rest); rw [hd] at this; omega
        exact consumeExpr_fold extras text f _ t0 rest x0 xs hd (isTerm_of_kind h0)
          (ih2 _ _ hu0 (fit_child (List.mem_cons_self ..) hsz)) (reads_of_restV ih2 hr (Nat.le_of_succ_le (fit_tail hsz)))
    · intro pairs e hu hfit
      cases hu with
      | tagged hg ha hb =>
        rename_i g asg rest name x
        obtain ⟨p, r, rfl, _, hnt⟩ := unBodyV_cons hb
        rw [unaries_tag extras text f g asg p r '#' name ha hg (by decide) hnt]
        have h1 := fit_tail (Nat.le_of_succ_le_succ hfit)
        rw [body_value ih1 ih2 hb (Nat.le_of_succ_le (fit_tail (Nat.le_of_succ_le h1)))]
        rfl
      | plain hb =>
        obtain ⟨p, r, rfl, _, _⟩ := unBodyV_cons hb
        exact body_value ih1 ih2 hb (by omega)
      | parenRest he hx hc hp =>
        rename_i e c post x
        rw [unaries_expression extras text f e (c :: post) he (by intro q r hq; cases hq; simp [hc])]
        rw [ih1 _ _ hx (fit_child (List.mem_cons_self ..) (Nat.le_of_succ_le_succ hfit))]
        simpa using postfixes_paren_value hc hp

/-- the modifier pair (if any) and the rule type it stands for. -/
def ModV (mods : List Tree) (ty : RuleType) : Prop :=
  (mods = [] ∧ ty = .normal) ∨ ∃ m, mods = [m] ∧
    ((kind m = "silent_modifier" ∧ ty = .silent) ∨ (kind m = "atomic_modifier" ∧ ty = .atomic) ∨
     (kind m = "compound_atomic_modifier" ∧ ty = .compound) ∨ (kind m = "non_atomic_modifier" ∧ ty = .nonAtomic))

/-- a `grammar_rule` pair that is not a doc comment denotes the rule `name = ty { e }`. -/
def RuleV (extras : Bool) (text : Str) (t : Tree) (r : Rule) : Prop :=
  ∃ id asg mods ob e cb, t.children = id :: asg :: (mods ++ [ob, e, cb]) ∧ kind id ≠ "line_doc" ∧
    strOf text id = some r.name.toList ∧ ModV mods r.ty ∧ kind ob = "opening_brace" ∧ ExprV extras text e.children r.expr

/-- the top-level pairs denote the rules: doc comments and `EOI` are skipped. -/
inductive RulesV (extras : Bool) (text : Str) : List Tree → List Rule → Prop
  | nil : RulesV extras text [] []
  | other {t : Tree} {ts : List Tree} {rs : List Rule} : kind t ≠ "grammar_rule" → RulesV extras text ts rs →
      RulesV extras text (t :: ts) rs
  | doc {t c : Tree} {cs ts : List Tree} {rs : List Rule} : kind t = "grammar_rule" → t.children = c :: cs →
      kind c = "line_doc" → RulesV extras text ts rs → RulesV extras text (t :: ts) rs
  | rule {t : Tree} {ts : List Tree} {r : Rule} {rs : List Rule} : kind t = "grammar_rule" → RuleV extras text t r →
      RulesV extras text ts rs → RulesV extras text (t :: ts) (r :: rs)

theorem modV_modifierOf {mods : List Tree} {ty : RuleType} (h : ModV mods ty) :
    (mods = [] ∧ ty = .normal) ∨ ∃ m, mods = [m] ∧ modifierOf (kind m) = some ty := by
  rcases h with h | ⟨m, rfl, hm⟩
  · exact .inl h
  · exact .inr ⟨m, rfl, by rcases hm with ⟨h, rfl⟩ | ⟨h, rfl⟩ | ⟨h, rfl⟩ | ⟨h, rfl⟩ <;> simp [h, modifierOf]⟩

theorem exprV_ne_nil {extras : Bool} {text : Str} {ps : List Tree} {e : Expr} (h : ExprV extras text ps e) : ps ≠ [] := by
  cases h with
  | mk lead t0 rest x0 xs _ _ _ _ => simp

theorem exprV_dropLead {extras : Bool} {text : Str} {ps : List Tree} {e : Expr} (h : ExprV extras text ps e) :
    ExprV extras text (dropLead ps) e := by
  cases h with
  | mk lead t0 rest x0 xs hl h0 hu0 hr =>
    rw [dropLead_lead hl h0]
    simpa using ExprV.mk (extras := extras) (text := text) [] t0 rest x0 xs (Or.inl rfl) h0 hu0 hr

theorem consumeRule_value {extras : Bool} {text : Str} {fuel : Nat} {t : Tree} {r : Rule} (h : RuleV extras text t r)
    (hfit : t.size ≤ fuel) : consumeRule extras text fuel t = some r := by
  obtain ⟨id, asg, mods, ob, e, cb, hc, _, hs, hm, hob, he⟩ := h
  have hd := exprV_dropLead he
  have hsz := fit_body (t := t) (e := e) (by rw [hc]; rcases hm with ⟨rfl, _⟩ | ⟨m, rfl, _⟩ <;> simp) hfit
  have parts := ruleParts_shape hc hob (modV_modifierOf hm) hs (exprV_ne_nil he)
  rw [String.ofList_toList] at parts
  simp only [consumeRule, parts]
  rw [(reads_value extras text fuel).1 _ _ hd hsz]
  rfl

theorem consumeRulesGo_value {extras : Bool} {text : Str} {fuel : Nat} {ts : List Tree} {rs : List Rule}
    (h : RulesV extras text ts rs) (hfit : ∀ t ∈ ts, t.size ≤ fuel) : consumeRulesGo extras text fuel ts = some rs := by
  induction h with
  | nil => rfl
  | other hk _ ih => simp only [consumeRulesGo, hk, if_false]; exact ih (fun t ht => hfit t (by simp [ht]))
  | doc hk hc hd _ ih =>
    simp only [consumeRulesGo, hk, if_true, hc, hd]
    exact ih (fun t ht => hfit t (by simp [ht]))
  | @rule t ts r rs hk hr _ ih =>
    have hcr := consumeRule_value hr (hfit t (by simp))
    obtain ⟨id, asg, mods, ob, e, cb, hc, hnl, _⟩ := hr
    simp only [consumeRulesGo, hk, if_true, hc, hnl, if_false]
    rw [hcr, ih (fun t ht => hfit t (by simp [ht]))]

/-- **`consume_rules` returns the rules the pairs denote** (when `validate_ast` has nothing to report about them). -/
theorem consumeRules_value (extras : Bool) (text : Str) (forest : List Tree) (rs : List Rule)
    (h : RulesV extras text forest rs) (hv : PestModel.V.validateAst extras rs = []) :
    consumeRules extras text forest = some rs := by
  rw [consumeRules_iff]
  refine ⟨?_, hv⟩
  unfold consumeRulesWithSpans
  exact consumeRulesGo_value h (fun t ht => by have := size_le_of_mem ht; omega)

end PestModel.ReaderValue
