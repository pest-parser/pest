import PestModel.Lemmas.RefValid
/-! The skip law (atomic mode, valid positions). -/
namespace PestModel.Ref
open PestModel.G
open PestModel.LineCol (Str bLen cLen splitAt?)
open PestModel.Views (Tree)
open PestModel.PS (Atomicity CharSet restAt asciiLower eqIgnoreAsciiCase normalizeIndex restAt_advance)

theorem rule?_of_lookup {c : Ctx} {name : String} {body : Expr} (h : lookupExpr c.rules name = some body) :
    ∃ id r, c.rule? name = some (id, r) ∧ r.expr = body := by
  unfold lookupExpr at h
  rw [Option.map_eq_some_iff] at h
  obtain ⟨r, h1, h2⟩ := h
  obtain ⟨id, hid⟩ := rule?_of_find h1
  exact ⟨id, r, hid, h2⟩

theorem emitsFor_la_true (ty : RuleType) (m : Atomicity) : emitsFor ty m true = false := by
  cases ty <;> simp [emitsFor]

theorem valCa_la_true {c : Ctx} {name : String} {id : Nat} {r : Rule} (h : c.rule? name = some (id, r))
    (m : Atomicity) (s : St) : valCa c m true name s = val c (bodyMode r.name r.ty m) true r.expr s := by
  rw [valCa_unfold, h]
  simp only [emitsFor_la_true]
  cases val c (bodyMode r.name r.ty m) true r.expr s <;> simp

/-- under a predicate, `e` succeeds (without pairs) iff one of the strings `own` is a prefix. -/
def LitSpec (c : Ctx) (e : Expr) (own : List Str) : Prop :=
  ∀ m s rest, restAt c.input s.pos = some rest →
    (own.any (·.isPrefixOf rest) = true → ∃ s', val c m true e s = .ok s' []) ∧
    (own.any (·.isPrefixOf rest) = false → val c m true e s = .fail)

theorem litSpec_ident {c : Ctx} {name : String} {body : Expr} {own : List Str}
    (hl : lookupExpr c.rules name = some body) (hb : LitSpec c body own) : LitSpec c (.ident name) own := by
  obtain ⟨id, r, h1, h2⟩ := rule?_of_lookup hl
  intro m s rest hr
  rw [val_ident, valCa_la_true h1, h2]
  exact hb _ s rest hr

theorem litSpec_str (c : Ctx) (x : Str) : LitSpec c (.str x) [x] := by
  intro m s rest hr
  rw [val_str, lit_eq hr]
  simp only [List.any_cons, List.any_nil, Bool.or_false]
  constructor
  · intro h; rw [if_pos h]; exact ⟨_, rfl⟩
  · intro h; rw [if_neg (by simp [h])]

theorem litSpec_choice {c : Ctx} {a b : Expr} {owna ownb : List Str} (ha : LitSpec c a owna) (hb : LitSpec c b ownb) :
    LitSpec c (.choice a b) (owna ++ ownb) := by
  intro m s rest hr
  rw [val_choice]
  simp only [List.any_append]
  obtain ⟨a1, a2⟩ := ha m s rest hr
  obtain ⟨b1, b2⟩ := hb m s rest hr
  cases hA : owna.any (·.isPrefixOf rest)
  · rw [a2 hA]
    simp only [Bool.false_or]
    exact ⟨b1, b2⟩
  · obtain ⟨s', hs'⟩ := a1 hA
    rw [hs']
    simp

/-- `rules0` (the rules used for inlining) and the rules of `c` agree on every rule body that
`populate_choices` inlines. -/
def InlAgree (rules0 : List Rule) (c : Ctx) : Prop :=
  ∀ name body own, lookupExpr rules0 name = some body → Pop rules0 body own → lookupExpr c.rules name = some body

theorem inlAgree_self (c : Ctx) : InlAgree c.rules c := fun _ _ _ h _ => h

theorem litSpec_of_pop {c : Ctx} {rules0 : List Rule} (hA : InlAgree rules0 c) {e : Expr} {own : List Str}
    (h : Pop rules0 e own) : LitSpec c e own := by
  induction h with
  | str s => exact litSpec_str c s
  | ident hl hp ih => exact litSpec_ident (hA _ _ _ hl hp) ih
  | choiceStr s _ ih => exact litSpec_choice (litSpec_str c s) ih
  | choiceIdent hl hp _ ih1 ih2 => exact litSpec_choice (litSpec_ident (hA _ _ _ hl hp) ih1) ih2

theorem builtin_any (c : Ctx) m la s : builtin c m la "ANY" s = oneChar c s (fun _ => true) := rfl

theorem rule?_none_of_has {c : Ctx} {name : String} (h : c.has name = false) : c.rule? name = none := by
  unfold Ctx.has at h
  cases hr : c.rule? name
  · rfl
  · rw [hr] at h; simp at h

def anyStep (s : St) : Str → Res
  | [] => .fail
  | ch :: _ => .ok { s with pos := s.pos + cLen ch } []

/-- one step `!inner ~ ANY`. -/
theorem val_skipStep {c : Ctx} {inner : Expr} {strs : List Str} (hany : c.has "ANY" = false)
    (hi : LitSpec c inner strs) (la : Bool) (s : St) (rest : Str) (hr : restAt c.input s.pos = some rest) :
    val c .atomic la (.seq (.negPred inner) (.ident "ANY")) s =
      if strs.any (·.isPrefixOf rest) then .fail else anyStep s rest := by
  rw [val_seq, val_negPred]
  obtain ⟨h1, h2⟩ := hi .atomic s rest hr
  cases hA : strs.any (·.isPrefixOf rest)
  · rw [h2 hA]
    simp only [Bool.false_eq_true, if_false]
    simp only [valK_atomic _ _ _ _ (show Atomicity.atomic ≠ .nonAtomic by decide), val_ident, valCa_unfold,
      rule?_none_of_has hany, builtin_any, oneChar, hr]
    cases rest <;> simp [anyStep]
  · obtain ⟨s', hs'⟩ := h1 hA
    rw [hs']
    simp

theorem valL_skip {c : Ctx} {inner : Expr} {strs : List Str} (hany : c.has "ANY" = false)
    (hi : LitSpec c inner strs) (la : Bool) (rest : Str) :
    ∀ (s : St) (acc : List Tree), restAt c.input s.pos = some rest →
      valL c .atomic la (.seq (.negPred inner) (.ident "ANY")) s acc =
        .ok { s with pos := search strs rest s.pos } acc := by
  induction rest with
  | nil =>
    intro s acc hr
    rw [valL_unfold, valK_atomic _ _ _ _ (by decide)]
    simp only []
    rw [val_skipStep hany hi la s [] hr]
    simp [search, anyStep]
  | cons ch cs ih =>
    intro s acc hr
    rw [valL_unfold, valK_atomic _ _ _ _ (by decide)]
    simp only []
    rw [val_skipStep hany hi la s (ch :: cs) hr]
    cases hA : strs.any (·.isPrefixOf (ch :: cs))
    · simp only [Bool.false_eq_true, if_false, List.append_nil, anyStep]
      have hr' : restAt c.input (s.pos + cLen ch) = some cs := by
        have := restAt_advance (pre := [ch]) (post := cs) hr rfl
        simpa using this
      rw [ih { s with pos := s.pos + cLen ch } acc hr']
      simp [search, hA]
    · simp [search, hA]

theorem skip_law' {c : Ctx} {rules0 : List Rule} (hA : InlAgree rules0 c) {fuel : Nat} {inner : Expr}
    {strs : List Str} (hany : c.has "ANY" = false)
    (h : populateChoices rules0 fuel inner [] = some (.skip strs)) :
    EqOn (Valid c) c .atomic (.rep (.seq (.negPred inner) (.ident "ANY"))) (.skip strs) := by
  obtain ⟨own, h1, hp⟩ := populate_pop rules0 _ _ _ _ h
  simp only [Expr.skip.injEq, List.nil_append] at h1
  subst h1
  have hi := litSpec_of_pop hA hp
  intro la s hs
  unfold Valid at hs
  rw [Option.isSome_iff_exists] at hs
  obtain ⟨rest, hr⟩ := hs
  rw [val_rep, val_skip, hr, val_skipStep hany hi la s rest hr]
  cases hA : strs.any (·.isPrefixOf rest)
  · cases rest with
    | nil => simp [search, anyStep]
    | cons ch cs =>
      simp only [Bool.false_eq_true, if_false, anyStep]
      have hr' : restAt c.input (s.pos + cLen ch) = some cs := by
        have := restAt_advance (pre := [ch]) (post := cs) hr rfl
        simpa using this
      rw [valL_skip hany hi la cs { s with pos := s.pos + cLen ch } [] hr']
      simp [search, hA]
  · cases rest with
    | nil => simp [search]
    | cons ch cs => simp [search, hA]

theorem skip_law {c : Ctx} {fuel : Nat} {inner : Expr} {strs : List Str} (hany : c.has "ANY" = false)
    (h : populateChoices c.rules fuel inner [] = some (.skip strs)) :
    EqOn (Valid c) c .atomic (.rep (.seq (.negPred inner) (.ident "ANY"))) (.skip strs) :=
  skip_law' (inlAgree_self c) hany h

theorem populate_is_skip (rules : List Rule) (fuel : Nat) (e : Expr) (ch : List Str) (res : Expr)
    (h : populateChoices rules fuel e ch = some res) : ∃ strs, res = .skip strs :=
  let ⟨_, h, _⟩ := populate_pop rules fuel e ch res h
  ⟨_, h⟩

/-- the local rewrite of the `skip` pass preserves meaning in atomic mode (on valid states). -/
theorem skipF_eqOn {c : Ctx} {rules0 : List Rule} (hA : InlAgree rules0 c) (hany : c.has "ANY" = false) (x : Expr) :
    EqOn (Valid c) c .atomic x (skipF rules0 x) := by
  unfold skipF
  split
  · split
    · rename_i inner x' heq
      obtain ⟨strs, rfl⟩ := populate_is_skip _ _ _ _ _ heq
      split
      · exact EqOn.refl _
      · exact skip_law' hA hany heq
    · exact EqOn.refl _
  · exact EqOn.refl _

end PestModel.Ref
