import PestModel.Lemmas.GenVmRun
import PestModel.Lemmas.VmRefComb
/-! C01 (termination): termination combinators. `Term cfg p st`: the run of `p` from `st`
reaches a definite outcome with enough fuel. `TermS … p m la Dn`: it does so from every state related
to a reference state on which the reference function `Dn` (at some fuel level) is definite. -/
namespace PestModel.VmRef
open PestModel.G PestModel.PS PestModel.Lower PestModel.Ref PestModel.Views PestModel.Track
open PestModel.GenVm (Ev Good Pol KOK Br ev_comb_go ev_comb_stop ev_repLoop_ok ev_repLoop_err ev_repLoop_panic ev_call
  ev_call_none ev_bracket br_rule ruleK_ok)
open PestModel.RefTrace (LA)
open PestModel.LineCol (Str isBoundary bLen cLen splitAt? slice?)

def Term (cfg : Cfg) (p : Prog) (st : PState) : Prop := ∃ F, run cfg F p st ≠ .fuel

def TermS (cfg : Cfg) (input : Str) (p : Prog) (m : Atomicity) (la : LA) (Dn : St → Res) : Prop :=
  ∀ st σ, SimT input m la st σ → Dn σ ≠ .fuel → Term cfg p st

variable {cfg : Cfg} {input : Str}

theorem terminal_ne_fuel (s : PState) (r : Option (Bool × Nat)) (tok : Option PTok) :
    terminal s r tok ≠ .fuel := by
  unfold terminal
  split
  · simp
  · dsimp only; split <;> simp

/-- a program without sub-programs answers at fuel 1: no clause of `run` for it recurses. -/
theorem leaf_simple (p : Prog) (hp : simple p) (st : PState) : run cfg 1 p st ≠ .fuel := by
  cases p <;> simp only [simple] at hp <;> rw [run]
  all_goals first | exact terminal_ne_fuel _ _ _ | skip
  all_goals (repeat' (first | split | (dsimp only; split)))
  all_goals simp

theorem term_leaf {p : Prog} {st : PState} (hp : simple p := by trivial) : Term cfg p st :=
  ⟨1, leaf_simple p hp st⟩

theorem _root_.PestModel.GenVm.Ev.term {p : Prog} {st : PState} {o : Out} (h : Ev cfg p st o) : Term cfg p st :=
  h.elim fun F ⟨e, ho⟩ => ⟨F, e ▸ ho⟩

/-- the rules below are the `ev_*` rules of `GenVmRun` with the outcome forgotten. -/
theorem term_iff {p : Prog} {st : PState} : Term cfg p st ↔ ∃ o, Ev cfg p st o :=
  ⟨fun ⟨_, h⟩ => ⟨_, .of_run h⟩, fun ⟨_, h⟩ => h.term⟩

/-- `and_then` (`π = .ok`) and `or_else` (`π = .err`): the second program runs from wherever the first ends
with the outcome that continues. -/
theorem term_comb (π : Pol) {p q : Prog} {st : PState} (h1 : Term cfg p st)
    (h2 : ∀ F st1, run cfg F p st = π.mk st1 → Term cfg q st1) : Term cfg (π.comb p q) st := by
  obtain ⟨F, hF⟩ := h1
  cases hs : π.sel (run cfg F p st) with
  | none => exact (ev_comb_stop π (.of_run hF) hs).term
  | some st1 =>
    have hr := Pol.sel_some hs
    obtain ⟨_, h2⟩ := h2 F st1 hr
    exact (ev_comb_go π ⟨F, hr, π.mk_ne_fuel st1⟩ (.of_run h2)).term

theorem term_andThen {p q : Prog} {st : PState} (h1 : Term cfg p st)
    (h2 : ∀ F st1, run cfg F p st = .ok st1 → Term cfg q st1) : Term cfg (.andThen p q) st :=
  term_comb .ok h1 h2

theorem term_orElse {p q : Prog} {st : PState} (h1 : Term cfg p st)
    (h2 : ∀ F st1, run cfg F p st = .err st1 → Term cfg q st1) : Term cfg (.orElse p q) st :=
  term_comb .err h1 h2

theorem term_repLoop {p : Prog} {st : PState} (h1 : Term cfg p st)
    (h2 : ∀ F st1, run cfg F p st = .ok st1 → Term cfg (.repLoop p) st1) : Term cfg (.repLoop p) st := by
  obtain ⟨F, hF⟩ := h1
  cases hr : run cfg F p st with
  | ok st1 =>
    obtain ⟨_, h2⟩ := h2 F st1 hr
    exact (ev_repLoop_ok ⟨F, hr, nofun⟩ (.of_run h2)).term
  | err st1 => exact (ev_repLoop_err ⟨F, hr, nofun⟩).term
  | panic => exact (ev_repLoop_panic ⟨F, hr, nofun⟩).term
  | fuel => exact absurd hr hF

theorem term_call {i : Nat} {st : PState} (h : ∀ p, cfg.env[i]? = some p → Term cfg p st) :
    Term cfg (.call i) st := by
  cases hi : cfg.env[i]? with
  | none => exact (ev_call_none hi).term
  | some p => exact (h p hi).elim fun _ hF => (ev_call hi (.of_run hF)).term

/-- a bracketing combinator, or `rule`, reaches a definite outcome when its body does. -/
theorem term_br {X P : Prog} {pre : PState → PState} {K : PState → Out → Out} (hrun : Br cfg X P pre K)
    (hK : KOK K) {st : PState} (hg : Good st) (h : Term cfg P (pre st)) : Term cfg X st :=
  h.elim fun _ hF => (ev_bracket hrun hK hg (.of_run hF)).term

theorem term_shape {X body : Prog} {inc : Bool} {pre : PState → PState} {K : PState → Out → Out}
    (h : Shape X inc body pre K) {st : PState} (hg : Good st) (hb : Term cfg body (pre st)) : Term cfg X st :=
  term_br h.br h.kok hg hb

theorem term_rule {r : Nat} {p : Prog} {st : PState} (hg : Good st)
    (h : Term cfg p (rulePre st)) : Term cfg (.rule r p) st :=
  term_br (br_rule r p) (ruleK_ok r) hg h

theorem Sim.good {m : Atomicity} {la : Bool} {st : PState} {σ : St}
    (hs : Sim input m la st σ) : Good st := ⟨hs.wf, hs.calls⟩

variable {m : Atomicity} {la : LA}

theorem tS_andThen {p q : Prog} {D1n D1 D2n : St → Res} {T1}
    (t1 : TermS cfg input p m la D1n) (s1 : ∀ k, SpecT cfg input (k + 1) p m la D1 T1)
    (a1 : ∀ σ, D1n σ ≠ .fuel → D1n σ = D1 σ) (t2 : TermS cfg input q m la D2n) :
    TermS cfg input (.andThen p q) m la (seqD D1n D2n) := by
  intro st σ hs hd
  have h1 : D1n σ ≠ .fuel := by
    intro h; apply hd; simp [seqD, h]
  refine term_andThen (t1 st σ hs h1) fun F st1 hr => ?_
  obtain ⟨σ1, f1, -, hD, -, hp, hk, -⟩ := ((s1 F).anti (Nat.le_succ F)).ok hs hr
  have hs1 := hs.next_ok hr hp hk
  refine t2 st1 σ1 hs1 fun h => ?_
  apply hd
  simp [seqD, a1 σ h1, hD, h]

theorem tS_orElse {p q : Prog} {D1n D1 D2n : St → Res} {T1}
    (t1 : TermS cfg input p m la D1n) (hc : ∀ k, GenVm.ErrSpecN cfg k p False)
    (s1 : ∀ k, SpecT cfg input (k + 1) p m la D1 T1)
    (a1 : ∀ σ, D1n σ ≠ .fuel → D1n σ = D1 σ) (t2 : TermS cfg input q m la D2n) :
    TermS cfg input (.orElse p q) m la (altD D1n D2n) := by
  intro st σ hs hd
  have h1 : D1n σ ≠ .fuel := by
    intro h; apply hd; simp [altD, h]
  refine term_orElse (t1 st σ hs h1) fun F st1 hr => ?_
  obtain ⟨hD, -⟩ := ((s1 F).anti (Nat.le_succ F)).err hs hr
  have hs1 := (hs.next_clean (hc F) (Nat.le_refl F) hr).1
  refine t2 st1 σ hs1 fun h => ?_
  apply hd
  simp [altD, a1 σ h1, hD, h]

theorem tS_sequence {p : Prog} {Dn : St → Res} (t : TermS cfg input p m la Dn) :
    TermS cfg input (.sequence p) m la Dn :=
  fun _ σ hs hd => term_shape (.sequence _) hs.good (t _ σ hs.checkpoint hd)

theorem tS_restoreOnErr {p : Prog} {Dn : St → Res} (t : TermS cfg input p m la Dn) :
    TermS cfg input (.restoreOnErr p) m la Dn :=
  fun _ σ hs hd => term_shape (.restoreOnErr _) hs.good (t _ σ hs.checkpoint hd)

theorem tS_optional {p : Prog} {Dn : St → Res} (t : TermS cfg input p m la Dn) :
    TermS cfg input (.optional p) m la (optD Dn) := by
  intro st σ hs hd
  refine term_shape (.optional _) hs.good (t st σ hs fun h => ?_)
  apply hd; simp [optD, h]

theorem tS_repeat {p : Prog} {Dn : St → Res} (t : TermS cfg input (.repLoop p) m la Dn) :
    TermS cfg input (.repeat_ p) m la Dn :=
  fun st σ hs hd => term_shape (.repeat_ _) hs.good (t st σ hs hd)

theorem tS_lookahead {p : Prog} {Dn : St → Res} (b : Bool)
    (t : TermS cfg input p m (if b then la.enterPos else la.enterNeg) Dn) :
    TermS cfg input (.lookahead b p) m la (if b then posD Dn else negD Dn) := by
  intro st σ hs hd
  refine term_shape (.lookahead b _) hs.good (t _ σ (hs.lookahead b) fun h => ?_)
  apply hd
  cases b <;> simp [posD, negD, h]

theorem tS_atomic {p : Prog} {Dn : St → Res} (a : Atomicity) (t : TermS cfg input p a la Dn) :
    TermS cfg input (.atomic a p) m la Dn :=
  fun _ σ hs hd => term_shape (.atomic a _) hs.good (t _ σ (hs.atomPre a) hd)

theorem tS_rule {p : Prog} {Dn : St → Res} (r : Nat) (emit : Bool) (t : TermS cfg input p m la Dn) :
    TermS cfg input (.rule r p) m la (ruleD r emit Dn) := by
  intro st σ hs hd
  refine term_rule hs.good (t _ σ hs.rulePre fun h => ?_)
  apply hd; simp [ruleD, h]

theorem tS_stackPush {p : Prog} {Dn : St → Res} (t : TermS cfg input p m la Dn) :
    TermS cfg input (.stackPush p) m la (pushD input Dn) := by
  intro st σ hs hd
  refine term_shape (.stackPush _) hs.good (t st σ hs fun h => ?_)
  apply hd; simp [pushD, h]

theorem tS_call {i : Nat} {p : Prog} {Dn : St → Res} (hi : cfg.env[i]? = some p)
    (t : TermS cfg input p m la Dn) : TermS cfg input (.call i) m la Dn := by
  intro st σ hs hd
  refine term_call fun q hq => ?_
  rw [hi] at hq
  cases hq
  exact t st σ hs hd

theorem tS_congr {p : Prog} {Dn Dn' : St → Res} (t : TermS cfg input p m la Dn)
    (h : ∀ σ, Dn' σ ≠ .fuel → Dn σ ≠ .fuel) : TermS cfg input p m la Dn' :=
  fun st σ hs hd => t st σ hs (h σ hd)

theorem tS_leaf {p : Prog} {Dn : St → Res} (hp : simple p := by trivial) : TermS cfg input p m la Dn :=
  fun _ _ _ _ => term_leaf hp

/-- one unfolding of a reference loop. -/
theorem tS_repLoop {p : Prog} {Un U : St → Res} {Ln : St → List Tree → Res} {T}
    (tu : TermS cfg input p m la Un) (su : ∀ k, SpecT cfg input (k + 1) p m la U T)
    (au : ∀ σ, Un σ ≠ .fuel → Un σ = U σ)
    (tl : TermS cfg input (.repLoop p) m la (fun σ => Ln σ []))
    (hacc : ∀ s acc, Ln s acc = (Ln s []).prepend acc) :
    TermS cfg input (.repLoop p) m la (fun σ => loopD Un Ln σ []) := by
  intro st σ hs hd
  have h1 : Un σ ≠ .fuel := by
    intro h; apply hd; simp [loopD, h]
  refine term_repLoop (tu st σ hs h1) fun F st1 hr => ?_
  obtain ⟨σ1, f1, -, hD, -, hp, hk, -⟩ := ((su F).anti (Nat.le_succ F)).ok hs hr
  have hs1 := hs.next_ok hr hp hk
  refine tl st1 σ1 hs1 fun h => ?_
  apply hd
  simp only [loopD, au σ h1, hD]
  rw [hacc, show Ln σ1 [] = .fuel from h]; rfl

end PestModel.VmRef
