import PestModel.Lemmas.JsonTree
import PestModel.Lemmas.VmRefD
/-!
The grammar side of `"[" ~ item ~ ("," ~ item)* ~ "]"` in a non-atomic rule:
the accumulator of the loop, the closing bracket, and the unfolding of the separator loop.
-/
namespace PestModel.Json
open PestModel.Ref PestModel.G
open PestModel.LineCol (Str cLen bLen)
open PestModel.PS (Atomicity CharSet restAt restAt_iff restAt_advance)
open PestModel.Views (Tree)

/-- prepend to the forest of a result. -/
def pre (a : List Tree) : Res → Res
  | .ok s f => .ok s (a ++ f)
  | r => r

@[simp] theorem pre_ok (a : List Tree) (s : St) (f : List Tree) : pre a (.ok s f) = .ok s (a ++ f) := rfl
@[simp] theorem pre_fail (a : List Tree) : pre a .fail = .fail := rfl
@[simp] theorem pre_stuck (a : List Tree) : pre a .stuck = .stuck := rfl
@[simp] theorem pre_fuel (a : List Tree) : pre a .fuel = .fuel := rfl

theorem pre_nil (r : Res) : pre [] r = r := by cases r <;> simp [pre]

theorem pre_pre (a b : List Tree) (r : Res) : pre a (pre b r) = pre (a ++ b) r := by
  cases r <;> simp

theorem valL_acc (c : Ctx) (m : Atomicity) (la : Bool) (e : Expr) (s : St) (a : List Tree) :
    valL c m la e s a = pre a (valL c m la e s []) :=
  (PestModel.VmRef.reg_V c).l_acc m la e s a

/-- `r ~ cl` in a non-atomic rule. -/
noncomputable def closeWith (ctx : Ctx) (cl : Char) (r : Res) : Res :=
  match r with
  | .ok s1 f1 =>
    match valK ctx .nonAtomic false s1 with
    | .ok s2 f2 =>
      match lit ctx s2 [cl] with
      | .ok s3 f3 => .ok s3 (f1 ++ f2 ++ f3)
      | r => r
    | r => r
  | r => r

theorem val_seq_close (ctx : Ctx) (x : Expr) (cl : Char) (s : St) :
    val ctx .nonAtomic false (.seq x (.str [cl])) s = closeWith ctx cl (val ctx .nonAtomic false x s) := by
  rw [val_seq]
  unfold closeWith
  cases val ctx .nonAtomic false x s with
  | ok s1 f1 =>
    simp only []
    cases valK ctx .nonAtomic false s1 with
    | ok s2 f2 =>
      simp only [val_str]
      cases lit ctx s2 [cl] <;> rfl
    | _ => rfl
  | _ => rfl

theorem closeWith_pre (ctx : Ctx) (cl : Char) (a : List Tree) (r : Res) :
    closeWith ctx cl (pre a r) = pre a (closeWith ctx cl r) := by
  cases r with
  | ok s1 f1 =>
    simp only [pre_ok, closeWith]
    cases valK ctx .nonAtomic false s1 with
    | ok s2 f2 =>
      simp only []
      cases lit ctx s2 [cl] <;> simp
    | _ => rfl
  | _ => rfl

/-- success at a cursor with the forest `F`, or failure. -/
def fRes (F : List Tree) (o : Option Cur) (stk : List Str) : Res :=
  match o with
  | some c => .ok ⟨c.pos, stk⟩ F
  | none => .fail

/-- the result of a list of items followed by the closing bracket `cl`. -/
def lRes (cl : Char) (o : Option (List JTree × Cur)) (stk : List Str) : Res :=
  match o with
  | some (ms, c2) => fRes (ms.map JT) (chL (· == cl) c2) stk
  | none => .fail

theorem lRes_preJ (cl : Char) (a : List JTree) (o : Option (List JTree × Cur)) (stk : List Str) :
    lRes cl (preJ a o) stk = pre (a.map JT) (lRes cl o stk) := by
  cases o with
  | none => rfl
  | some p =>
    obtain ⟨ms, c2⟩ := p
    simp only [preJ_some, lRes, List.map_append]
    cases chL (· == cl) c2 <;> rfl

/-- the pair of `object` / `array` around the items and the closing bracket. -/
theorem wrap_lRes {label : String} {id : Nat} (hid : ruleIdx label = id) (cl : Char) (start : Nat)
    (ms : Option (List JTree × Cur)) (stk : List Str) :
    wrap id start (lRes cl ms stk) = vRes (closeR label cl start ms) stk := by
  cases ms with
  | none => rfl
  | some p =>
    obtain ⟨l, c2⟩ := p
    simp only [lRes, closeR]
    cases chL (· == cl) c2 <;> simp [fRes, JT_node, hid]

section
variable {input : Str} {uni : String → Option CharSet}

/-- `"," ~ item` -/
def sepItem (it : String) : Expr := .seq (.str [',']) (.ident it)

theorem lit_item {c : Cur} (h : At input c) (stk : List Str) (a : Char) (it : String) :
    val (jctx input uni) .nonAtomic false (.seq (.str [a]) (.ident it)) ⟨c.pos, stk⟩ =
      match chL (· == a) c with
      | some c1 => valCa (jctx input uni) .nonAtomic false it ⟨(wsC c1).pos, stk⟩
      | none => .fail := by
  rw [val_seq, val_str, lit1_at h]
  cases hc : chL (· == a) c with
  | none => rfl
  | some c1 =>
    simp only [toRes_some]
    rw [skip_at (h.reach (chL_reach hc))]
    simp only [val_ident, List.append_nil, List.nil_append]
    cases valCa (jctx input uni) .nonAtomic false it ⟨(wsC c1).pos, stk⟩ <;> rfl

/-- the items after the first one, then the closing bracket. -/
noncomputable def moreG (input : Str) (uni : String → Option CharSet) (it : String) (cl : Char) (s : St) : Res :=
  closeWith (jctx input uni) cl (valL (jctx input uni) .nonAtomic false (sepItem it) s [])

/-- an item, more items, the closing bracket. -/
noncomputable def itemsG (input : Str) (uni : String → Option CharSet) (it : String) (cl : Char) (c : Cur) (stk : List Str) : Res :=
  match valCa (jctx input uni) .nonAtomic false it ⟨c.pos, stk⟩ with
  | .ok s1 f1 => pre f1 (moreG input uni it cl s1)
  | r => r

theorem close_at {c4 : Cur} (h : At input c4) (stk : List Str) (cl : Char) (F : List Tree) :
    closeWith (jctx input uni) cl (.ok ⟨c4.pos, stk⟩ F) = fRes F (chL (· == cl) (wsC c4)) stk := by
  unfold closeWith
  simp only []
  rw [skip_at h]
  simp only []
  rw [lit1_at (h.reach (wsC_reach c4))]
  cases chL (· == cl) (wsC c4) <;> simp [fRes]

theorem loop_unfold {c4 : Cur} (h : At input c4) (stk : List Str) (it : String) (cl : Char) (hcl : cl ≠ ',') :
    moreG input uni it cl ⟨c4.pos, stk⟩ =
      match chL (· == ',') (wsC c4) with
      | some c5 => itemsG input uni it cl (wsC c5) stk
      | none => fRes [] (chL (· == cl) (wsC c4)) stk := by
  unfold moreG
  rw [valL_unfold, skip_at h]
  simp only []
  unfold sepItem
  rw [lit_item (h.reach (wsC_reach c4))]
  cases hc : chL (· == ',') (wsC c4) with
  | none => simp only []; rw [close_at h]
  | some c5 =>
    simp only []
    unfold itemsG moreG sepItem
    cases valCa (jctx input uni) .nonAtomic false it ⟨(wsC c5).pos, stk⟩ with
    | ok s2 f2 =>
      simp only [List.append_nil, List.nil_append]
      rw [valL_acc, closeWith_pre]
    | fail =>
      simp only []
      rw [close_at h, chL_lit_ne hc hcl]
      rfl
    | stuck => rfl
    | fuel => rfl

/-- `"[" ~ item ~ ("," ~ item)* ~ "]"` -/
def listE (op cl : Char) (it : String) : Expr :=
  .seq (.seq (.seq (.str [op]) (.ident it)) (.rep (sepItem it))) (.str [cl])

/-- the first alternative of `object` / `array`, when the item parser returns at a cursor or fails. -/
theorem listE_eq {c : Cur} (h : At input c) {cs : Str} {op : Char} (hr : c.rest = op :: cs) (stk : List Str)
    (it : String) (cl : Char) (itemR : Option (JTree × Cur))
    (hit : valCa (jctx input uni) .nonAtomic false it ⟨(wsC c.adv).pos, stk⟩ = vRes itemR stk)
    (hAt : ∀ t c4, itemR = some (t, c4) → At input c4) :
    val (jctx input uni) .nonAtomic false (listE op cl it) ⟨c.pos, stk⟩ = itemsG input uni it cl (wsC c.adv) stk := by
  unfold listE itemsG
  rw [val_seq_close, val_seq, lit_item h, chL_lit hr]
  simp only []
  rw [hit]
  cases itemR with
  | none => rfl
  | some p =>
    obtain ⟨t, c4⟩ := p
    have h4 := hAt t c4 rfl
    simp only [vRes_some]
    rw [skip_at h4]
    simp only []
    unfold moreG
    rw [valL_unfold, skip_at h4]
    simp only [val_rep]
    cases val (jctx input uni) .nonAtomic false (sepItem it) ⟨(wsC c4).pos, stk⟩ with
    | ok s3 f3 =>
      simp only [List.append_nil, List.nil_append]
      rw [← closeWith_pre]
      cases valL (jctx input uni) .nonAtomic false (sepItem it) s3 f3 <;> rfl
    | fail =>
      simp only []
      rw [close_at (h4.reach (wsC_reach c4)), close_at h4, wsC_idem]
      cases chL (· == cl) (wsC c4) <;> rfl
    | stuck => rfl
    | fuel => rfl

end
end PestModel.Json
