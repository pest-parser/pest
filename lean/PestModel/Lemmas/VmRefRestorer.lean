import PestModel.Lemmas.VmRefMod
/-! C01: what the restorer pass guarantees of the optimizer's output (`GoodRules`). -/
namespace PestModel.VmRef
open PestModel.G

/-! ### `Dirty` implies `Mod` -/

theorem mem_topDown_self (extras : Bool) (e : OExpr) : e ∈ e.topDown extras := by
  cases e <;> simp [OExpr.topDown]

theorem Mod.mono {extras : Bool} {rules : List ORule} {a b : OExpr}
    (hsub : ∀ x ∈ a.topDown extras, x ∈ b.topDown extras) (h : Mod extras rules a) :
    Mod extras rules b := by
  cases h with
  | here hx hm => exact Mod.here (hsub _ hx) hm
  | there hx hl hb => exact Mod.there (hsub _ hx) hl hb

theorem lookupO_mem {rs : List ORule} {n : String} {body : OExpr} (h : lookupO rs n = some body) :
    ∃ r ∈ rs, r.expr = body := by
  unfold lookupO at h
  simp only [Option.map_eq_some_iff] at h
  obtain ⟨r, hr, rfl⟩ := h
  exact ⟨r, List.mem_of_find?_eq_some hr, rfl⟩

theorem dirty_mod (extras : Bool) (rs : List ORule) (hrs : ∀ r ∈ rs, tagsExtras extras r.expr)
    {x : OExpr} (h : Dirty rs x) : tagsExtras extras x → Mod extras rs x := by
  induction h with
  | pop => exact fun _ => Mod.here (mem_topDown_self extras _) (by simp [isModItem])
  | popAll => exact fun _ => Mod.here (mem_topDown_self extras _) (by simp [isModItem])
  | ident hl _ ih =>
    intro _
    obtain ⟨r, hr, rfl⟩ := lookupO_mem hl
    exact Mod.there (mem_topDown_self extras _) hl (ih (hrs r hr))
  | push _ _ => exact fun _ => Mod.here (mem_topDown_self extras _) (by simp [isModItem])
  | choiceL _ ih =>
    intro hx
    refine (ih ?_).mono (by intro x hx; simp [OExpr.topDown, hx])
    rcases hx with hx | hx
    · exact Or.inl hx
    · simp only [noTag, Bool.and_eq_true] at hx; exact Or.inr hx.1
  | choiceR _ ih =>
    intro hx
    refine (ih ?_).mono (by intro x hx; simp [OExpr.topDown, hx])
    rcases hx with hx | hx
    · exact Or.inl hx
    · simp only [noTag, Bool.and_eq_true] at hx; exact Or.inr hx.2
  | nodeTag _ ih =>
    intro hx
    rcases hx with hx | hx
    · subst hx
      exact (ih (Or.inl rfl)).mono (by intro x hx; simp [OExpr.topDown, hx])
    · simp [noTag] at hx

/-! ### items of a transformed expression are covered by the items of the original -/

/-- every `push` / `ident` item of `l` has a counterpart in `l0`. -/
def CovL (l l0 : List OExpr) : Prop :=
  ∀ z ∈ l, (∀ e, z = OExpr.push e → ∃ e', OExpr.push e' ∈ l0) ∧
    (∀ m, z = OExpr.ident m → OExpr.ident m ∈ l0)

theorem CovL.nil (l0 : List OExpr) : CovL [] l0 := by intro z hz; cases hz

theorem CovL.refl (l : List OExpr) : CovL l l :=
  fun _ hz => ⟨fun e h => ⟨e, h ▸ hz⟩, fun _ h => h ▸ hz⟩

theorem CovL.mono {l l0 l0' : List OExpr} (h : CovL l l0) (hs : ∀ x ∈ l0, x ∈ l0') : CovL l l0' :=
  fun z hz => ⟨fun e he => let ⟨e', h'⟩ := (h z hz).1 e he; ⟨e', hs _ h'⟩,
    fun m hm => hs _ ((h z hz).2 m hm)⟩

theorem CovL.append {l1 l2 l0 : List OExpr} (h1 : CovL l1 l0) (h2 : CovL l2 l0) :
    CovL (l1 ++ l2) l0 := by
  intro z hz
  rcases List.mem_append.1 hz with h | h
  · exact h1 z h
  · exact h2 z h

def inert : OExpr → Bool
  | .push _ | .ident _ => false
  | _ => true

theorem CovL.cons_inert {z : OExpr} {l l0 : List OExpr} (hz : inert z = true) (h : CovL l l0) :
    CovL (z :: l) l0 := by
  intro y hy
  rcases List.mem_cons.1 hy with e | hy
  · subst e
    exact ⟨fun e he => (by subst he; cases hz), fun m hm => by subst hm; cases hz⟩
  · exact h y hy

theorem CovL.cons_push {e e0 : OExpr} {l l0 : List OExpr} (h0 : OExpr.push e0 ∈ l0)
    (h : CovL l l0) : CovL (OExpr.push e :: l) l0 := by
  intro y hy
  rcases List.mem_cons.1 hy with e | hy
  · subst e; exact ⟨fun _ _ => ⟨e0, h0⟩, fun m hm => by cases hm⟩
  · exact h y hy

/-- the restorer's expression transformer. -/
abbrev T (extras : Bool) (opt : List ORule) : OExpr → OExpr :=
  omapBottomUp extras (wrapBranching extras opt)

theorem cov_T (extras : Bool) (opt : List ORule) (e : OExpr) :
    CovL ((T extras opt e).topDown extras) (e.topDown extras) := by
  induction e with
  | seq a b iha ihb =>
    simp only [T, omapBottomUp, wrapBranching, OExpr.topDown]
    refine CovL.cons_inert rfl ?_
    exact CovL.append (iha.mono (by intro x hx; simp [hx])) (ihb.mono (by intro x hx; simp [hx]))
  | choice a b iha ihb =>
    simp only [T, omapBottomUp, wrapBranching, OExpr.topDown]
    refine CovL.cons_inert rfl ?_
    refine CovL.append ?_ ?_
    · split
      · exact CovL.cons_inert rfl (CovL.nil _)
      · exact iha.mono (by intro x hx; simp [hx])
    · split
      · exact CovL.cons_inert rfl (CovL.nil _)
      · exact ihb.mono (by intro x hx; simp [hx])
  | posPred e ih | negPred e ih =>
    simp only [T, omapBottomUp, wrapBranching, OExpr.topDown]
    refine CovL.cons_inert rfl ?_
    exact ih.mono (by intro x hx; simp [hx])
  | rep e ih | opt e ih =>
    simp only [T, omapBottomUp, wrapBranching]
    split
    · simp only [OExpr.topDown]
      refine CovL.cons_inert rfl ?_
      exact CovL.cons_inert rfl (CovL.nil _)
    · simp only [OExpr.topDown]
      refine CovL.cons_inert rfl ?_
      exact ih.mono (by intro x hx; simp [hx])
  | push e ih =>
    simp only [T, omapBottomUp, wrapBranching, OExpr.topDown]
    refine CovL.cons_push (e0 := e) (by simp) ?_
    exact ih.mono (by intro x hx; simp [hx])
  | repOnce e ih =>
    cases extras
    · simp only [T, omapBottomUp, wrapBranching, OExpr.topDown]
      exact CovL.refl _
    · simp only [T, omapBottomUp, wrapBranching, OExpr.topDown, if_true]
      refine CovL.cons_inert rfl ?_
      exact ih.mono (by intro x hx; simp [hx])
  | nodeTag e t ih =>
    cases extras
    · simp only [T, omapBottomUp, wrapBranching, OExpr.topDown]
      exact CovL.refl _
    · simp only [T, omapBottomUp, wrapBranching, OExpr.topDown, if_true]
      refine CovL.cons_inert rfl ?_
      exact ih.mono (by intro x hx; simp [hx])
  | _ =>
    simp only [T, omapBottomUp, wrapBranching]
    exact CovL.refl _

/-! ### rule lookup in the restorer's output -/

/-- the restorer's transformer of the body of the rule named `n` (a `WHITESPACE`/`COMMENT` body that
modifies the stack is wrapped as a whole). -/
def TR (extras : Bool) (opt : List ORule) (n : String) (e : OExpr) : OExpr :=
  if (n = "WHITESPACE" ∨ n = "COMMENT") ∧ modifies extras opt (T extras opt e) = true
  then .restoreOnErr (T extras opt e) else T extras opt e

theorem restoreOnErr_expr (extras : Bool) (opt : List ORule) (r : ORule) :
    (restoreOnErr extras opt r).expr = TR extras opt r.name r.expr := rfl

theorem cov_TR (extras : Bool) (opt : List ORule) (n : String) (e : OExpr) :
    CovL ((TR extras opt n e).topDown extras) (e.topDown extras) := by
  unfold TR
  split
  · simp only [OExpr.topDown]
    exact CovL.cons_inert rfl (CovL.nil _)
  · exact cov_T extras opt e

theorem lookupO_map_restore (extras : Bool) (opt' : List ORule) (opt : List ORule) (n : String) :
    lookupO (opt.map (restoreOnErr extras opt')) n = (lookupO opt n).map (TR extras opt' n) := by
  induction opt with
  | nil => rfl
  | cons r rs ih =>
    unfold lookupO at ih ⊢
    by_cases h : r.name = n
    · have h' : (restoreOnErr extras opt' r).name = n := h
      simp only [List.map_cons, List.find?_cons, h', h, decide_true, Option.map_some, restoreOnErr_expr]
    · have h' : ¬ (restoreOnErr extras opt' r).name = n := h
      simpa only [List.map_cons, List.find?_cons, h', h, decide_false] using ih

/-- reachability in the restorer's output implies reachability in its input. -/
theorem mod_rs_opt (extras : Bool) (opt : List ORule) {y : OExpr}
    (h : Mod extras (opt.map (restoreOnErr extras opt)) y) :
    ∀ y0, CovL (y.topDown extras) (y0.topDown extras) → Mod extras opt y0 := by
  induction h with
  | @here e x hx hm =>
    intro y0 hc
    cases x with
    | push e1 =>
      obtain ⟨e', he'⟩ := (hc _ hx).1 e1 rfl
      exact Mod.here he' (by simp [isModItem])
    | ident m => exact Mod.here ((hc _ hx).2 m rfl) hm
    | _ => simp [isModItem] at hm
  | @there e n body hx hl _ ih =>
    intro y0 hc
    rw [lookupO_map_restore] at hl
    cases hl0 : lookupO opt n with
    | none => rw [hl0] at hl; cases hl
    | some body0 =>
      rw [hl0] at hl
      cases hl
      exact Mod.there ((hc _ hx).2 n rfl) hl0 (ih body0 (cov_TR extras opt n body0))

theorem not_dirty_of_modifies (extras : Bool) (opt : List ORule)
    (hrs : ∀ r ∈ opt.map (restoreOnErr extras opt), tagsExtras extras r.expr) (y : OExpr)
    (hy : tagsExtras extras y)
    (h : modifies extras opt y = false) : ¬ Dirty (opt.map (restoreOnErr extras opt)) y := by
  intro hd
  exact modifies_sound extras opt y h
    (mod_rs_opt extras opt (dirty_mod extras _ hrs hd hy) y (CovL.refl _))

/-! ### well-formedness of `toOptimized`'s output -/

/-- no `restoreOnErr`; `repOnce` only with `grammar-extras`. -/
def wf (extras : Bool) : OExpr → Bool
  | .posPred e | .negPred e | .opt e | .rep e | .push e | .nodeTag e _ => wf extras e
  | .seq a b | .choice a b => wf extras a && wf extras b
  | .repOnce e => extras && wf extras e
  | .restoreOnErr _ => false
  | _ => true

theorem toOptimized_wf (extras : Bool) (e : Expr) :
    ∀ o, toOptimized extras e = some o → wf extras o = true := by
  induction e with
  | posPred e ih | negPred e ih | opt e ih | rep e ih | push e ih =>
    intro o h
    simp only [toOptimized, Option.map_eq_some_iff] at h
    obtain ⟨a, ha, rfl⟩ := h
    simpa [wf] using ih a ha
  | nodeTag e t ih =>
    intro o h
    simp only [toOptimized, Option.map_eq_some_iff] at h
    obtain ⟨a, ha, rfl⟩ := h
    simpa [wf] using ih a ha
  | seq a b iha ihb | choice a b iha ihb =>
    intro o h
    simp only [toOptimized, Option.bind_eq_some_iff, Option.map_eq_some_iff] at h
    obtain ⟨a', ha, b', hb, rfl⟩ := h
    simp [wf, iha a' ha, ihb b' hb]
  | repOnce e ih =>
    intro o h
    cases extras
    · simp [toOptimized] at h
    · simp only [toOptimized, if_true, Option.map_eq_some_iff] at h
      obtain ⟨a, ha, rfl⟩ := h
      simpa [wf] using ih a ha
  | repExact _ _ | repMin _ _ | repMax _ _ | repMinMax _ _ _ =>
    intro o h; simp [toOptimized] at h
  | _ =>
    intro o h
    simp only [toOptimized, Option.some.injEq] at h
    subst h; rfl

theorem mapM_option_mem {α β : Type} (f : α → Option β) :
    ∀ (l : List α) (l' : List β), l.mapM f = some l' → ∀ b ∈ l', ∃ a ∈ l, f a = some b
  | [], l', h, b, hb => by
    simp only [List.mapM_nil] at h
    cases h; cases hb
  | a :: as, l', h, b, hb => by
    simp only [List.mapM_cons, Option.bind_eq_bind, Option.bind_eq_some_iff] at h
    obtain ⟨b0, hfa, bs, hr, h⟩ := h
    cases h
    rcases List.mem_cons.1 hb with rfl | hb
    · exact ⟨a, List.mem_cons_self, hfa⟩
    · obtain ⟨a', ha', h'⟩ := mapM_option_mem f as bs hr b hb
      exact ⟨a', List.mem_cons_of_mem _ ha', h'⟩

/-! ### `GoodE` of the transformed expressions -/

theorem noTag_wrap (extras : Bool) (opt : List ORule) (x : OExpr) :
    noTag (wrapBranching extras opt x) = noTag x := by
  cases x <;> simp only [wrapBranching] <;> (repeat' split) <;> simp [noTag]

/-- the restorer adds `restoreOnErr` nodes only: tags stay where they are. -/
theorem noTag_T (extras : Bool) (opt : List ORule) (e : OExpr) : noTag (T extras opt e) = noTag e := by
  induction e with
  | seq a b iha ihb | choice a b iha ihb =>
    simp only [T, omapBottomUp] at iha ihb ⊢
    rw [noTag_wrap]; simp [noTag, iha, ihb]
  | posPred e ih | negPred e ih | rep e ih | opt e ih | push e ih =>
    simp only [T, omapBottomUp] at ih ⊢
    rw [noTag_wrap]; simp [noTag, ih]
  | repOnce e ih | nodeTag e t ih =>
    simp only [T, omapBottomUp] at ih ⊢
    cases extras <;> simp [noTag_wrap, noTag, ih]
  | _ => simp only [T, omapBottomUp]; rw [noTag_wrap]

theorem tagsExtras_T {extras : Bool} {opt : List ORule} {e : OExpr} :
    tagsExtras extras (T extras opt e) ↔ tagsExtras extras e := by
  unfold tagsExtras; rw [noTag_T]

theorem goodE_T (extras : Bool) (opt : List ORule)
    (hrs : ∀ r ∈ opt.map (restoreOnErr extras opt), tagsExtras extras r.expr)
    (e0 : OExpr) (hwf : wf extras e0 = true) (ht : tagsExtras extras e0) :
    GoodE extras (opt.map (restoreOnErr extras opt)) (T extras opt e0) := by
  induction e0 with
  | seq a b iha ihb =>
    simp only [wf, Bool.and_eq_true] at hwf
    have ht' : tagsExtras extras a ∧ tagsExtras extras b := by
      simpa [tagsExtras, noTag, or_and_left] using ht
    simp only [T, omapBottomUp, wrapBranching]
    exact ⟨iha hwf.1 ht'.1, ihb hwf.2 ht'.2⟩
  | choice a b iha ihb =>
    simp only [wf, Bool.and_eq_true] at hwf
    have ht' : tagsExtras extras a ∧ tagsExtras extras b := by
      simpa [tagsExtras, noTag, or_and_left] using ht
    have ga := iha hwf.1 ht'.1
    have gb := ihb hwf.2 ht'.2
    simp only [T, omapBottomUp, wrapBranching, GoodE]
    refine ⟨?_, ?_, ?_⟩
    · split
      · intro hd; cases hd
      · rename_i hm
        exact not_dirty_of_modifies extras opt hrs _ (tagsExtras_T.2 ht'.1) (by simpa using hm)
    · split
      · exact ga
      · exact ga
    · split
      · exact gb
      · exact gb
  | posPred e ih | negPred e ih | push e ih =>
    simp only [T, omapBottomUp, wrapBranching]
    exact ih hwf ht
  | rep e ih | opt e ih =>
    have g := ih hwf ht
    simp only [T, omapBottomUp, wrapBranching]
    split
    · exact ⟨(by intro hd; cases hd), g⟩
    · rename_i hm
      exact ⟨not_dirty_of_modifies extras opt hrs _ (tagsExtras_T.2 ht) (by simpa using hm), g⟩
  | repOnce e ih =>
    simp only [wf, Bool.and_eq_true] at hwf
    obtain ⟨hex, hwf⟩ := hwf
    subst hex
    simp only [T, omapBottomUp, wrapBranching, if_true]
    exact ⟨rfl, ih hwf (Or.inl rfl)⟩
  | nodeTag e t ih =>
    cases extras with
    | false => simp [tagsExtras, noTag] at ht
    | true =>
      simp only [T, omapBottomUp, wrapBranching, if_true]
      exact ih hwf (Or.inl rfl)
  | restoreOnErr e ih => simp [wf] at hwf
  | _ => simp [T, omapBottomUp, wrapBranching, GoodE]

theorem tagsExtras_TR {extras : Bool} {opt : List ORule} {n : String} {e : OExpr}
    (h : tagsExtras extras (TR extras opt n e)) : tagsExtras extras (T extras opt e) := by
  unfold TR at h
  split at h
  · rcases h with h | h
    · exact Or.inl h
    · exact Or.inr (by simpa [noTag] using h)
  · exact h

theorem goodE_TR (extras : Bool) (opt : List ORule)
    (hrs : ∀ r ∈ opt.map (restoreOnErr extras opt), tagsExtras extras r.expr)
    (n : String) (e0 : OExpr) (hwf : wf extras e0 = true)
    (ht : tagsExtras extras (TR extras opt n e0)) :
    GoodE extras (opt.map (restoreOnErr extras opt)) (TR extras opt n e0) := by
  have g := goodE_T extras opt hrs e0 hwf (tagsExtras_T.1 (tagsExtras_TR ht))
  unfold TR
  split
  · exact g
  · exact g

/-- after the restorer the body of `WHITESPACE` / `COMMENT` cannot fail dirty: it is either wrapped in
`restore_on_err` as a whole, or the restorer's analysis says it does not touch the stack. -/
theorem not_dirty_wscm (extras : Bool) (opt : List ORule)
    (hrs : ∀ r ∈ opt.map (restoreOnErr extras opt), tagsExtras extras r.expr)
    (n : String) (hn : n = "WHITESPACE" ∨ n = "COMMENT") :
    ¬ Dirty (opt.map (restoreOnErr extras opt)) (.ident n) := by
  intro hd
  cases hd with
  | pop => rcases hn with h | h <;> simp at h
  | popAll => rcases hn with h | h <;> simp at h
  | @ident _ body hl hb =>
    obtain ⟨r, hr, hre⟩ := lookupO_mem hl
    have htb : tagsExtras extras body := hre ▸ hrs r hr
    rw [lookupO_map_restore] at hl
    cases hl0 : lookupO opt n with
    | none => rw [hl0] at hl; cases hl
    | some body0 =>
      rw [hl0] at hl
      simp only [Option.map_some, Option.some.injEq] at hl
      subst hl
      unfold TR at hb htb
      split at hb
      · cases hb
      · rename_i hc
        have hm : modifies extras opt (T extras opt body0) = false := by
          cases hmm : modifies extras opt (T extras opt body0) with
          | false => rfl
          | true => exact absurd ⟨hn, hmm⟩ hc
        rw [if_neg hc] at htb
        exact not_dirty_of_modifies extras opt hrs _ htb hm hb

/-- The restorer establishes what the simulation needs of the optimized rules. -/
theorem goodRules_of_optimized (extras : Bool) (rs : List ORule)
    (hopt : ∃ rules withList, optimizeWith extras withList rules = some rs)
    (htag : ∀ r ∈ rs, tagsExtras extras r.expr) : GoodRules extras rs := by
  obtain ⟨rules, withList, h⟩ := hopt
  unfold optimizeWith at h
  split at h
  · cases h
  · rename_i opt hmap
    cases h
    refine ⟨?_, ?_, ?_⟩
    · intro r hr
      obtain ⟨r0, hr0, rfl⟩ := List.mem_map.1 hr
      have ht := htag _ hr
      obtain ⟨a, _, ha⟩ := mapM_option_mem _ _ _ hmap r0 hr0
      simp only [Option.bind_eq_some_iff, Option.map_eq_some_iff] at ha
      obtain ⟨r1, _, e1, he1, rfl⟩ := ha
      rw [restoreOnErr_expr] at ht ⊢
      exact goodE_TR extras opt htag _ e1 (toOptimized_wf extras _ e1 he1) ht
    · exact not_dirty_wscm extras opt htag _ (Or.inl rfl)
    · exact not_dirty_wscm extras opt htag _ (Or.inr rfl)

theorem goodRules_of_tagRules (extras : Bool) (rs : List ORule)
    (hopt : ∃ rules withList, optimizeWith extras withList rules = some rs) (htag : TagRules extras rs) :
    GoodRules extras rs :=
  goodRules_of_optimized extras rs hopt fun r hr =>
    tagsExtras_of_tagOK (htag r hr .nonAtomic (.entry r.name))

end PestModel.VmRef
