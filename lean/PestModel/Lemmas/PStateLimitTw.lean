import PestModel.Lemmas.PStateLimitBr
/-!
`tw fc fp` rewrites the two bookkeeping components (`calls`, `pa`) of a state.  Everything in the
interpreter that reads neither component commutes with it.  Instances: `relim` (change the limit)
and `eraseDetail`.  `rew` rewrites the stack as well (instance: replacing it, `GenVm.ws`).
-/
namespace PestModel.PS
open PestModel.LineCol PestModel.Stack

def tw (fc : Option (Nat × Nat) → Option (Nat × Nat)) (fp : PAttempts → PAttempts) (s : PState) :
    PState :=
  { s with calls := fc s.calls, pa := fp s.pa }

/-- `tw` that also rewrites the stack.  What looks at neither of the three components commutes with
it; such a fact is stated once, for `tw fc fp = rew fc fp id` and for replacing the stack
(`GenVm.ws st = rew id id fun _ => st`). -/
def rew (fc : Option (Nat × Nat) → Option (Nat × Nat)) (fp : PAttempts → PAttempts)
    (fs : Stk Str → Stk Str) (s : PState) : PState :=
  { s with calls := fc s.calls, pa := fp s.pa, stack := fs s.stack }

/-- the leaves that read neither `calls` nor `pa` nor the stack. -/
def Prog.pureLeaf : Prog → Prop
  | .skipUntil _ | .startOfInput | .endOfInput | .tagNode _ | .ok | .fail => True
  | _ => False

/-- the leaves that read neither `calls` nor `pa`. -/
def Prog.coreLeaf : Prog → Prop
  | .stackMatchPeek | .stackMatchPop | .stackDrop | .stackMatchPeekSlice _ _ _ | .stackPushLiteral _ => True
  | p => p.pureLeaf

/-! ### what does not look at the stack -/

section
variable (fc : Option (Nat × Nat) → Option (Nat × Nat)) (fp : PAttempts → PAttempts)
  (fs : Stk Str → Stk Str)

theorem atomPre_rew (a : Atomicity) (s1 : PState) :
    atomPre a (rew fc fp fs s1) = rew fc fp fs (atomPre a s1) := by
  unfold atomPre rew
  dsimp only
  split <;> rfl

theorem atomPost_rew {fc' fp' fs'} (a : Atomicity) (s1 ns : PState) :
    atomPost a (rew fc' fp' fs' s1) (rew fc fp fs ns) = rew fc fp fs (atomPost a s1 ns) := by
  unfold atomPost rew
  dsimp only
  split <;> rfl

theorem rulePre_rew (s1 : PState) : rulePre (rew fc fp fs s1) = rew fc fp fs (rulePre s1) := by
  unfold rulePre rew
  dsimp only
  split <;> rfl

theorem track_rew (s : PState) (a b c d e : Nat) :
    track (rew fc fp fs s) a b c d e = rew fc fp fs (track s a b c d e) := by
  rw [track_norm, track_norm]; rfl

theorem ruleTrack_rew {fc' fp' fs'} (s1 : PState) (r : Nat) (ns : PState) :
    ruleTrack (rew fc' fp' fs' s1) r (rew fc fp fs ns) = rew fc fp fs (ruleTrack s1 r ns) := by
  unfold ruleTrack
  rw [rulePre_rew]
  exact track_rew fc fp fs ns _ _ _ _ _

theorem ruleTrackIf_rew {fc' fp' fs'} (s1 : PState) (r : Nat) (ns : PState) :
    ruleTrackIf (rew fc' fp' fs' s1) r (rew fc fp fs ns) = rew fc fp fs (ruleTrackIf s1 r ns) := by
  unfold ruleTrackIf
  rw [ruleTrack_rew]
  show (if ns.lookahead = .negative then _ else _) = _
  split <;> rfl

theorem ruleEmit_rew {fc' fp' fs'} (s1 : PState) (r : Nat) (ns : PState) :
    ruleEmit (rew fc' fp' fs' s1) r (rew fc fp fs ns) = (ruleEmit s1 r ns).map (rew fc fp fs) := by
  unfold ruleEmit rew
  dsimp only
  split
  · cases ns.queue[s1.queue.length]? with
    | none => rfl
    | some t => cases t <;> rfl
  · rfl

theorem ruleErrTrunc_rew {fc' fp' fs'} (s1 ns : PState) :
    ruleErrTrunc (rew fc' fp' fs' s1) (rew fc fp fs ns) = rew fc fp fs (ruleErrTrunc s1 ns) := by
  unfold ruleErrTrunc rew
  dsimp only
  split <;> rfl

theorem atomK_rew {fc' fp' fs'} (a : Atomicity) (s1 : PState) (o : Out) :
    atomK a (rew fc' fp' fs' s1) (o.mapState (rew fc fp fs)) =
      (atomK a s1 o).mapState (rew fc fp fs) := by
  cases o with
  | ok ns => simp only [atomK, mapState_ok, atomPost_rew]
  | err ns => simp only [atomK, mapState_err, atomPost_rew]
  | panic => rfl
  | fuel => rfl

/-- `ruleK` reads `pa` (is detail on? and the `splice`): it commutes with a rewriting as soon as
`ruleFinish` and `ruleErrAdd`, the two steps that do so, commute with it on the `pa`s in question. -/
theorem ruleK_rew {Q : PAttempts → Prop} {fs' : Stk Str → Stk Str} (s1 : PState) (r : Nat)
    (hfin : ∀ x, Q x.pa →
      ruleFinish (rew fc fp fs' s1) r (rew fc fp fs x) = (ruleFinish s1 r x).mapState (rew fc fp fs))
    (hadd : ∀ ns, Q ns.pa →
      ruleErrAdd (rew fc fp fs' s1) r (rew fc fp fs ns) = (ruleErrAdd s1 r ns).map (rew fc fp fs))
    (o : Out) (hq : ∀ ns, o.state? = some ns → Q ns.pa) :
    ruleK r (rew fc fp fs' s1) (o.mapState (rew fc fp fs)) =
      (ruleK r s1 o).mapState (rew fc fp fs) := by
  cases o with
  | ok ns =>
    show ruleOkPost (rew fc fp fs' s1) r (rew fc fp fs ns) = (ruleOkPost s1 r ns).mapState (rew fc fp fs)
    unfold ruleOkPost
    rw [ruleTrackIf_rew, ruleEmit_rew]
    cases he : ruleEmit s1 r (ruleTrackIf s1 r ns) with
    | none => rfl
    | some x =>
      have e : x.pa = ns.pa := ((ruleTrackIf_core s1 r ns).trans (ruleEmit_core he)).2.1
      exact hfin x (by rw [e]; exact hq ns rfl)
  | err ns =>
    show ruleErrPost (rew fc fp fs' s1) r (rew fc fp fs ns) = (ruleErrPost s1 r ns).mapState (rew fc fp fs)
    unfold ruleErrPost
    rw [hadd ns (hq ns rfl)]
    cases ruleErrAdd s1 r ns with
    | none => rfl
    | some x =>
      show Out.err (ruleErrTrunc (rew fc fp fs' s1) (rew fc fp fs x)) = _
      rw [ruleErrTrunc_rew]; rfl
  | panic => rfl
  | fuel => rfl

/-- The leaves that consume input end in `terminal`, which passes the token to `handleToken`. -/
theorem terminal_rew
    (hh : ∀ s a t b, handleToken (rew fc fp fs s) a t b = rew fc fp fs (handleToken s a t b))
    (s : PState) (r : Option (Bool × Nat)) (tok : Option PTok) :
    terminal (rew fc fp fs s) r tok = (terminal s r tok).mapState (rew fc fp fs) := by
  unfold terminal
  cases r with
  | none => rfl
  | some x =>
    obtain ⟨succ, pos'⟩ := x
    cases tok with
    | none => dsimp only; split <;> rfl
    | some t =>
      dsimp only
      have := hh { s with pos := pos' } s.pos t succ
      split <;> simp only [Out.mapState] <;> rw [← this] <;> rfl

theorem leaf_rew (cfg : Cfg) (fuel : Nat) (p : Prog) (s : PState) (hp : p.pureLeaf) :
    run cfg (fuel+1) p (rew fc fp fs s) = (run cfg (fuel+1) p s).mapState (rew fc fp fs) := by
  cases p <;> first | exact hp.elim | rw [run, run]
  case skipUntil strs =>
    show (match posSkipUntil cfg.memchr s.input s.pos strs with | some pos' => _ | none => _) = _
    cases posSkipUntil cfg.memchr s.input s.pos strs <;> rfl
  case startOfInput => show (if s.pos = 0 then _ else _) = _; split <;> rfl
  case endOfInput => show (if s.pos = LineCol.bLen s.input then _ else _) = _; split <;> rfl
  case tagNode t =>
    show (if s.lookahead ≠ .none then _ else _) = _
    split
    · rfl
    · show (match s.queue.getLast? with | some (.end_ si r _ p) => _ | _ => _) = _
      cases s.queue.getLast? with
      | none => rfl
      | some q => cases q <;> rfl
  case ok => rfl
  case fail => rfl

/-! #### pieces that read `pa` but not `calls` -/

theorem handleToken_rewc (s : PState) (a : Nat) (t : PTok) (b : Bool) :
    handleToken (rew fc id fs s) a t b = rew fc id fs (handleToken s a t b) := by
  unfold handleToken rew
  dsimp only [id]
  repeat' split
  all_goals rfl

theorem tryAddRuleToStack_rewc (s : PState) (r a b : Nat) :
    tryAddRuleToStack (rew fc id fs s) r a b = (tryAddRuleToStack s r a b).map (rew fc id fs) := by
  unfold tryAddRuleToStack rew
  dsimp only [id]
  split
  · generalize s.pa.tryAddNewStackRule r _ = x
    cases x <;> rfl
  · rfl

theorem ruleAdd_rewc {fs'} (s1 : PState) (r : Nat) (ns : PState) :
    ruleAdd (rew fc id fs' s1) r (rew fc id fs ns) = (ruleAdd s1 r ns).map (rew fc id fs) := by
  unfold ruleAdd
  rw [rulePre_rew]
  exact tryAddRuleToStack_rewc fc fs ns r _ _

theorem ruleFinish_rewc {fs'} (s1 : PState) (r : Nat) (ns : PState) :
    ruleFinish (rew fc id fs' s1) r (rew fc id fs ns) = (ruleFinish s1 r ns).mapState (rew fc id fs) := by
  unfold ruleFinish
  rw [ruleAdd_rewc]
  show (if ns.pa.enabled = true then _ else _) = _
  split
  · cases ruleAdd s1 r ns <;> rfl
  · rfl

theorem ruleErrAdd_rewc {fs'} (s1 : PState) (r : Nat) (ns : PState) :
    ruleErrAdd (rew fc id fs' s1) r (rew fc id fs ns) = (ruleErrAdd s1 r ns).map (rew fc id fs) := by
  unfold ruleErrAdd
  rw [ruleTrack_rew, ruleAdd_rewc]
  show (if ns.lookahead ≠ .negative then
      (if (ruleTrack s1 r ns).pa.enabled = true then _ else _) else _) = _
  split
  · split <;> rfl
  · rfl

theorem ruleK_rewc {fs'} (r : Nat) (s1 : PState) (o : Out) :
    ruleK r (rew fc id fs' s1) (o.mapState (rew fc id fs)) = (ruleK r s1 o).mapState (rew fc id fs) :=
  ruleK_rew fc id fs (Q := fun _ => True) s1 r (fun x _ => ruleFinish_rewc fc fs s1 r x)
    (fun ns _ => ruleErrAdd_rewc fc fs s1 r ns) o (fun _ _ => trivial)

end

/-! ### what may look at the stack: for `tw` only.  For the `K`s here the first argument may be
rewritten in any other way, it is read for neither component -/

section
variable (fc : Option (Nat × Nat) → Option (Nat × Nat)) (fp : PAttempts → PAttempts)

theorem checkpointOk_tw (s : PState) :
    checkpointOk (tw fc fp s) = (checkpointOk s).map (tw fc fp) := by
  unfold checkpointOk tw
  dsimp only
  cases clearSnapshot s.stack <;> rfl

theorem restoreStack_tw (s : PState) :
    restoreStack (tw fc fp s) = (restoreStack s).map (tw fc fp) := by
  unfold restoreStack tw
  dsimp only
  cases restore s.stack <;> rfl

theorem laPost_tw {fc' fp'} (s1 ns : PState) :
    laPost (tw fc' fp' s1) (tw fc fp ns) = (laPost s1 ns).map (tw fc fp) := by
  unfold laPost
  exact restoreStack_tw fc fp { ns with pos := s1.pos, lookahead := s1.lookahead }

theorem pushSpan_tw {fc' fp'} (s1 ns : PState) :
    pushSpan (tw fc' fp' s1) (tw fc fp ns) = (pushSpan s1 ns).mapState (tw fc fp) := by
  unfold pushSpan tw
  dsimp only
  split <;> rfl

theorem seqErrState_tw {fc' fp'} (s1 ns : PState) :
    seqErrState (tw fc' fp' s1) (tw fc fp ns) = tw fc fp (seqErrState s1 ns) := rfl

theorem seqK_tw {fc' fp'} (s1 : PState) (o : Out) :
    seqK (tw fc' fp' s1) (o.mapState (tw fc fp)) = (seqK s1 o).mapState (tw fc fp) := by
  cases o with
  | ok ns => simp only [seqK, mapState_ok, checkpointOk_tw]; cases checkpointOk ns <;> rfl
  | err ns =>
    simp only [seqK, mapState_err, seqErrState_tw, restoreStack_tw]
    cases restoreStack (seqErrState s1 ns) <;> rfl
  | panic => rfl
  | fuel => rfl

theorem roeK_tw {fc' fp'} (s1 : PState) (o : Out) :
    roeK (tw fc' fp' s1) (o.mapState (tw fc fp)) = (roeK s1 o).mapState (tw fc fp) := by
  cases o with
  | ok ns => simp only [roeK, mapState_ok, checkpointOk_tw]; cases checkpointOk ns <;> rfl
  | err ns => simp only [roeK, mapState_err, restoreStack_tw]; cases restoreStack ns <;> rfl
  | panic => rfl
  | fuel => rfl

theorem optK_tw {fc' fp'} (s1 : PState) (o : Out) :
    optK (tw fc' fp' s1) (o.mapState (tw fc fp)) = (optK s1 o).mapState (tw fc fp) := by
  cases o <;> rfl

theorem idK_tw {fc' fp'} (s1 : PState) (o : Out) :
    idK (tw fc' fp' s1) (o.mapState (tw fc fp)) = (idK s1 o).mapState (tw fc fp) := rfl

theorem laK_tw {fc' fp'} (positive : Bool) (s1 : PState) (o : Out) :
    laK positive (tw fc' fp' s1) (o.mapState (tw fc fp)) = (laK positive s1 o).mapState (tw fc fp) := by
  cases o with
  | ok ns => simp only [laK, mapState_ok, laPost_tw]; cases laPost s1 ns <;> cases positive <;> rfl
  | err ns => simp only [laK, mapState_err, laPost_tw]; cases laPost s1 ns <;> cases positive <;> rfl
  | panic => rfl
  | fuel => rfl

theorem atomK_tw {fc' fp'} (a : Atomicity) (s1 : PState) (o : Out) :
    atomK a (tw fc' fp' s1) (o.mapState (tw fc fp)) = (atomK a s1 o).mapState (tw fc fp) :=
  atomK_rew fc fp id (fs' := id) a s1 o

theorem pushK_tw {fc' fp'} (s1 : PState) (o : Out) :
    pushK (tw fc' fp' s1) (o.mapState (tw fc fp)) = (pushK s1 o).mapState (tw fc fp) := by
  cases o with
  | ok ns => exact pushSpan_tw fc fp s1 ns
  | err ns => rfl
  | panic => rfl
  | fuel => rfl

theorem thenK_tw {fok ferr : PState → Out}
    (hfo : ∀ s1, fok (tw fc fp s1) = (fok s1).mapState (tw fc fp))
    (hfe : ∀ s1, ferr (tw fc fp s1) = (ferr s1).mapState (tw fc fp)) (o : Out) :
    thenK fok ferr (o.mapState (tw fc fp)) = (thenK fok ferr o).mapState (tw fc fp) := by
  cases o with
  | ok s1 => exact hfo s1
  | err s1 => exact hfe s1
  | panic => rfl
  | fuel => rfl

theorem incCall_tw (s : PState) (hr : reachedCallLimit (tw fc fp s) = reachedCallLimit s)
    (hb : bump (tw fc fp s) = tw fc fp (bump s)) :
    incCall (tw fc fp s) = (incCall s).map (tw fc fp) := by
  rw [incCall_eq, incCall_eq, hr, hb]; split <;> rfl

theorem bracket_tw (cfg : Cfg) (fuel : Nat) (body : Prog) (pre : PState → PState)
    (K : PState → Out → Out) (s : PState)
    (hr : reachedCallLimit (tw fc fp s) = reachedCallLimit s)
    (hb : bump (tw fc fp s) = tw fc fp (bump s))
    (h0 : ∀ s1, incCall s = some s1 → bracket0 cfg fuel body pre K (tw fc fp s1) =
      (bracket0 cfg fuel body pre K s1).mapState (tw fc fp)) :
    bracket cfg fuel body pre K (tw fc fp s) =
      (bracket cfg fuel body pre K s).mapState (tw fc fp) := by
  unfold bracket
  rw [incCall_tw fc fp s hr hb]
  cases hic : incCall s with
  | none => rfl
  | some s1 => exact h0 s1 hic

theorem leaf_tw (cfg : Cfg) (fuel : Nat) (p : Prog) (s : PState) (hp : p.coreLeaf) :
    run cfg (fuel+1) p (tw fc fp s) = (run cfg (fuel+1) p s).mapState (tw fc fp) := by
  cases p <;> first | exact leaf_rew fc fp id cfg fuel _ s hp | exact hp.elim | rw [run, run]
  all_goals unfold tw; try dsimp only
  all_goals (repeat' split)
  all_goals first
    | rfl
    | simp_all

theorem tw_stack (s : PState) : (tw fc fp s).stack = s.stack := rfl
theorem tw_input (s : PState) : (tw fc fp s).input = s.input := rfl
theorem tw_pos (s : PState) : (tw fc fp s).pos = s.pos := rfl

/-- `stackPeek` and `stackPop` also test the call limit. -/
theorem stackPeek_tw
    (hh : ∀ s a t b, handleToken (tw fc fp s) a t b = tw fc fp (handleToken s a t b))
    (cfg : Cfg) (fuel : Nat) (s : PState)
    (hr : reachedCallLimit (tw fc fp s) = reachedCallLimit s) :
    run cfg (fuel+1) .stackPeek (tw fc fp s) = (run cfg (fuel+1) .stackPeek s).mapState (tw fc fp) := by
  rw [run, run, hr]
  simp only [tw_stack, tw_input, tw_pos]
  split
  · rfl
  · cases s.stack.cache.head? with
    | none => rfl
    | some str => exact terminal_rew fc fp id hh s _ _

theorem stackPop_tw
    (hh : ∀ s a t b, handleToken (tw fc fp s) a t b = tw fc fp (handleToken s a t b))
    (cfg : Cfg) (fuel : Nat) (s : PState)
    (hr : reachedCallLimit (tw fc fp s) = reachedCallLimit s) :
    run cfg (fuel+1) .stackPop (tw fc fp s) = (run cfg (fuel+1) .stackPop s).mapState (tw fc fp) := by
  rw [run, run, hr]
  simp only [tw_stack, tw_input, tw_pos]
  split
  · rfl
  · cases Stack.pop s.stack with
    | none => rfl
    | some x =>
      obtain ⟨st, v⟩ := x
      cases v with
      | none => rfl
      | some str => exact terminal_rew fc fp id hh { s with stack := st } _ _

end

/-! ### what commuting with every rewriting implies -/

/-- An outcome that rewriting `calls` and `pa` to constants leaves as it is has these constants. -/
theorem calls_pa_of_tw_fix {o : Out} {s' : PState} {c : Option (Nat × Nat)} {q : PAttempts}
    (h : o.state? = some s') (e : o = o.mapState (tw (fun _ => c) (fun _ => q))) :
    s'.calls = c ∧ s'.pa = q := by
  have e' : s' = tw (fun _ => c) (fun _ => q) s' := by
    rcases state?_some_cases h with rfl | rfl
    · exact Out.ok.inj e
    · exact Out.err.inj e
  exact ⟨congrArg PState.calls e', congrArg PState.pa e'⟩

/-- `K` completes only when the body completed, and then with the body's `calls` and `pa`.
True of every `K` but `ruleK`, which records the rule in `pa`. -/
def KCore (K : PState → Out → Out) : Prop :=
  ∀ s1 o s', (K s1 o).state? = some s' → ∃ ns, o.state? = some ns ∧ s'.calls = ns.calls ∧ s'.pa = ns.pa

/-- A `K` that commutes with every rewriting of the body's `calls` and `pa` hands them on: rewrite
them to the constants they are. -/
theorem KCore.of_tw {K : PState → Out → Out}
    (h : ∀ fc fp s1 o, K s1 (o.mapState (tw fc fp)) = (K s1 o).mapState (tw fc fp))
    (hp : ∀ s1, K s1 .panic = .panic) (hf : ∀ s1, K s1 .fuel = .fuel) : KCore K := by
  intro s1 o s' hs
  have key : ∀ ns : PState, o.mapState (tw (fun _ => ns.calls) (fun _ => ns.pa)) = o →
      s'.calls = ns.calls ∧ s'.pa = ns.pa := fun ns e =>
    calls_pa_of_tw_fix hs (by have := h (fun _ => ns.calls) (fun _ => ns.pa) s1 o; rwa [e] at this)
  cases o with
  | ok ns => exact ⟨ns, rfl, key ns rfl⟩
  | err ns => exact ⟨ns, rfl, key ns rfl⟩
  | panic => rw [hp] at hs; cases hs
  | fuel => rw [hf] at hs; cases hs

section
variable {X body : Prog} {inc : Bool} {pre : PState → PState} {K : PState → Out → Out}
  (h : Shape X inc body pre K)
include h

theorem Shape.pre_tw (fc fp) (s1 : PState) : pre (tw fc fp s1) = tw fc fp (pre s1) := by
  cases h <;> first | rfl | exact atomPre_rew fc fp id _ s1

theorem Shape.K_tw (fc fp) {fc' fp'} (s1 : PState) (o : Out) :
    K (tw fc' fp' s1) (o.mapState (tw fc fp)) = (K s1 o).mapState (tw fc fp) := by
  cases h with
  | sequence => exact seqK_tw fc fp s1 o
  | restoreOnErr => exact roeK_tw fc fp s1 o
  | optional => exact optK_tw fc fp s1 o
  | repeat_ => exact idK_tw fc fp s1 o
  | lookahead b => exact laK_tw fc fp b s1 o
  | atomic a => exact atomK_tw fc fp a s1 o
  | stackPush => exact pushK_tw fc fp s1 o

theorem Shape.kCore : KCore K :=
  .of_tw (fun fc fp => h.K_tw fc fp (fc' := id) (fp' := id)) (by cases h <;> exact fun _ => rfl)
    (by cases h <;> exact fun _ => rfl)

end

/-- In the same way a leaf that commutes with every rewriting keeps `calls` and `pa`. -/
theorem leaf_core (cfg : Cfg) (fuel : Nat) (p : Prog) (s s' : PState)
    (h : (run cfg (fuel+1) p s).state? = some s') (hp : p.coreLeaf) :
    s'.calls = s.calls ∧ s'.pa = s.pa :=
  calls_pa_of_tw_fix h (leaf_tw (fun _ => s.calls) (fun _ => s.pa) cfg fuel p s hp)

end PestModel.PS
