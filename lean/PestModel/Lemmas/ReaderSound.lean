import PestModel.Lemmas.ReaderDen
/-!
C07, pair level, converse, and C09, part B: on pairs of the shape the meta-grammar produces (`GrammarForest`) the three-valued
reader reaches no panic site, and **whatever it returns is what the pairs denote** (`ExprV`). Both come from one walk of
`consume_expr` / `unaries` (`reads_post`); `consumeRules_np` is its first half, `reads_sound` carries the second over to
`ReaderFull`, and with `ReaderValue.consumeRules_value` the reader is characterised exactly (`consumeRules_exact`).
-/
namespace PestModel.ReaderValue
open PestModel.G PestModel.Reader PestModel.ReaderFull PestModel.ReaderShape
open PestModel.Views (Tree sizeList)
open PestModel.LineCol (Str)
open PestModel.C07Full

/-! ### the infix stage, read backwards -/

theorem all_some {α : Type} : ∀ {l : List (Option α)}, (∀ o ∈ l, ∃ x, o = some x) → ∃ vs : List α, l = vs.map some
  | [], _ => ⟨[], rfl⟩
  | o :: l, h => by
    obtain ⟨x, rfl⟩ := h o (by simp)
    obtain ⟨vs, rfl⟩ := all_some (l := l) fun o ho => h o (by simp [ho])
    exact ⟨x :: vs, rfl⟩

/-- `build` over the skeleton of `x₀ op₁ x₁ …` is a value exactly when every primary is one (every primary is used:
`leaves_shape`), and then it is the fold. -/
theorem build_shape_iff {prims : List (Option Expr)} {os : List Bool} (hl : prims.length = os.length + 1) {e : Expr} :
    build prims (shape os) = some e ↔
      ∃ x0 vs, vs.length = os.length ∧ prims = some x0 :: vs.map some ∧ e = foldGo none x0 (os.zip vs) := by
  have fwd : ∀ x0 (vs : List Expr), vs.length = os.length → prims = some x0 :: vs.map some →
      build prims (shape os) = some (foldGo none x0 (os.zip vs)) := by
    rintro x0 vs hv rfl
    have e : (os.zip vs).map (fun x => some x.2) = vs.map some := by
      simpa [Function.comp_def] using congrArg (List.map some) (List.map_snd_zip (l₁ := os) (l₂ := vs) (by omega))
    have := build_shape_fold x0 (os.zip vs)
    rwa [List.map_fst_zip (by omega), e] at this
  constructor
  · intro h
    obtain ⟨vals, rfl⟩ := all_some (l := prims) fun o ho => by
      obtain ⟨k, hk, rfl⟩ := List.getElem_of_mem ho
      obtain ⟨x, hx⟩ := PestModel.ReaderAgree.build_some_leaves _ _ _ h k (by rw [leaves_shape]; simpa [hl] using hk)
      exact ⟨x, by simpa [List.getElem?_eq_getElem hk] using hx⟩
    rcases vals with _ | ⟨x0, vs⟩
    · simp at hl
    · have hv : vs.length = os.length := by simpa using hl
      exact ⟨x0, vs, hv, rfl, Option.some.inj ((fwd x0 vs hv rfl).symm.trans h).symm⟩
  · rintro ⟨x0, vs, hv, hp, rfl⟩
    exact fwd x0 vs hv hp

/-- the terms of `(op term)*` that read as `vs` make the pairs denote `ops.zip vs`. -/
theorem restV_of_opTerms {extras : Bool} {text : Str} {ps ts : List Tree} {os : List Bool} (f : Tree → Option Expr)
    (h : OpTerms ps os ts) (hq : ∀ t ∈ ts, kind t = "term" ∧ ∀ x, f t = some x → UnArgsV extras text t.children x) :
    ∀ vs, ts.map f = vs.map some → RestV extras text ps (os.zip vs) := by
  induction h with
  | nil => intro vs hv; exact .nil
  | @cons p t ps o os ts hp _ _ ih =>
    intro vs hv
    rcases vs with _ | ⟨v, vs⟩
    · simp at hv
    · simp only [List.map_cons, List.cons.injEq] at hv
      obtain ⟨hk, hx⟩ := hq t (by simp)
      exact .cons hp hk (hx v hv.1) (ih (fun t ht => hq t (by simp [ht])) vs hv.2)

theorem unBodyV_head_kind {extras : Bool} {text : Str} {p : Tree} {r : List Tree} {x : Expr} (h : UnBodyV extras text (p :: r) x) :
    kind p ≠ "expression" := by
  cases h with
  | pos hk _ => simp [hk]
  | neg hk _ => simp [hk]
  | paren ho _ _ _ _ => simp [ho]
  | push ht _ _ _ _ => simp [ht]
  | leaf hl _ => exact (LeafKind.ne hl.1).2.2.2.1

/-- on a list of the shape `prefix* node postfix*`, the reading as a term is the reading of that shape. -/
theorem unBodyV_of_unArgsV {extras : Bool} {text : Str} {l : List Tree} {x : Expr} (hs : UnBody text l)
    (h : UnArgsV extras text l x) : UnBodyV extras text l x := by
  cases h with
  | plain hb => exact hb
  | tagged _ ha _ => exact absurd ha hs.second
  | parenRest he _ _ _ =>
    obtain ⟨p, r, hl, _⟩ := hs.head
    cases hl
    cases hs with
    | pre hp _ => rcases hp with h | h <;> simp [h] at he
    | paren ho _ _ _ _ => simp [ho] at he
    | push ht _ _ _ _ => simp [ht] at he
    | leaf hl _ => exact absurd he hl.kinds.ne.2.2.2.1

/-- what follows an opening parenthesis reads as the parenthesised expression with the postfix operators. -/
theorem parenRest_inv {extras : Bool} {text : Str} {e c : Tree} {post : List Tree} {y : Expr} (he : kind e = "expression")
    (hc : kind c = "closing_paren") (h : UnArgsV extras text (e :: c :: post) y) :
    ∃ x, ExprV extras text e.children x ∧ PostsV text post x y := by
  cases h with
  | parenRest _ hx _ hp => exact ⟨_, hx, hp⟩
  | plain hb => exact absurd he (unBodyV_head_kind hb)
  | tagged _ ha _ => simp [hc] at ha

end PestModel.ReaderValue

/-! ### on pairs of the expected shape the reader does not panic, and what it returns is what the pairs denote -/

namespace PestModel.ReaderShape
open PestModel.G PestModel.Reader PestModel.ReaderP PestModel.ReaderValue
open PestModel.ReaderFull (kind strOf isOp dropLead modifierOf)
open PestModel.Views (Tree sizeList)
open PestModel.LineCol (Str)
open PestModel.ReaderAgree (ok_of_toOption leafNode_agree numberOf_agree build_agree anyPanic_eq_false ruleParts_agree)
open PestModel.C07Full (OpTerms shape)

variable {extras : Bool} {text : Str}

theorem leafNode_post {t : Tree} (hl : LeafT text t) : (leafNode extras text t).Post (LeafV extras text t) :=
  ⟨leafNode_np hl, fun x hx => ⟨hl.kinds, by rw [← leafNode_agree, hx]; rfl⟩⟩

theorem postfixOp_post {p : Tree} (x : Expr) (hp : PostfixT text p) : (postfixOp text x p).Post (PostV text p x) := by
  have num : ∀ {n : Tree}, HasStr text n → (numberOf text n).Post fun k => ReaderFull.numberOf text n = some k :=
    fun hs => ⟨numberOf_np hs, fun k hk => by rw [← numberOf_agree, hk]; rfl⟩
  rcases hp with hk | hk | hk | ⟨hk, o, n, c, hc, hs⟩ | ⟨hk, o, n, cm, c, hc, hs⟩ | ⟨hk, o, cm, n, c, hc, hs⟩ |
    ⟨hk, o, a, cm, b, c, hc, ha, hb⟩
  · simp only [postfixOp, hk, if_true]; exact .pure (.inl ⟨hk, rfl⟩)
  · simp [postfixOp, hk]; exact .pure (.inr (.inl ⟨hk, rfl⟩))
  · simp [postfixOp, hk]; exact .pure (.inr (.inr (.inl ⟨hk, rfl⟩)))
  · simp [postfixOp, hk, hc]
    refine (num hs).bind fun k hn => ?_
    split
    · exact .err
    · exact .pure (.inr (.inr (.inr (.inl ⟨hk, o, n, c, [], hc, k, hn, ‹_›, rfl⟩))))
  · simp [postfixOp, hk, hc]
    exact (num hs).map fun k hn => .inr (.inr (.inr (.inr (.inl ⟨hk, o, n, [cm, c], hc, k, hn, rfl⟩))))
  · simp [postfixOp, hk, hc]
    refine (num hs).bind fun k hn => ?_
    split
    · exact .err
    · exact .pure (.inr (.inr (.inr (.inr (.inr (.inl ⟨hk, o, cm, n, [c], hc, k, hn, ‹_›, rfl⟩))))))
  · simp [postfixOp, hk, hc]
    refine (num ha).bind fun lo hlo => (num hb).bind fun hi hhi => ?_
    split
    · exact .err
    · exact .pure (.inr (.inr (.inr (.inr (.inr (.inr ⟨hk, o, a, cm, b, [c], hc, lo, hi, hlo, hhi, ‹_›, rfl⟩))))))

theorem postfixes_post : ∀ (ps : List Tree) (x : Expr), (∀ p ∈ ps, PostfixT text p) →
    (postfixes text x ps).Post (PostsV text ps x)
  | [], x, _ => ⟨nofun, fun y hy => by cases hy; exact .nil x⟩
  | p :: ps, x, h => (postfixOp_post x (h p (by simp))).bind fun m hm =>
      (postfixes_post ps m fun q hq => h q (by simp [hq])).mono fun y hy => .cons hm hy

theorem postfixes_paren_post {c : Tree} {post : List Tree} (n : Expr) (hc : kind c = "closing_paren")
    (h : ∀ p ∈ post, PostfixT text p) : (postfixes text n (c :: post)).Post (PostsV text post n) := by
  have : postfixOp text n c = .ok n := by simp [postfixOp, hc]
  simp only [postfixes, this, R3.bind]
  exact postfixes_post post n h

/-- the infix stage on `t₀ (op t)*`: no panic when no term panics, and a value returned is the fold of what the terms return
(`build_shape_iff` on the other model's stage). -/
theorem infixStage_post (un : List Tree → R3 Expr) {lead : List Tree} (hl : LeadOK lead) {t0 : Tree} {ps ts : List Tree}
    {os : List Bool} (h0 : kind t0 = "term") (h : OpTerms ps os ts) (hk : ∀ t ∈ ts, kind t = "term")
    (hu : ∀ t ∈ t0 :: ts, (un t.children).Post (UnArgsV extras text t.children)) :
    (infixStage (t0 :: ps) (((t0 :: ps).filter fun p => !isOp p).map fun p => un p.children)).Post
      (ExprV extras text (lead ++ t0 :: ps)) := by
  have hnp : ∀ r ∈ (t0 :: ts).map fun p => un p.children, r ≠ R3.panic := by
    intro r hr; obtain ⟨t, ht, rfl⟩ := List.mem_map.1 hr; exact (hu t ht).1
  rw [infixStage_eq (isTerm_of_kind h0) h, anyPanic_eq_false.2 hnp]
  refine ⟨build_np _ hnp _ ?_, fun e he => ?_⟩
  · have := below_shapeGo os none (.leaf 0) 1 (by intro a h; cases h) (by simp [below])
    simpa [shape, h.length, Nat.add_comm] using this
  · have hF := (build_agree _ (shape os)).symm.trans (congrArg R3.toOption he)
    rw [List.map_map] at hF
    obtain ⟨x0, vs, _, hp, rfl⟩ := (build_shape_iff (by simp [h.length])).1 hF
    simp only [List.map_cons, List.cons.injEq] at hp
    exact .mk lead t0 ps x0 _ hl h0 ((hu t0 (by simp)).of_toOption hp.1)
      (restV_of_opTerms (fun t => (un t.children).toOption) h
        (fun t ht => ⟨hk t ht, fun x hx => (hu t (by simp [ht])).of_toOption hx⟩) vs hp.2)

/-- the dispatch of `unaries` after the optional tag. -/
theorem nodeOf_post {f : Nat}
    (ih1 : ∀ pairs, ExprKids text pairs → sizeList pairs + 1 ≤ f →
      (consumeExpr extras text f pairs).Post (ExprV extras text pairs))
    (ih2 : ∀ pairs, UnArgs text pairs → sizeList pairs + 1 ≤ f → (unaries extras text f pairs).Post (UnArgsV extras text pairs))
    {x : Tree} {r : List Tree} (h : UnBody text (x :: r)) (hfit : sizeList (x :: r) ≤ f) :
    (nodeOf extras text (consumeExpr extras text f) (unaries extras text f) x r).Post (UnBodyV extras text (x :: r)) := by
  have hr := fit_tail hfit
  cases h with
  | pre hp hb =>
    rcases hp with hk | hk
    · rw [nodeOfP_pos hk]; exact (ih2 r (.plain hb) hr).map fun y hy => .pos hk (unBodyV_of_unArgsV hb hy)
    · rw [nodeOfP_neg hk]; exact (ih2 r (.plain hb) hr).map fun y hy => .neg hk (unBodyV_of_unArgsV hb hy)
  | paren ho he hk hc hp =>
    rw [nodeOfP_paren ho]
    refine (ih2 _ (.parenRest he hk hc hp) hr).mono fun y hy => ?_
    obtain ⟨x', hx', hp'⟩ := parenRest_inv he hc hy
    exact .paren ho he hx' hc hp'
  | push ht hc he hk hp =>
    rw [nodeOfP_push ht hc]
    refine ((ih1 _ hk (fit_grandchild (List.mem_cons_self ..) (by simp [hc]) hfit)).map
      (R := fun n => ∃ x', ExprV extras text _ x' ∧ n = .push x') fun x' hx' => ⟨x', hx', rfl⟩).bind ?_
    rintro _ ⟨x', hx', rfl⟩
    exact (postfixes_post r _ hp).mono fun y hy => .push ht hc he hx' hy
  | leaf hl hp =>
    rw [nodeOfP_leaf hl.kinds]
    exact (leafNode_post hl).bind fun n hn => (postfixes_post r n hp).mono fun y hy => .leaf hn hy

/-- **`consume_expr` / `unaries` on pairs of the expected shape**: with fuel for the pairs there is no panic, and a value
returned is the expression the pairs denote. -/
theorem reads_post (extras : Bool) (text : Str) : ∀ f : Nat,
    (∀ pairs, ExprKids text pairs → sizeList pairs + 1 ≤ f → (consumeExpr extras text f pairs).Post (ExprV extras text pairs)) ∧
    (∀ pairs, UnArgs text pairs → sizeList pairs + 1 ≤ f → (unaries extras text f pairs).Post (UnArgsV extras text pairs)) := by
  intro f
  induction f with
  | zero => exact ⟨fun _ _ h => by omega, fun _ _ h => by omega⟩
  | succ f ih =>
    obtain ⟨ih1, ih2⟩ := ih
    constructor
    · intro pairs hk hfit
      cases hk with
      | mk lead t0 rest hl h0 hu0 hr hur =>
        have hd := dropLead_lead (r := rest.flatMap fun p => [p.1, p.2]) hl h0
        have hfit' : sizeList (t0 :: rest.flatMap fun p => [p.1, p.2]) ≤ f := by
          have := ReaderFull.sizeList_dropLead_le (lead ++ t0 :: rest.flatMap fun p => [p.1, p.2]); rw [hd] at this; omega
        simp only [consumeExpr, consumeExprStep, hd]
        refine infixStage_post (unaries extras text f) hl h0 (opTerms_flat rest hr)
          (fun t ht => by obtain ⟨p, hp, rfl⟩ := List.mem_map.1 ht; exact (hr p hp).2) fun t ht => ?_
        rcases List.mem_cons.1 ht with rfl | ht
        · exact ih2 _ hu0 (fit_child (List.mem_cons_self ..) hfit')
        · obtain ⟨p, hp, rfl⟩ := List.mem_map.1 ht
          exact ih2 _ (hur p hp) (fit_child (List.mem_cons_of_mem _ (List.mem_flatMap.2 ⟨p, hp, by simp⟩)) hfit')
    · intro pairs hu hfit
      simp only [unaries, unariesStep]
      cases hu with
      | tagged hg ha hb =>
        rename_i g asg rest
        obtain ⟨x, r, rfl, _⟩ := hb.head
        obtain ⟨body, hbody⟩ := hg
        have : getNodeTag text (g :: asg :: x :: r) = .ok (x, r, some body) := by
          simp [getNodeTag, ha, hbody, orPanic, R3.bind, ReaderFull.dropFirstByte, show '#'.utf8Size = 1 from by decide]
        rw [this]
        have h1 := fit_tail (Nat.le_of_succ_le_succ hfit)
        have hn := nodeOf_post ih1 ih2 hb (Nat.le_of_succ_le (fit_tail (Nat.le_of_succ_le h1)))
        simp only [R3.bind, wrapTag]
        cases extras
        · exact hn.mono fun y hy => .tagged hbody ha hy
        · exact hn.map fun y hy => .tagged hbody ha hy
      | plain hb =>
        obtain ⟨x, r, rfl, _⟩ := hb.head
        rw [getNodeTag_plain hb]
        exact (nodeOf_post ih1 ih2 hb (by omega)).mono fun y hy => .plain hy
      | parenRest he hk hc hp =>
        rename_i e c post
        have : getNodeTag text (e :: c :: post) = .ok (e, c :: post, none) := by simp [getNodeTag, hc]
        rw [this]
        simp only [R3.bind, wrapTag]
        rw [nodeOfP_expression he]
        exact (ih1 _ hk (fit_child (List.mem_cons_self ..) (Nat.le_of_succ_le_succ hfit))).bind fun n hn =>
          (postfixes_paren_post n hc hp).mono fun y hy => .parenRest he hn hc hy

theorem consumeExpr_dropLead {pairs : List Tree} (hk : ExprKids text pairs) (f : Nat) :
    consumeExpr extras text f (dropLead pairs) = consumeExpr extras text f pairs := by
  cases f with
  | zero => rfl
  | succ f =>
    obtain ⟨t0, rest, hd, h0, _⟩ := dropLead_kids hk
    have h2 : dropLead (dropLead pairs) = dropLead pairs := by rw [hd]; exact dropLead_lead (.inl rfl) h0
    simp only [consumeExpr, consumeExprStep, h2]

theorem consumeRule_post {fuel : Nat} {t : Tree} (h : RuleT text t)
    (hline : ∀ c rest, t.children = c :: rest → kind c ≠ "line_doc") (hfit : t.size ≤ fuel) :
    (consumeRule extras text fuel t).Post (RuleV extras text t) := by
  rcases h with ⟨c, rest, hc, hk⟩ | ⟨id, asg, mods, ob, e, cb, hc, hid, ⟨w, hw⟩, hm, hob, he, hk⟩
  · exact absurd hk (hline c rest hc)
  · have hsz : sizeList e.children + 1 ≤ fuel :=
      fit_child (t := e) (l := t.children) (by rw [hc]; rcases hm with rfl | ⟨m, rfl, _⟩ <;> simp)
        (by have := size_eq t; omega)
    obtain ⟨ty, hmv⟩ : ∃ ty, ModV mods ty := by
      rcases hm with rfl | ⟨m, rfl, h | h | h | h⟩
      · exact ⟨.normal, .inl ⟨rfl, rfl⟩⟩
      · exact ⟨.silent, .inr ⟨m, rfl, .inl ⟨h, rfl⟩⟩⟩
      · exact ⟨.atomic, .inr ⟨m, rfl, .inr (.inl ⟨h, rfl⟩)⟩⟩
      · exact ⟨.compound, .inr ⟨m, rfl, .inr (.inr (.inl ⟨h, rfl⟩))⟩⟩
      · exact ⟨.nonAtomic, .inr ⟨m, rfl, .inr (.inr (.inr ⟨h, rfl⟩))⟩⟩
    have parts := ok_of_toOption ((ruleParts_agree text t).trans
      (ReaderFull.ruleParts_shape hc hob (modV_modifierOf hmv) hw (exprKids_ne_nil hk)))
    simp only [consumeRule, parts, R3.bind]
    rw [consumeExpr_dropLead hk]
    exact ((reads_post extras text fuel).1 _ hk hsz).map fun body hb =>
      ⟨id, asg, mods, ob, e, cb, hc, by simp [hid], by simp [hw], hmv, hob, hb⟩

theorem consumeRulesGo_post {fuel : Nat} (ts : List Tree) :
    (∀ t ∈ ts, kind t = "grammar_rule" → RuleT text t) → (∀ t ∈ ts, t.size ≤ fuel) →
    (consumeRulesGo extras text fuel ts).Post (RulesV extras text ts) := by
  fun_induction consumeRulesGo extras text fuel ts with
  | case1 => exact fun _ _ => .pure .nil
  | case2 t ts hk hch =>
    intro h _
    rcases h t (by simp) hk with ⟨c, rest, hc, _⟩ | ⟨id, asg, mods, ob, e, cb, hc, _⟩ <;> simp [hch] at hc
  | case3 t ts hk c cs hch hl ih =>
    exact fun h hf => (ih (fun x hx => h x (by simp [hx])) (fun x hx => hf x (by simp [hx]))).mono fun rs hrs =>
      .doc hk hch hl hrs
  | case4 t ts hk c cs hch hnl ih =>
    intro h hf
    exact (consumeRule_post (h t (by simp) hk) (fun c' rest' hc' => by rw [hch] at hc'; cases hc'; exact hnl)
      (hf t (by simp))).bind fun r hr' =>
        (ih (fun x hx => h x (by simp [hx])) (fun x hx => hf x (by simp [hx]))).map fun rs hrs => .rule hk hr' hrs
  | case5 t ts hk ih =>
    exact fun h hf => (ih (fun x hx => h x (by simp [hx])) (fun x hx => hf x (by simp [hx]))).mono fun rs hrs =>
      .other hk hrs

/-- **`consume_rules_with_spans` on the pairs the meta-grammar produces**: no panic, and the rules returned are the rules the
pairs denote. -/
theorem consumeRulesWithSpans_post {forest : List Tree} (h : GrammarForest text forest) :
    (consumeRulesWithSpans extras text forest).Post (RulesV extras text forest) :=
  consumeRulesGo_post forest h (fun t ht => by have := size_le_of_mem ht; omega)

/-- **No panic site of `consume_rules` is reachable on pairs of the shape the meta-grammar produces.** -/
theorem consumeRules_np (extras : Bool) (text : Str) (forest : List Tree) (h : GrammarForest text forest) :
    consumeRules extras text forest ≠ .panic := by
  simp only [consumeRules]
  apply bind_np (consumeRulesWithSpans_post h).1
  intro rules _
  split <;> simp

end PestModel.ReaderShape

namespace PestModel.ReaderValue
open PestModel.G PestModel.Reader PestModel.ReaderFull PestModel.ReaderShape
open PestModel.Views (Tree sizeList)
open PestModel.LineCol (Str)
open PestModel.C07Full

/-- **whatever `consume_expr` / `unaries` return on pairs of the expected shape is what the pairs denote**: with more fuel
they return the same (`consumeExpr_mono`), the three-valued reader returns it too (`rec_agree`), and with enough fuel that is the
denoted value (`reads_post`). -/
theorem reads_sound (extras : Bool) (text : Str) : ∀ f : Nat,
    (∀ pairs e, ExprKids text pairs → consumeExpr extras text f pairs = some e → ExprV extras text pairs e) ∧
    (∀ pairs e, UnArgs text pairs → unaries extras text f pairs = some e → UnArgsV extras text pairs e) := by
  intro f
  refine ⟨fun pairs e hk h => ?_, fun pairs e hu h => ?_⟩
  · have hp := (reads_post extras text _).1 pairs hk (Nat.le_max_right f _)
    exact hp.of_toOption (((PestModel.ReaderAgree.rec_agree extras text _).1 pairs).trans
      (consumeExpr_mono extras text f _ (Nat.le_max_left f _) pairs e h))
  · have hp := (reads_post extras text _).2 pairs hu (Nat.le_max_right f _)
    exact hp.of_toOption (((PestModel.ReaderAgree.rec_agree extras text _).2 pairs).trans
      (unaries_mono extras text f _ (Nat.le_max_left f _) pairs e h))

theorem rulesV_of_success {extras : Bool} {text : Str} {forest : List Tree} {rs : List Rule} (hs : GrammarForest text forest)
    (h : consumeRulesWithSpans extras text forest = some rs) : RulesV extras text forest rs :=
  have hp := consumeRulesWithSpans_post (extras := extras) hs
  hp.of_toOption ((PestModel.ReaderAgree.consumeRulesGo_agree extras text _ forest).trans h)

/-- **The reader, characterised**: on the pairs the meta-grammar produces, `consume_rules` returns `rs` exactly when the
pairs denote `rs` (precedence, grouping, tags, prefix and postfix operators as `ExprV` says) and `validate_ast` has nothing
to report. -/
theorem consumeRules_exact (extras : Bool) (text : Str) (forest : List Tree) (hs : GrammarForest text forest) (rs : List Rule) :
    consumeRules extras text forest = some rs ↔ RulesV extras text forest rs ∧ PestModel.V.validateAst extras rs = [] := by
  constructor
  · intro h
    obtain ⟨h1, h2⟩ := (consumeRules_iff extras text forest rs).1 h
    exact ⟨rulesV_of_success hs h1, h2⟩
  · intro ⟨h1, h2⟩
    exact consumeRules_value extras text forest rs h1 h2

end PestModel.ReaderValue
