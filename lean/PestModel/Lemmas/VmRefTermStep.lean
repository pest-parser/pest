import PestModel.Lemmas.VmRefTermMain
/-! C01 (termination): the step `TF X → TF (step c X)` for a family `X` below the limit, by the unfolding equations of
`VmRefD`, and `TF` of every fuel level. -/
namespace PestModel.VmRef
open PestModel.G PestModel.PS PestModel.Lower PestModel.Ref PestModel.Views PestModel.Track
open PestModel.RefTrace (LA)
open PestModel.LineCol (Str isBoundary bLen cLen splitAt? slice?)

section
variable {env : Env} {extras memchr : Bool} {input : Str}

variable (hsize : env.rules.length ≤ 333333333) (hgood : GoodRules extras env.rules)
  (htr : TagRules extras env.rules)
include hsize hgood htr

/-- `X.le (V c)` lets a definite answer of `X` be read as the limit's, for which `PE_all` relates the state after a
sub-program to the reference's; `Reg X` is what the loop equations need. -/
theorem TF_step {X : Fam} (hX : Reg X) (hle : X.le (V (mkCtx env extras input))) (ih : TF env extras memchr input X) :
    TF env extras memchr input (step (mkCtx env extras input) X) where
  ca := fun name m la hreach => by
    show TermS _ _ _ _ _ (callF _ X m la.b name)
    unfold callRule
    cases hidx : env.index name with
    | none => exact fun st σ hs _ => term_builtin hsize name st hs.good
    | some i =>
      dsimp only
      obtain ⟨r, hget, hname, hlook, hrule, hfind⟩ := index_some (extras := extras) (input := input) hidx
      have hmem : r ∈ env.rules := List.mem_of_getElem? hget
      have hc : CtxOK env extras (bodyMode r.name r.ty m) r.expr :=
        ⟨fun n' hn' => Reach.step hreach hfind hn', htr r hmem m (by rw [hname]; exact hreach)⟩
      rw [callF_eq, hrule]
      exact tS_call (env_get m hget) (vmRule_cases (P := fun p m' D _ => TermS (mkCfg env memchr) input p m' la D)
        (B := fun m' => X.d m' la.b (ofOptimized r.expr)) (BT := fun _ _ _ _ => True) env i r m la.b la
        (fun h => tS_rule i _ h) (fun h => tS_atomic _ h) (ih.e r.expr _ la (hgood.expr r hmem) hc))
  st := fun name la => by
    show TermS _ _ _ _ _ (fun σ => starF X la.b name σ [])
    rw [starF_eq]
    exact tS_repLoop (ih.ca name .nonAtomic la (Reach.entry _))
      (fun k => spec_callRule hsize hgood htr (PE_all hsize hgood htr k) name .nonAtomic la (Reach.entry _))
      (fun σ => agree_of_le (hle.ca _ la.b name σ)) (ih.st name la) (hX.st_acc la.b name)
  cl := fun la => by
    show TermS _ _ _ _ _ (fun σ => commentLoopF X la.b σ [])
    rw [commentLoopF_eq hX]
    exact tS_repLoop
      (tS_sequence (tS_andThen (ih.ca "COMMENT" .nonAtomic la (Reach.entry _))
        (fun k => spec_callRule hsize hgood htr (PE_all hsize hgood htr k) "COMMENT" .nonAtomic la (Reach.entry _))
        (fun σ => agree_of_le (hle.ca _ la.b _ σ)) (tS_repeat (ih.st "WHITESPACE" la))))
      (fun k => spec_cmUnit hsize hgood htr (PE_all hsize hgood htr k) la)
      (agree_seqD (fun σ => agree_of_le (hle.ca _ la.b _ σ)) fun σ => agree_of_le (hle.st la.b _ σ []))
      (ih.cl la) (hX.cl_acc la.b)
  k := fun m la => by
    show TermS _ _ _ _ _ (skipWsF _ X m la.b)
    unfold skipProg
    by_cases hm : m ≠ .nonAtomic
    · rw [if_pos hm]
      exact tS_leaf
    · rw [if_neg hm]
      have hm' : m = .nonAtomic := by simpa using hm
      subst hm'
      rw [skipWsF_nonAtomic _ hX, has_eq, has_eq]
      cases h1 : env.has "WHITESPACE" <;> cases h2 : env.has "COMMENT" <;> dsimp only
      · exact tS_leaf
      · exact tS_repeat (ih.st "COMMENT" la)
      · exact tS_repeat (ih.st "WHITESPACE" la)
      · exact tS_sequence (tS_andThen (tS_repeat (ih.st "WHITESPACE" la))
          (fun k => spec_star hsize hgood htr (PE_all hsize hgood htr k) "WHITESPACE" hgood.ws la)
          (fun σ => agree_of_le (hle.st la.b _ σ [])) (tS_repeat (ih.cl la)))
  l := fun e m la hg hc => by
    show TermS _ _ _ _ _ (fun σ => repLoopF X m la.b (ofOptimized e) σ [])
    rw [repLoopF_eq]
    exact tS_repLoop
      (tS_sequence (tS_andThen (ih.k m la)
        (fun k => spec_skipProg hsize hgood htr (PE_all hsize hgood htr k) m la)
        (fun σ => agree_of_le (hle.k m la.b σ)) (ih.e e m la hg hc)))
      (fun k => spec_unit hsize hgood htr (PE_all hsize hgood htr k) (PE_all hsize hgood htr _ e m la hg hc))
      (agree_seqD (fun σ => agree_of_le (hle.k m la.b σ)) fun σ => agree_of_le (hle.d m la.b _ σ))
      (ih.l e m la hg hc) (hX.l_acc m la.b _)
  e := fun e => by
    have aE : ∀ (m : Atomicity) (la : LA) (a : OExpr) (σ : St), X.d m la.b (ofOptimized a) σ ≠ .fuel →
        X.d m la.b (ofOptimized a) σ = val (mkCtx env extras input) m la.b (ofOptimized a) σ :=
      fun m la a σ => agree_of_le (hle.d m la.b _ σ)
    show ∀ (m : Atomicity) (la : LA), GoodE extras env.rules e → CtxOK env extras m e →
      TermS _ _ _ m la (denoteF _ X m la.b (ofOptimized e))
    induction e with
    | str _ | insens _ | range _ _ | peekSlice _ _ | skip _ | pushLiteral _ => exact fun m la _ _ => tS_leaf
    | ident name =>
      intro m la _ hc
      rw [ofOptimized, denoteF_ident]
      exact ih.ca name m la (hc.1 name (by simp [identsOf]))
    | posPred e _ =>
      intro m la hg hc
      have h := ih.e e m la.enterPos hg hc
      rw [show la.enterPos.b = true from la_inner_b true la] at h
      rw [ofOptimized, denoteF_posPred]
      exact tS_lookahead true h
    | negPred e _ =>
      intro m la hg hc
      have h := ih.e e m la.enterNeg hg hc
      rw [show la.enterNeg.b = true from la_inner_b false la] at h
      rw [ofOptimized, denoteF_negPred]
      exact tS_lookahead false h
    | seq a b _ _ =>
      intro m la hg hc
      obtain ⟨hga, hgb⟩ := hg
      rw [ofOptimized, denoteF_seq]
      exact tS_sequence (tS_andThen (tS_andThen (ih.e a m la hga hc.left)
        (fun k => PE_all hsize hgood htr _ a m la hga hc.left) (aE m la a) (ih.k m la))
        (fun k => spec_andThen (PE_all hsize hgood htr _ a m la hga hc.left)
          (spec_skipProg hsize hgood htr (PE_all hsize hgood htr k) m la))
        (agree_seqD (aE m la a) fun σ => agree_of_le (hle.k m la.b σ)) (ih.e b m la hgb hc.right))
    | choice a b _ _ =>
      intro m la hg hc
      obtain ⟨hda, hga, hgb⟩ := hg
      rw [ofOptimized, denoteF_choice]
      exact tS_orElse (ih.e a m la hga hc.cleft) (fun k => (GenVm.es_all hsize k a m).weaken hda)
        (fun k => PE_all hsize hgood htr _ a m la hga hc.cleft)
        (aE m la a) (ih.e b m la hgb hc.cright)
    | opt e _ =>
      intro m la hg hc
      rw [ofOptimized, denoteF_opt]
      exact tS_optional (ih.e e m la hg.2 hc)
    | rep e _ =>
      intro m la hg hc
      obtain ⟨hd, hge⟩ := hg
      rw [ofOptimized, denoteF_rep _ hX]
      exact tS_sequence (tS_optional (tS_andThen (ih.e e m la hge hc)
        (fun k => PE_all hsize hgood htr _ e m la hge hc) (aE m la e) (tS_repeat (ih.l e m la hge hc))))
    | repOnce e _ =>
      intro m la hg hc
      obtain ⟨hx, hge⟩ := hg
      rw [ofOptimized, denoteF_repOnce _ hX m la.b (by exact hx)]
      exact tS_sequence (tS_andThen (ih.e e m la hge hc) (fun k => PE_all hsize hgood htr _ e m la hge hc)
        (aE m la e) (tS_repeat (ih.l e m la hge hc)))
    | push e _ =>
      intro m la hg hc
      rw [ofOptimized, denoteF_push]
      exact tS_stackPush (ih.e e m la hg hc)
    | nodeTag e t _ =>
      intro m la hg hc
      rw [ofOptimized, denoteF_nodeTag]
      exact tS_congr (tS_andThen (D2n := fun σ => .ok σ []) (ih.e e m la hg hc.tag)
        (fun k => PE_all hsize hgood htr _ e m la hg hc.tag) (aE m la e) (tS_leaf))
        fun σ h => tagD_ne_fuel h
    | restoreOnErr e ihe =>
      intro m la hg hc
      exact tS_restoreOnErr (ihe m la hg hc)

theorem TF_all : ∀ n, TF env extras memchr input (lev (mkCtx env extras input) n)
  | 0 => TF_bot (lev_zero _)
  | n + 1 => lev_succ _ n ▸ TF_step hsize hgood htr (reg_lev _ n) (lev_le_V _ n) (TF_all n)

end
end PestModel.VmRef
