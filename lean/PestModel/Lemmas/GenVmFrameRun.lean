import PestModel.Lemmas.GenVmFrame
/-! C02: `run` does not look at the saved snapshots: from `SEq` states the same program reaches
`SEq` outcomes with the same fuel (`run_frame`). -/
namespace PestModel.GenVm
open PestModel.PS PestModel.Stack
open PestModel.LineCol (Str isBoundary slice?)

variable {cfg : Cfg}

theorem frame_K {pre : PState → PState} {K : PState → Out → Out} (hK : KOK K) (hF : KFrame pre K)
    {s1 s2 : PState} (hs : SEq s1 s2) {o1 o2 : Out} (ho : OEqF o1 o2)
    (r1 : ∀ x, o1.state? = some x → Rel (pre s1) x) (r2 : ∀ x, o2.state? = some x → Rel (pre s2) x) :
    OEq0F (K s1 o1) (K s2 o2) := by
  cases o1 <;> cases o2 <;> try exact False.elim ho
  · exact hF.hok _ _ _ _ hs (r1 _ rfl) (r2 _ rfl) ho
  · exact hF.herr _ _ _ _ hs (r1 _ rfl) (r2 _ rfl) ho
  · rw [hK.panic, hK.panic]; trivial
  · rw [hK.fuel, hK.fuel]; trivial

theorem rel_of_state {n : Nat} {p : Prog} {s x : PState} (h : (run cfg n p s).state? = some x) : Rel s x :=
  run_rel cfg n p s x h

theorem frame_bracket {f : Nat} {X body : Prog} {pre : PState → PState} {K : PState → Out → Out}
    (hrun : Br cfg X body pre K) (hK : KOK K) (hF : KFrame pre K)
    (ih : ∀ p s1 s2, SEq s1 s2 → OEqF (run cfg f p s1) (run cfg f p s2)) {s1 s2 : PState} (hs : SEq s1 s2) :
    OEqF (run cfg (f+1) X s1) (run cfg (f+1) X s2) := by
  refine ORel.upgrade ?_ (fun _ hx => good_run hs.g1 hx) (fun _ hx => good_run hs.g2 hx)
  rw [hrun f s1 hs.g1, hrun f s2 hs.g2]
  exact frame_K hK hF hs (ih body _ _ (hF.hpre _ _ hs)) (fun _ h => rel_of_state h) (fun _ h => rel_of_state h)

/-- leaves that read of the stack at most its current contents. -/
def _root_.PestModel.PS.Prog.cacheLeaf : Prog → Prop
  | .matchString _ | .matchInsensitive _ | .matchRange _ _ | .matchCharBy _ | .skip _ | .stackPeek
  | .stackMatchPeek | .stackMatchPeekSlice _ _ _ => True
  | p => p.pureLeaf

theorem ws_input (a : Stk Str) (s : PState) : (ws a s).input = s.input := rfl
theorem ws_pos (a : Stk Str) (s : PState) : (ws a s).pos = s.pos := rfl

/-- such a leaf commutes with replacing the stack by one with the same contents. -/
theorem cacheLeaf_ws (f : Nat) (p : Prog) (hp : p.cacheLeaf) {s : PState} (hg : Good s) (st : Stk Str)
    (hc : st.cache = s.stack.cache) :
    run cfg (f+1) p (ws st s) = (run cfg (f+1) p s).mapState (ws st) := by
  have hg2 : reachedCallLimit (ws st s) = false := hg.notLimit
  cases p <;> first | exact leaf_rew id id (fun _ => st) cfg f _ s hp | exact hp.elim | rw [PS.run, PS.run]
  case stackPeek =>
    rw [hg.notLimit, hg2]
    simp only [Bool.false_eq_true, if_false, ws_stack, ws_input, ws_pos, hc]
    cases s.stack.cache.head? with
    | none => rfl
    | some str => exact terminal_rew id id (fun _ => st) (handleToken_rewc id _) s _ _
  case stackMatchPeek =>
    simp only [ws_stack, ws_input, ws_pos, hc]
    split
    · rfl
    · split <;> rfl
  case stackMatchPeekSlice a b d =>
    simp only [ws_stack, ws_input, ws_pos, hc]
    split
    · rfl
    · split
      · rfl
      · split <;> rfl
  all_goals exact terminal_rew id id (fun _ => st) (handleToken_rewc id _) s _ _

theorem frame_cacheLeaf (f : Nat) (p : Prog) (hp : p.cacheLeaf) (st : Stk Str) {s : PState} (hg : Good s)
    (hc : s.stack.cache = st.cache) : OEq0F (run cfg (f+1) p s) (run cfg (f+1) p (ws st s)) :=
  oeq0_of_comm (cacheLeaf_ws f p hp hg s.stack rfl) (cacheLeaf_ws f p hp hg st hc.symm) hc

theorem frame_terminal (st : Stk Str) (s : PState) (r : Option (Bool × Nat)) (tok : Option PTok)
    (hc : s.stack.cache = st.cache) : OEq0F (terminal s r tok) (terminal (ws st s) r tok) :=
  oeq0_of_comm (terminal_rew id id (fun _ => s.stack) (handleToken_rewc id _) s r tok)
    (terminal_rew id id (fun _ => st) (handleToken_rewc id _) s r tok) hc

theorem pop_frame {a b : Stk Str} (ia : StkInv a) (ib : StkInv b) (hc : a.cache = b.cache) :
    ∃ a' b' v, Stack.pop a = some (a', v) ∧ Stack.pop b = some (b', v) ∧ StkInv a' ∧ StkInv b' ∧
      a'.cache = b'.cache ∧ v = a.cache.head? := by
  obtain ⟨a', v, ha⟩ := pop_total a
  obtain ⟨b', w, hb⟩ := pop_total b
  obtain ⟨i1, e1, c1, -⟩ := pop_spec a a' v ia ha
  obtain ⟨i2, e2, c2, -⟩ := pop_spec b b' w ib hb
  have : w = v := by rw [e1, e2, hc]
  subst this
  exact ⟨a', b', w, ha, hb, i1, i2, by rw [c1, c2, hc], e1⟩

theorem matchPopLoop_frame (input : Str) : ∀ (n : Nat) (a b : Stk Str) (pos : Nat), StkInv a → StkInv b →
    a.cache = b.cache →
    (matchPopLoop input n a pos = none ∧ matchPopLoop input n b pos = none) ∨
    ∃ a' b' ok pos', matchPopLoop input n a pos = some (a', ok, pos') ∧
      matchPopLoop input n b pos = some (b', ok, pos') ∧ a'.cache = b'.cache
  | 0, a, b, pos, _, _, hc => Or.inr ⟨a, b, true, pos, rfl, rfl, hc⟩
  | n + 1, a, b, pos, ia, ib, hc => by
    obtain ⟨a', b', v, ha, hb, ia', ib', hc', -⟩ := pop_frame ia ib hc
    unfold matchPopLoop
    rw [ha, hb]
    cases v with
    | none => exact Or.inr ⟨a', b', true, pos, rfl, rfl, hc'⟩
    | some x =>
      dsimp only
      cases hm : posMatchString input pos x with
      | none => exact Or.inl ⟨rfl, rfl⟩
      | some r =>
        obtain ⟨ok, pos'⟩ := r
        cases ok with
        | true => exact matchPopLoop_frame input n a' b' pos' ia' ib' hc'
        | false => exact Or.inr ⟨a', b', false, pos, rfl, rfl, hc'⟩

theorem frame_stackPop (f : Nat) (st : Stk Str) (s : PState) (hg : Good s) (hi : StkInv st)
    (hc : s.stack.cache = st.cache) : OEq0F (run cfg (f+1) .stackPop s) (run cfg (f+1) .stackPop (ws st s)) := by
  have hg2 : reachedCallLimit (ws st s) = false := hg.notLimit
  obtain ⟨a', b', v, ha, hb, -, -, hc', -⟩ := pop_frame hg.wf.2 hi hc
  rw [PS.run, PS.run, hg.notLimit, hg2]
  simp only [Bool.false_eq_true, if_false, ws_stack, ha, hb]
  cases v with
  | none => trivial
  | some str => exact frame_terminal b' (ws a' s) _ _ hc'

theorem frame_stackMatchPop (f : Nat) (st : Stk Str) (s : PState) (hg : Good s) (hi : StkInv st)
    (hc : s.stack.cache = st.cache) :
    OEq0F (run cfg (f+1) .stackMatchPop s) (run cfg (f+1) .stackMatchPop (ws st s)) := by
  rw [PS.run, PS.run]
  simp only [ws_stack, ws_input, ws_pos, ← hc]
  rcases matchPopLoop_frame s.input (s.stack.cache.length + 1) s.stack st s.pos hg.wf.2 hi hc with
    ⟨h1, h2⟩ | ⟨a', b', ok, pos', h1, h2, hc'⟩
  · rw [h1, h2]; trivial
  · rw [h1, h2]
    cases ok with
    | true => exact ⟨rfl, hc'⟩
    | false => exact ⟨rfl, hc'⟩

theorem frame_stackDrop (f : Nat) (st : Stk Str) (s : PState) (hg : Good s) (hi : StkInv st)
    (hc : s.stack.cache = st.cache) :
    OEq0F (run cfg (f+1) .stackDrop s) (run cfg (f+1) .stackDrop (ws st s)) := by
  obtain ⟨a', b', v, ha, hb, -, -, hc', -⟩ := pop_frame hg.wf.2 hi hc
  rw [PS.run, PS.run]
  simp only [ws_stack, ha, hb]
  cases v with
  | none => exact ⟨rfl, hc⟩
  | some str => exact ⟨rfl, hc'⟩

theorem frame_stackPushLiteral (f : Nat) (str : Str) (st : Stk Str) (s : PState)
    (hc : s.stack.cache = st.cache) :
    OEq0F (run cfg (f+1) (.stackPushLiteral str) s) (run cfg (f+1) (.stackPushLiteral str) (ws st s)) := by
  rw [PS.run, PS.run]
  exact ⟨rfl, congrArg (List.cons str) hc⟩

/-- **Frame independence**: the saved snapshots below the current one are never looked at. -/
theorem run_frame (cfg : Cfg) : ∀ (n : Nat) (p : Prog) (s1 s2 : PState), SEq s1 s2 →
    OEqF (run cfg n p s1) (run cfg n p s2)
  | 0, p, s1, s2, _ => by rw [run_zero, run_zero]; trivial
  | n + 1, p, s1, s2, hs => by
    have ih := run_frame cfg n
    have up : OEq0F (run cfg (n+1) p s1) (run cfg (n+1) p s2) → OEqF (run cfg (n+1) p s1) (run cfg (n+1) p s2) :=
      fun h => ORel.upgrade h (fun _ hx => good_run hs.g1 hx) (fun _ hx => good_run hs.g2 hx)
    obtain ⟨st, rfl, hc⟩ := hs.core.exists
    cases p with
    | sequence p => exact frame_bracket (Shape.sequence p).br (Shape.sequence p).kok seqK_frame ih hs
    | optional p => exact frame_bracket (Shape.optional p).br (Shape.optional p).kok optK_frame ih hs
    | repeat_ p => exact frame_bracket (Shape.repeat_ p).br (Shape.repeat_ p).kok idK_frame ih hs
    | lookahead b p => exact frame_bracket (Shape.lookahead b p).br (Shape.lookahead b p).kok (laK_frame b) ih hs
    | atomic a p => exact frame_bracket (Shape.atomic a p).br (Shape.atomic a p).kok (atomK_frame a) ih hs
    | rule r p => exact frame_bracket (br_rule r p) (ruleK_ok r) (ruleK_frame r) ih hs
    | stackPush p => exact frame_bracket (Shape.stackPush p).br (Shape.stackPush p).kok pushK_frame ih hs
    | restoreOnErr p => exact frame_bracket (Shape.restoreOnErr p).br (Shape.restoreOnErr p).kok roeK_frame ih hs
    | repLoop p =>
      rw [run_repLoop, run_repLoop]
      exact ORel.elim (ih p _ _ hs) (fun _ _ h => ih _ _ _ h) (fun _ _ h => h) trivial trivial
    | andThen p q =>
      rw [run_andThen, run_andThen]
      exact ORel.elim (ih p _ _ hs) (fun _ _ h => ih _ _ _ h) (fun _ _ h => h) trivial trivial
    | orElse p q =>
      rw [run_orElse, run_orElse]
      exact ORel.elim (ih p _ _ hs) (fun _ _ h => h) (fun _ _ h => ih _ _ _ h) trivial trivial
    | call i =>
      rw [run_call, run_call]
      cases cfg.env[i]? with
      | none => trivial
      | some q => exact ih q _ _ hs
    | matchString _ | matchInsensitive _ | matchRange _ _ | matchCharBy _ | skip _ | skipUntil _ | startOfInput
    | endOfInput | tagNode _ | ok | fail | stackPeek | stackMatchPeek | stackMatchPeekSlice _ _ _ =>
      exact up (frame_cacheLeaf n _ (by trivial) st hs.g1 hc)
    | stackPop => exact up (frame_stackPop n st s1 hs.g1 hs.g2.wf.2 hc)
    | stackMatchPop => exact up (frame_stackMatchPop n st s1 hs.g1 hs.g2.wf.2 hc)
    | stackDrop => exact up (frame_stackDrop n st s1 hs.g1 hs.g2.wf.2 hc)
    | stackPushLiteral str => exact up (frame_stackPushLiteral n str st s1 hc)

end PestModel.GenVm
