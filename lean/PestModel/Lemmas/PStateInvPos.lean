import PestModel.Thm.C03Prim
/-! Position primitives of `PState.lean`: results are boundaries not before the start, and no
primitive panics at a boundary. -/
namespace PestModel.PS
open PestModel.LineCol

theorem restAt_isSome {input : Str} {pos : Nat} (h : isBoundary input pos = true) :
    ∃ rest, restAt input pos = some rest := by
  unfold isBoundary at h
  obtain ⟨⟨a, b⟩, hs⟩ := Option.isSome_iff_exists.mp h
  exact ⟨b, by simp [restAt, hs]⟩

/-- Outcome of a position primitive: a boundary not before `pos`. -/
def PosGood (input : Str) (pos : Nat) (r : Option (Bool × Nat)) : Prop :=
  ∀ b pos', r = some (b, pos') → pos ≤ pos' ∧ isBoundary input pos' = true

/-- How the matching primitives of `position.rs` answer: nothing off a boundary; at a boundary
either a hit that advances over a prefix of the remaining input, or a miss that stays. -/
inductive PrimRes (input : Str) (pos : Nat) : Option (Bool × Nat) → Prop
  | off : restAt input pos = none → PrimRes input pos none
  | hit {rest pre post : Str} : restAt input pos = some rest → rest = pre ++ post →
      PrimRes input pos (some (true, pos + bLen pre))
  | miss {rest : Str} : restAt input pos = some rest → PrimRes input pos (some (false, pos))

variable {input : Str} {pos : Nat} {r : Option (Bool × Nat)}

theorem PrimRes.good (h : PrimRes input pos r) : PosGood input pos r := by
  intro b pos' e
  cases h with
  | off => cases e
  | hit hr hp => cases e; exact ⟨Nat.le_add_right _ _, restAt_isBoundary (restAt_advance hr hp)⟩
  | miss hr => cases e; exact ⟨Nat.le_refl _, restAt_isBoundary hr⟩

theorem PrimRes.isSome (h : PrimRes input pos r) (hb : isBoundary input pos = true) : ∃ x, r = some x := by
  cases h with
  | off hr => obtain ⟨rest, h⟩ := restAt_isSome hb; rw [hr] at h; cases h
  | hit => exact ⟨_, rfl⟩
  | miss => exact ⟨_, rfl⟩

theorem PrimRes.miss_pos {p : Nat} (h : PrimRes input pos r) (e : r = some (false, p)) : p = pos := by
  cases h with
  | off => cases e
  | hit => cases e
  | miss => cases e; rfl

theorem posMatchString_prim (input : Str) (pos : Nat) (str : Str) :
    PrimRes input pos (posMatchString input pos str) := by
  cases hr : restAt input pos with
  | none => unfold posMatchString; rw [hr]; exact .off hr
  | some rest =>
    rw [posMatchString_eq str hr]
    split
    · rename_i hp
      obtain ⟨t, ht⟩ := List.isPrefixOf_iff_prefix.1 hp
      exact .hit hr ht.symm
    · exact .miss hr

theorem posMatchInsensitive_prim (input : Str) (pos : Nat) (str : Str) :
    PrimRes input pos (posMatchInsensitive input pos str) := by
  cases hr : restAt input pos with
  | none => unfold posMatchInsensitive; rw [hr]; exact .off hr
  | some rest =>
    rcases C03.matchInsensitive_spec input rest str pos hr with ⟨pre, post, h1, -, -, h2, -⟩ | ⟨-, h2⟩
    · rw [h2]; exact .hit hr h1
    · rw [h2]; exact .miss hr

/-- The one-character primitives: a hit advances over the first remaining character. -/
theorem PrimRes.char {rest : Str} (hr : restAt input pos = some rest) (P : Char → Prop)
    [DecidablePred P] :
    PrimRes input pos (some (match rest with
      | [] => (false, pos)
      | c :: _ => if P c then (true, pos + cLen c) else (false, pos))) := by
  cases rest with
  | nil => exact .miss hr
  | cons c cs =>
    simp only []
    split
    · simpa using PrimRes.hit (pre := [c]) hr rfl
    · exact .miss hr

theorem posMatchRange_prim (input : Str) (pos : Nat) (a b : Char) :
    PrimRes input pos (posMatchRange input pos a b) := by
  cases hr : restAt input pos with
  | none => unfold posMatchRange; rw [hr]; exact .off hr
  | some rest => rw [C03.matchRange_spec input rest pos a b hr]; exact .char hr _

theorem posMatchCharBy_prim (input : Str) (pos : Nat) (cs : CharSet) :
    PrimRes input pos (posMatchCharBy input pos cs) := by
  cases hr : restAt input pos with
  | none => unfold posMatchCharBy; rw [hr]; exact .off hr
  | some rest => rw [C03.matchCharBy_spec input rest pos cs hr]; exact .char hr (cs.mem · = true)

theorem posSkip_prim (input : Str) (pos : Nat) (n : Nat) : PrimRes input pos (posSkip input pos n) := by
  cases hr : restAt input pos with
  | none => unfold posSkip; rw [hr]; exact .off hr
  | some rest =>
    rw [(C03.skip_spec input rest pos n hr).1]
    split
    · exact .hit hr (List.take_append_drop n rest).symm
    · exact .miss hr

theorem posMatchString_good (input : Str) (pos : Nat) (str : Str) :
    PosGood input pos (posMatchString input pos str) := (posMatchString_prim input pos str).good

theorem posMatchInsensitive_good (input : Str) (pos : Nat) (str : Str) :
    PosGood input pos (posMatchInsensitive input pos str) := (posMatchInsensitive_prim input pos str).good

theorem posMatchRange_good (input : Str) (pos : Nat) (a b : Char) :
    PosGood input pos (posMatchRange input pos a b) := (posMatchRange_prim input pos a b).good

theorem posMatchCharBy_good (input : Str) (pos : Nat) (cs : CharSet) :
    PosGood input pos (posMatchCharBy input pos cs) := (posMatchCharBy_prim input pos cs).good

theorem posSkip_good (input : Str) (pos : Nat) (n : Nat) :
    PosGood input pos (posSkip input pos n) := (posSkip_prim input pos n).good

/-- With or without `memchr`, `skip_until` advances over a prefix of the remaining input. -/
theorem posSkipUntil_split (memchr : Bool) (strs : List Str) {rest : Str}
    (hr : restAt input pos = some rest) :
    ∃ a b, rest = a ++ b ∧ posSkipUntil memchr input pos strs = some (pos + bLen a) := by
  obtain ⟨a, b, h1, h2, -⟩ := C03.skipUntil_spec input rest pos strs hr
  refine ⟨a, b, h1, ?_⟩
  cases memchr
  · exact h2
  · exact (C03.skipUntil_memchr_eq_basic input pos strs).trans h2

theorem posSkipUntil_good (memchr : Bool) (input : Str) (pos : Nat) (strs : List Str) (pos' : Nat)
    (h : posSkipUntil memchr input pos strs = some pos') :
    pos ≤ pos' ∧ isBoundary input pos' = true := by
  cases hr : restAt input pos with
  | none => simp [posSkipUntil, hr] at h
  | some rest =>
    obtain ⟨a, b, h1, h2⟩ := posSkipUntil_split memchr strs hr
    rw [h2] at h; cases h
    exact ⟨Nat.le_add_right _ _, restAt_isBoundary (restAt_advance hr h1)⟩

theorem posSkipUntil_isSome (memchr : Bool) {input : Str} {pos : Nat} (strs : List Str)
    (h : isBoundary input pos = true) : ∃ r, posSkipUntil memchr input pos strs = some r := by
  obtain ⟨rest, hr⟩ := restAt_isSome h
  obtain ⟨a, b, -, h2⟩ := posSkipUntil_split memchr strs hr
  exact ⟨_, h2⟩

theorem matchAll_good' (input : Str) (xs : List Str) (pos : Nat) (b : Bool) (pos' : Nat)
    (h : matchAll input xs pos = some (b, pos')) :
    pos ≤ pos' ∧ (isBoundary input pos = true → isBoundary input pos' = true) := by
  induction xs generalizing pos with
  | nil =>
    simp [matchAll] at h; obtain ⟨-, rfl⟩ := h
    exact ⟨Nat.le_refl _, id⟩
  | cons x xs ih =>
    unfold matchAll at h
    split at h
    · simp at h
    · rename_i p1 hm
      have h1 := posMatchString_good input pos x _ _ hm
      have h2 := ih p1 h
      exact ⟨Nat.le_trans h1.1 h2.1, fun _ => h2.2 h1.2⟩
    · simp at h; obtain ⟨-, rfl⟩ := h
      exact ⟨Nat.le_refl _, id⟩

theorem matchAll_good (input : Str) (xs : List Str) (pos : Nat) (hb : isBoundary input pos = true) :
    PosGood input pos (matchAll input xs pos) := fun b pos' h =>
  have ⟨h1, h2⟩ := matchAll_good' input xs pos b pos' h
  ⟨h1, h2 hb⟩

theorem matchAll_isSome (input : Str) (xs : List Str) (pos : Nat) (hb : isBoundary input pos = true) :
    ∃ r, matchAll input xs pos = some r := by
  obtain ⟨rest, hr⟩ := restAt_isSome hb
  obtain ⟨b, pos', h, -⟩ := matchAll_spec' input rest pos xs hr
  exact ⟨_, h⟩

end PestModel.PS
