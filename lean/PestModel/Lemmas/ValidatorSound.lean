import PestModel.Lemmas.ValidatorTerm
/-! C06: from `validateAst … = []` to termination of every rule call. -/

namespace PestModel.V
open PestModel.G PestModel.Ref
open PestModel.LineCol (Str bLen cLen)
open PestModel.Views (Tree)
open PestModel.PS (Atomicity CharSet)

/-- what `validateRepetition` checks at a node. -/
def RepOK (rules : List Rule) : Expr → Prop
  | .rep i | .repOnce i | .repMin i _ =>
    isNonFailing rules (fuelFor rules i) i [] = false ∧ isNonProgressing rules (fuelFor rules i) i [] = false
  | _ => True

/-- the shape of the two-stage checks: no finding iff both tests are negative. -/
theorem check2_eq_none {α : Type} {a b : Bool} {x y : α} :
    (if a = true then some x else if b = true then some y else none) = none ↔ a = false ∧ b = false := by
  cases a <;> cases b <;> simp

theorem validateRepetition_eq_nil {extras : Bool} {rules : List Rule} :
    validateRepetition extras rules = [] ↔ ∀ r ∈ rules, ∀ x ∈ subExprs extras r.expr, RepOK rules x := by
  unfold validateRepetition
  simp only [List.flatMap_eq_nil_iff, List.filterMap_eq_nil_iff]
  refine forall_congr' fun r => forall_congr' fun _ => forall_congr' fun x => forall_congr' fun _ => ?_
  cases x <;> simp [RepOK, check2_eq_none]

theorem validateWsComment_eq_nil {rules : List Rule} :
    validateWsComment rules = [] ↔ ∀ r ∈ rules, (r.name = "WHITESPACE" ∨ r.name = "COMMENT") →
      isNonFailing rules (fuelFor rules r.expr) r.expr [] = false ∧
        isNonProgressing rules (fuelFor rules r.expr) r.expr [] = false := by
  unfold validateWsComment
  simp only [List.filterMap_eq_nil_iff]
  refine forall_congr' fun r => forall_congr' fun _ => ?_
  by_cases hn : r.name = "WHITESPACE" ∨ r.name = "COMMENT" <;> simp [hn, check2_eq_none]

section
variable {extras : Bool} {rules : List Rule}
  (hsf : ∀ r ∈ rules, SF r.expr = true) (htag : ∀ r ∈ rules, TagOK extras r.expr = true)
  (hlr : leftRecursion extras rules = [])

include hsf htag hlr in
theorem prog_of_np {e : Expr} (hs : SF e = true) (ht : TagOK extras e = true)
    (h : isNonProgressing rules (fuelFor rules e) e [] = false) : Prog rules e := by
  rcases np_false_cases extras rules hsf htag (fun _ => no_name_cycle hlr)
      _ e [] "" hs ht (fun hne => absurd rfl hne) (fuelFor_ok _ _ _) h with hp | ⟨id, hid, _⟩
  · exact hp
  · simp at hid

include hsf htag hlr in
theorem good_of_validate : ∀ e : Expr, SF e = true → TagOK extras e = true →
    (∀ x ∈ subExprs extras e, RepOK rules x) → Good rules e := by
  intro e
  induction e with
  | seq a b iha ihb | choice a b iha ihb =>
    intro hs ht hx
    have hs := Bool.and_eq_true_iff.1 hs
    have htt := tagOK_bin (extras := extras) (a := a) (b := b) ht
    simp only [subExprs, List.mem_cons, List.mem_append] at hx
    exact ⟨iha hs.1 htt.1 (fun x h => hx x (Or.inr (Or.inl h))), ihb hs.2 htt.2 (fun x h => hx x (Or.inr (Or.inr h)))⟩
  | rep i ih | repOnce i ih | repMin i n ih =>
    intro hs ht hx
    simp only [subExprs, List.mem_cons] at hx
    have h1 : RepOK rules _ := hx _ (Or.inl rfl)
    exact ⟨prog_of_np hsf htag hlr hs ht h1.2, ih hs ht (fun x h => hx x (Or.inr h))⟩
  | posPred i ih | negPred i ih | opt i ih | repExact i n ih | repMax i n ih | repMinMax i lo hi ih =>
    intro hs ht hx
    simp only [subExprs, List.mem_cons] at hx
    exact ih hs ht (fun x h => hx x (Or.inr h))
  | push i ih => intro hs; exact absurd hs Bool.false_ne_true
  | nodeTag i t ih =>
    intro hs ht hx
    have hex : extras = true := (Bool.or_false extras).symm.trans ht
    subst hex
    simp only [subExprs, List.mem_cons, if_true] at hx
    exact ih hs rfl (fun x h => hx x (Or.inr h))
  | _ => intros; trivial

end

/-- an accepted stack-free grammar (tags only with `grammar-extras`) satisfies the static facts. -/
theorem accepted_of_validate {c : Ctx} (hsf : ∀ r ∈ c.rules, SF r.expr = true)
    (htag : ∀ r ∈ c.rules, TagOK c.extras r.expr = true) (hv : validateAst c.extras c.rules = []) :
    Accepted c := by
  unfold validateAst at hv
  simp only [List.append_eq_nil_iff] at hv
  obtain ⟨⟨⟨⟨hrep, _⟩, hws⟩, hlr⟩, _⟩ := hv
  refine ⟨hsf, htag, ?_, hlr, ?_⟩
  · intro n body hl
    obtain ⟨r, hr, _, hrb⟩ := lookup_some_mem hl
    subst hrb
    exact ⟨hsf r hr, htag r hr,
      good_of_validate hsf htag hlr r.expr (hsf r hr) (htag r hr) (validateRepetition_eq_nil.1 hrep r hr)⟩
  · exact fun r hr hn => prog_of_np hsf htag hlr (hsf r hr) (htag r hr) (validateWsComment_eq_nil.1 hws r hr hn).2

/-- **termination of every rule call** in an accepted grammar. -/
theorem sound_core {c : Ctx} (hsf : ∀ r ∈ c.rules, SF r.expr = true)
    (htag : ∀ r ∈ c.rules, TagOK c.extras r.expr = true) (hv : validateAst c.extras c.rules = []) :
    ∀ nm s m la, valCa c m la nm s ≠ .fuel :=
  calls_term_all (accepted_of_validate hsf htag hv)

end PestModel.V
