import PestModel.Lemmas.JsonList
/-!
Which alternative of `value` can apply on a given first character; the rules
`bool`, `null`, `pair`; the statements of the induction and its steps for `members`, `elements`, `object`,
`array`.
-/
namespace PestModel.Json
open PestModel.Ref PestModel.G
open PestModel.LineCol (Str cLen bLen)
open PestModel.PS (Atomicity CharSet restAt restAt_iff restAt_advance)
open PestModel.Views (Tree)

theorem number_nil {c : Cur} (hr : c.rest = []) : number c = none := by
  rw [number_eq, numL_eq, signC_eq, chL_nil hr]
  unfold intL orL seqL
  rw [Option.getD_none, chL_nil hr, chL_nil hr]
  rfl

theorem number_none {c : Cur} {ch : Char} {cs : Str} (hr : c.rest = ch :: cs) (h1 : ch ≠ '-') (h2 : isDigit ch = false) :
    number c = none := by
  have h0 : ch ≠ '0' := by intro e; subst e; simp [isDigit] at h2
  have h19 : ¬ ('1' ≤ ch ∧ ch ≤ '9') := fun h => Bool.false_ne_true (h2.symm.trans (isDigit_of_nz h))
  rw [number_eq, numL_eq, signC_eq, chL_cons hr]
  unfold intL orL seqL
  simp [chL_cons hr, h0, h1, h19]

theorem literal_none {c : Cur} {a : Char} {as : Str} {label : String} (h : hd c a = false) :
    literal (a :: as) label c = none := by
  unfold literal
  cases hr : c.rest with
  | nil => simp [List.isPrefixOf]
  | cons ch cs =>
    rw [hd_cons hr] at h
    have : ¬ a = ch := fun e => by rw [e] at h; simp at h
    simp [List.isPrefixOf, this]

theorem value_close {c : Cur} {cs : Str} (hr : c.rest = ']' :: cs) (f : Nat) : value f c = none := by
  cases f with
  | zero => rfl
  | succ f =>
    rw [value_succ]
    have : valueInner f c = none := by
      unfold valueInner
      simp only [hr]
      exact number_none hr (by decide) (by decide)
    rw [this]

/-- ordered choice of RFC results. -/
def orJ (X Y : Option (JTree × Cur)) : Option (JTree × Cur) :=
  match X with
  | some r => some r
  | none => Y

theorem orJ_assoc (X Y Z : Option (JTree × Cur)) : orJ (orJ X Y) Z = orJ X (orJ Y Z) := by
  cases X <;> rfl

theorem vRes_orJ (X Y : Option (JTree × Cur)) (stk : List Str) :
    orR (vRes X stk) (vRes Y stk) = vRes (orJ X Y) stk := by
  cases X <;> rfl

/-- the dispatch of `value` on the first character is an ordered choice, in the grammar's order:
every alternative but the chosen one fails on that character. -/
theorem valueInner_eq (f : Nat) (c : Cur) :
    valueInner f c =
      orJ (string c) (orJ (number c) (orJ (if hd c '{' then object f c else none)
        (orJ (if hd c '[' then array f c else none)
          (orJ (orJ (literal ['t', 'r', 'u', 'e'] "bool" c) (literal ['f', 'a', 'l', 's', 'e'] "bool" c))
            (literal ['n', 'u', 'l', 'l'] "null" c))))) := by
  unfold valueInner
  cases hr : c.rest with
  | nil =>
    rw [string_none (hd_nil hr _), number_nil hr, literal_none (hd_nil hr _), literal_none (hd_nil hr _),
      literal_none (hd_nil hr _), hd_nil hr, hd_nil hr]
    rfl
  | cons ch cs =>
    have hS : ch ≠ '"' → string c = none := fun h => string_none ((hd_cons hr _).trans (beq_false_of_ne h))
    have hL : ∀ {a : Char} {as : Str} {l : String}, ch ≠ a → literal (a :: as) l c = none :=
      fun h => literal_none ((hd_cons hr _).trans (beq_false_of_ne h))
    have hN : ch ≠ '-' → isDigit ch = false → number c = none := number_none hr
    rw [hd_cons hr, hd_cons hr]
    by_cases c1 : ch = '"'
    · subst c1
      rw [hN (by decide) (by decide), hL (by decide), hL (by decide), hL (by decide)]
      cases string c <;> rfl
    rw [hS c1]
    by_cases c2 : ch = '{'
    · subst c2
      rw [hN (by decide) (by decide), hL (by decide), hL (by decide), hL (by decide)]
      cases object f c <;> rfl
    by_cases c3 : ch = '['
    · subst c3
      rw [hN (by decide) (by decide), hL (by decide), hL (by decide), hL (by decide)]
      cases array f c <;> rfl
    by_cases c4 : ch = 't'
    · subst c4
      rw [hN (by decide) (by decide), hL (a := 'f') (by decide), hL (a := 'n') (by decide)]
      cases literal ['t', 'r', 'u', 'e'] "bool" c <;> rfl
    by_cases c5 : ch = 'f'
    · subst c5
      rw [hN (by decide) (by decide), hL (a := 't') (by decide), hL (a := 'n') (by decide)]
      cases literal ['f', 'a', 'l', 's', 'e'] "bool" c <;> rfl
    by_cases c6 : ch = 'n'
    · subst c6
      rw [hN (by decide) (by decide), hL (a := 't') (by decide), hL (a := 'f') (by decide)]
      cases literal ['n', 'u', 'l', 'l'] "null" c <;> rfl
    rw [hL c4, hL c5, hL c6]
    cases number c <;> simp [orJ, c1, c2, c3, c4, c5, c6]

section
variable {input : Str} {uni : String → Option CharSet}

theorem lit_literal {c : Cur} (h : At input c) (stk : List Str) (str : Str) (label : String) (id : Nat)
    (hl : bLen str = str.length) (hid : ruleIdx label = id) :
    wrap id c.pos (lit (jctx input uni) ⟨c.pos, stk⟩ str) = vRes (literal str label c) stk := by
  rw [lit_at h]
  unfold literal
  by_cases hp : str.isPrefixOf c.rest = true
  · simp [hp, JT_node, hid, hl]
  · simp [hp]

theorem bool_call {c : Cur} (h : At input c) (stk : List Str) :
    valCa (jctx input uni) .nonAtomic false "bool" ⟨c.pos, stk⟩ =
      orR (vRes (literal ['t', 'r', 'u', 'e'] "bool" c) stk) (vRes (literal ['f', 'a', 'l', 's', 'e'] "bool" c) stk) := by
  have hid : ruleIdx "bool" = 12 := by rw [ruleIdx_eq input uni, rule_bool]
  rw [call_normal_of (rule_bool input uni)]
  simp only [eBool, val_choice', val_str]
  rw [wrap_orR, lit_literal h stk _ "bool" 12 (by decide) hid, lit_literal h stk _ "bool" 12 (by decide) hid]

theorem null_call {c : Cur} (h : At input c) (stk : List Str) :
    valCa (jctx input uni) .nonAtomic false "null" ⟨c.pos, stk⟩ = vRes (literal ['n', 'u', 'l', 'l'] "null" c) stk := by
  rw [call_normal_of (rule_null input uni)]
  simp only [eNull, val_str]
  exact lit_literal h stk _ "null" 13 (by decide) (by rw [ruleIdx_eq input uni, rule_null])

theorem pair_call {c : Cur} (h : At input c) (stk : List Str) (f : Nat)
    (hv : ∀ c3, At input c3 → c3.rest.length + 2 ≤ c.rest.length →
      valCa (jctx input uni) .nonAtomic false "value" ⟨c3.pos, stk⟩ = vRes (value f c3) stk) :
    valCa (jctx input uni) .nonAtomic false "pair" ⟨c.pos, stk⟩ = vRes (pairR f c) stk := by
  rw [call_normal_of (rule_pair input uni)]
  simp only [ePair, val_seq, val_ident, val_str]
  rw [string_call h]
  unfold pairR
  cases hs : string c with
  | none => rfl
  | some p =>
    obtain ⟨k, c1⟩ := p
    have hr1 := string_reach hs
    have h1 := h.reach hr1.1
    have h2 := h1.reach (wsC_reach c1)
    simp only [vRes_some]
    rw [skip_at h1]
    simp only []
    rw [lit1_at h2]
    cases hc : chL (· == ':') (wsC c1) with
    | none => rfl
    | some c2 =>
      have h3 := h2.reach (chL_reach hc)
      simp only [toRes_some]
      rw [skip_at h3]
      simp only []
      rw [hv _ (h3.reach (wsC_reach c2)) (by
        have := (wsC_reach c2).len; have := chL_len_lt hc; have := (wsC_reach c1).len; omega)]
      cases value f (wsC c2) with
      | none => rfl
      | some q =>
        obtain ⟨v, c4⟩ := q
        simp [JT_node, ruleIdx_eq input uni, rule_pair]

/-! The five statements proved together by induction on the RFC fuel `f`. The fuel goes down by one at each
of the calls `value` → `object`/`array` → `members`/`elements` → `value`, and a bracket is consumed on the way
round: hence the factor 3, and the offsets 1, 0, 2. -/

variable (input uni) in
def PV (stk : List Str) (f : Nat) : Prop :=
  ∀ c : Cur, At input c → 3 * c.rest.length + 1 ≤ f →
    valCa (jctx input uni) .nonAtomic false "value" ⟨c.pos, stk⟩ = vRes (value f c) stk

variable (input uni) in
def PO (stk : List Str) (f : Nat) : Prop :=
  ∀ c : Cur, At input c → 3 * c.rest.length ≤ f →
    valCa (jctx input uni) .nonAtomic false "object" ⟨c.pos, stk⟩ = vRes (if hd c '{' then object f c else none) stk

variable (input uni) in
def PA (stk : List Str) (f : Nat) : Prop :=
  ∀ c : Cur, At input c → 3 * c.rest.length ≤ f →
    valCa (jctx input uni) .nonAtomic false "array" ⟨c.pos, stk⟩ = vRes (if hd c '[' then array f c else none) stk

variable (input uni) in
def PM (stk : List Str) (f : Nat) : Prop :=
  ∀ c : Cur, At input c → 3 * c.rest.length + 2 ≤ f →
    itemsG input uni "pair" '}' c stk = lRes '}' (members f c []) stk

variable (input uni) in
def PE (stk : List Str) (f : Nat) : Prop :=
  ∀ c : Cur, At input c → 3 * c.rest.length + 2 ≤ f →
    itemsG input uni "value" ']' c stk = lRes ']' (elements f c []) stk

/-- the induction step shared by `members` and `elements`: after an item, whitespace and a comma the
rest is at least one character shorter, which pays for the smaller fuel. -/
theorem items_ind {stk : List Str} {f : Nat} {it : String} {cl : Char} (hcl : cl ≠ ',')
    {itemR : Cur → Option (JTree × Cur)} {items : Nat → Cur → List JTree → Option (List JTree × Cur)}
    (hit : ∀ c, At input c → 3 * c.rest.length + 2 ≤ f + 1 →
      valCa (jctx input uni) .nonAtomic false it ⟨c.pos, stk⟩ = vRes (itemR c) stk)
    (hreach : ∀ c t c4, itemR c = some (t, c4) → Reach c c4)
    (hsucc : ∀ c, items (f + 1) c [] = stepR (itemR c) (fun c6 => items f c6 []))
    (ih : ∀ c, At input c → 3 * c.rest.length + 2 ≤ f →
      itemsG input uni it cl c stk = lRes cl (items f c []) stk) :
    ∀ c, At input c → 3 * c.rest.length + 2 ≤ f + 1 →
      itemsG input uni it cl c stk = lRes cl (items (f + 1) c []) stk := by
  intro c h hb
  rw [hsucc]
  unfold itemsG stepR
  rw [hit c h hb]
  cases hi : itemR c with
  | none => rfl
  | some p =>
    obtain ⟨m, c4⟩ := p
    have h4 := h.reach (hreach c m c4 hi)
    simp only [vRes_some]
    rw [loop_unfold h4 stk it cl hcl, lRes_preJ]
    unfold tailR
    cases hc : chL (· == ',') (wsC c4) with
    | none => rfl
    | some c5 =>
      simp only []
      rw [ih _ (h4.reach ((wsC_reach c4).trans ((chL_reach hc).trans (wsC_reach c5)))) (by
        have := (hreach c m c4 hi).len
        have := (wsC_reach c4).len
        have := chL_len_lt hc
        have := (wsC_reach c5).len
        omega)]
      rfl

theorem members_step {stk : List Str} {f : Nat} (hV : PV input uni stk f) (hM : PM input uni stk f) :
    PM input uni stk (f + 1) :=
  items_ind (by decide) (fun c h _ => pair_call h stk f (fun c3 h3 _ => hV c3 h3 (by omega)))
    (fun _ _ _ e => (pairR_reach (value_adv f) e).1) (members_succ (value_adv f)) hM

theorem elements_step {stk : List Str} {f : Nat} (hV : PV input uni stk f) (hE : PE input uni stk f) :
    PE input uni stk (f + 1) :=
  items_ind (by decide) (fun c h _ => hV c h (by omega)) (value_adv f) (elements_succ (value_adv f)) hE

/-- `object` / `array` called where the input does not start with the opening bracket. -/
theorem bracket_fail {c : Cur} (h : At input c) (stk : List Str) {name : String} {id : Nat} {op cl : Char} {it : String}
    (hr : (jctx input uni).rule? name =
      some (id, ⟨name, .normal, .choice (listE op cl it) (.seq (.str [op]) (.str [cl]))⟩))
    (hh : hd c op = false) :
    valCa (jctx input uni) .nonAtomic false name ⟨c.pos, stk⟩ = .fail := by
  rw [call_normal_of hr]
  unfold listE
  simp only [val_choice, val_seq, val_str, lit1_at h, chL_of_hd_false hh, toRes_none, wrap_fail]

/-- the induction step shared by `object` and `array`. -/
theorem bracket_ind {stk : List Str} {f : Nat} {name it : String} {id : Nat} {op cl : Char}
    (hrule : (jctx input uni).rule? name =
      some (id, ⟨name, .normal, .choice (listE op cl it) (.seq (.str [op]) (.str [cl]))⟩))
    {itemR : Cur → Option (JTree × Cur)} {items : Cur → Option (List JTree × Cur)}
    {whole : Cur → Option (JTree × Cur)}
    (hit : ∀ c1, At input c1 → 3 * c1.rest.length + 2 ≤ f →
      valCa (jctx input uni) .nonAtomic false it ⟨c1.pos, stk⟩ = vRes (itemR c1) stk)
    (hreach : ∀ c1 t c4, itemR c1 = some (t, c4) → Reach c1 c4)
    (hfail : ∀ c1, hd c1 cl = true → itemR c1 = none)
    (hsucc : ∀ c, whole c = bracketR name cl items c)
    (ih : ∀ c1, At input c1 → 3 * c1.rest.length + 2 ≤ f →
      itemsG input uni it cl c1 stk = lRes cl (items c1) stk) :
    ∀ c, At input c → 3 * c.rest.length ≤ f + 1 →
      valCa (jctx input uni) .nonAtomic false name ⟨c.pos, stk⟩ = vRes (if hd c op then whole c else none) stk := by
  intro c h hb
  cases hh : hd c op
  · exact bracket_fail h stk hrule hh
  obtain ⟨cs, hr⟩ := rest_of_hd hh
  have h1 := h.adv.reach (wsC_reach c.adv)
  have hb1 : 3 * (wsC c.adv).rest.length + 2 ≤ f := by
    have := (wsC_reach c.adv).len
    have := adv_len_lt hr
    omega
  have hid : ruleIdx name = id := by rw [ruleIdx_eq input uni, hrule]
  have hit1 := hit _ h1 hb1
  rw [call_normal_of hrule, if_pos rfl, hsucc, val_choice',
    listE_eq h hr stk it cl _ hit1 (fun t c4 e => h1.reach (hreach _ t c4 e)),
    val_seq_close, val_str, lit1_at h, chL_lit hr, toRes_some, close_at h.adv]
  unfold bracketR
  cases hc : hd (wsC c.adv) cl
  · rw [if_neg Bool.false_ne_true, chL_of_hd_false hc, ih _ h1 hb1]
    exact (orR_fail _).symm ▸ wrap_lRes hid cl c.pos _ stk
  · have : itemsG input uni it cl (wsC c.adv) stk = .fail := by
      unfold itemsG; rw [hit1, hfail _ hc]; rfl
    obtain ⟨tl, hr1⟩ := rest_of_hd hc
    rw [this, if_pos rfl]
    simp [orR, closeR, chL_lit hr1, fRes, JT_node, hid]

theorem object_step {stk : List Str} {f : Nat} (hV : PV input uni stk f) (hM : PM input uni stk f) :
    PO input uni stk (f + 1) :=
  bracket_ind (op := '{') (cl := '}') (it := "pair") (rule_object input uni)
    (fun c1 h1 _ => pair_call h1 stk f (fun c3 h3 _ => hV c3 h3 (by omega)))
    (fun _ _ _ e => (pairR_reach (value_adv f) e).1)
    (fun c1 hh => by
      obtain ⟨cs', hr1⟩ := rest_of_hd hh
      unfold pairR
      rw [string_none (by rw [hd_cons hr1]; rfl)])
    (object_succ f) hM

theorem array_step {stk : List Str} {f : Nat} (hV : PV input uni stk f) (hE : PE input uni stk f) :
    PA input uni stk (f + 1) :=
  bracket_ind (op := '[') (cl := ']') (it := "value") (rule_array input uni)
    (fun c1 h1 _ => hV c1 h1 (by omega)) (value_adv f)
    (fun _ hh => (rest_of_hd hh).elim fun _ hr1 => value_close hr1 f)
    (array_succ f) hE

end
end PestModel.Json
