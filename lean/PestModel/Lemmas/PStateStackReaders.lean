import PestModel.Model.PStateSpec
import PestModel.Lemmas.PStateInv
/-! C03: helper lemmas for the stack readers (`PEEK`, `POP`, `PEEK_ALL`, `POP_ALL`, `PEEK[..]`, `DROP`). -/
namespace PestModel.PS
open PestModel.LineCol PestModel.Stack

theorem posMatchString_false' {input : Str} {pos p : Nat} {str : Str}
    (h : posMatchString input pos str = some (false, p)) : p = pos :=
  (posMatchString_prim input pos str).miss_pos h

theorem terminal_err_pos (s s' : PState) (r : Option (Bool × Nat)) (tok : Option PTok)
    (hr : ∀ p, r = some (false, p) → p = s.pos) (h : terminal s r tok = .err s') : s'.pos = s.pos := by
  obtain _ | ⟨b, p⟩ := r
  · cases h
  · obtain ⟨pa', e, -⟩ := terminal_some s b p tok
    rw [e] at h
    cases b <;> cases h
    exact hr p rfl

theorem matchPopLoop_ok (input : Str) : ∀ (fuel : Nat) (st st' : Stk Str) (pos pos' : Nat),
    st.cache.length < fuel → matchPopLoop input fuel st pos = some (st', true, pos') →
    st'.cache = [] ∧ matchAll input st.cache pos = some (true, pos')
  | 0, _, _, _, _, hf, _ => by omega
  | fuel + 1, st, st', pos, pos', hf, h => by
    unfold matchPopLoop at h
    obtain ⟨st1, hp, hc⟩ := pop_eq st
    rw [hp] at h
    cases hcache : st.cache with
    | nil =>
      rw [hcache] at h hc
      cases h
      exact ⟨hc, rfl⟩
    | cons x c =>
      rw [hcache] at h hc hf
      simp only [List.head?] at h
      split at h
      · cases h
      · rename_i p1 hm
        have ih := matchPopLoop_ok input fuel st1 st' p1 pos' (by rw [hc]; simp at hf ⊢; omega) h
        refine ⟨ih.1, ?_⟩
        have ih2 := ih.2
        rw [hc] at ih2
        simp only [matchAll, hm]
        exact ih2
      · cases h

end PestModel.PS
