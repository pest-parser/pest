import PestModel.Lemmas.VmRef
import PestModel.Lemmas.VmRefD
/-! C01 and C08: one specification lemma per `ParserState` combinator. Hypotheses and conclusion are
at the same fuel; `SpecT.anti` brings a hypothesis down to the fuel left for the sub-program. -/
namespace PestModel.VmRef
open PestModel.G PestModel.PS PestModel.Lower PestModel.Ref PestModel.Views PestModel.RefTrace PestModel.Track
open PestModel.LineCol (Str isBoundary bLen cLen splitAt? slice?)
open PestModel.Stack (StkInv)

variable {cfg : Cfg} {input : Str}

theorem Sim.wf {m la} {st : PState} {σ : St} (hs : Sim input m la st σ) : st.WF :=
  ⟨by rw [hs.inp]; exact hs.bnd, hs.inv⟩

theorem cache_of_stackEq {a b : Stack.Stk Str} (h : stackEq a b) : a.cache = b.cache :=
  congrArg Stack.Naive.cur h

theorem _root_.PestModel.Track.SimT.checkpoint {m la} {st : PState} {σ : St} (hs : SimT input m la st σ) :
    SimT input m la (checkpoint st) σ :=
  ⟨{ hs.toSim with inv := (snapshot_spec st.stack hs.inv).1 }, hs.laT⟩

theorem spec_call {n i p m la D T} (hi : cfg.env[i]? = some p) (h : SpecT cfg input n p m la D T) :
    SpecT cfg input (n + 1) (.call i) m la D T := fun st σ hs => by
  rw [run_call, hi]
  exact h st σ hs

theorem spec_call_none {n i m la D T} (hi : cfg.env[i]? = none) (hD : ∀ σ, D σ = .stuck) :
    SpecT cfg input n (.call i) m la D T :=
  SpecT.of_succ fun k hk st σ hs => by
    rw [run_call, hi]
    exact hD σ

theorem spec_andThen {n p q m la D1 D2 T1 T2} (h1 : SpecT cfg input n p m la D1 T1)
    (h2 : SpecT cfg input n q m la D2 T2) :
    SpecT cfg input n (.andThen p q) m la (seqD D1 D2) (seqT T1 T2) :=
  SpecT.of_succ fun k hk st σ hs => by
    subst hk
    have h1 := h1.anti (Nat.le_succ k)
    have h2 := h2.anti (Nat.le_succ k)
    rw [run_andThen]
    cases hr : run cfg k p st with
    | ok st1 =>
      obtain ⟨σ1, f1, c1, hd1, ht1, hp1, hk1, hq1, ha1⟩ := h1.ok hs hr
      have hs1 := hs.next_ok hr hp1 hk1
      dsimp only
      cases hr2 : run cfg k q st1 with
      | ok st2 =>
        obtain ⟨σ2, f2, c2, hd2, ht2, hp2, hk2, hq2, ha2⟩ := h2.ok hs1 hr2
        refine ⟨σ2, f1 ++ f2, c1 ++ c2, ?_, Or.inr ⟨σ1, c1, c2, ht1, ht2, rfl⟩, hp2, hk2, ?_,
          stepAtt_trans ha1 ha2⟩
        · simp [seqD, hd1, hd2]
        · rw [hq2, hq1, pushNodes_append]
      | err st2 =>
        obtain ⟨hd2, c2, ht2, ha2⟩ := h2.err hs1 hr2
        exact ⟨by simp [seqD, hd1, hd2], c1 ++ c2, Or.inr ⟨σ1, c1, c2, ht1, ht2, rfl⟩, stepAtt_trans ha1 ha2⟩
      | panic => simp [OutSpecT, seqD, hd1, h2.panic hs1 hr2]
      | fuel => trivial
    | err st1 =>
      obtain ⟨hd1, c1, ht1, ha1⟩ := h1.err hs hr
      exact ⟨by simp [seqD, hd1], c1, Or.inl ⟨rfl, ht1⟩, ha1⟩
    | panic => simp [OutSpecT, seqD, h1.panic hs hr]
    | fuel => trivial

theorem spec_orElse {n p q m la D1 D2 T1 T2} (hc : GenVm.ErrSpecN cfg n p False)
    (h1 : SpecT cfg input n p m la D1 T1) (h2 : SpecT cfg input n q m la D2 T2) :
    SpecT cfg input n (.orElse p q) m la (altD D1 D2) (altT T1 T2) :=
  SpecT.of_succ fun k hk st σ hs => by
    subst hk
    have h1 := h1.anti (Nat.le_succ k)
    have h2 := h2.anti (Nat.le_succ k)
    rw [run_orElse]
    cases hr : run cfg k p st with
    | ok st1 =>
      obtain ⟨σ1, f1, c1, hd1, ht1, hp1, hk1, hq1, ha1⟩ := h1.ok hs hr
      exact ⟨σ1, f1, c1, by simp [altD, hd1], Or.inl ⟨σ1, rfl, ht1⟩, hp1, hk1, hq1, ha1⟩
    | err st1 =>
      obtain ⟨hd1, c1, ht1, ha1⟩ := h1.err hs hr
      obtain ⟨hs1, hq⟩ := hs.next_clean hc (Nat.le_succ k) hr
      dsimp only
      cases hr2 : run cfg k q st1 with
      | ok st2 =>
        obtain ⟨σ2, f2, c2, hd2, ht2, hp2, hk2, hq2, ha2⟩ := h2.ok hs1 hr2
        exact ⟨σ2, f2, c1 ++ c2, by simp [altD, hd1, hd2], Or.inr ⟨c1, c2, ht1, ht2, rfl⟩, hp2, hk2,
          by rw [hq2, hq], stepAtt_trans ha1 ha2⟩
      | err st2 =>
        obtain ⟨hd2, c2, ht2, ha2⟩ := h2.err hs1 hr2
        exact ⟨by simp [altD, hd1, hd2], c1 ++ c2, Or.inr ⟨c1, c2, ht1, ht2, rfl⟩, stepAtt_trans ha1 ha2⟩
      | panic => simp [OutSpecT, altD, hd1, h2.panic hs1 hr2]
      | fuel => trivial
    | panic => simp [OutSpecT, altD, h1.panic hs hr]
    | fuel => trivial

theorem spec_sequence {n p m la D T} (h : SpecT cfg input n p m la D T) :
    SpecT cfg input n (.sequence p) m la D T :=
  SpecT.of_succ fun k hk st σ hs => by
    subst hk
    have h := h.anti (Nat.le_succ k)
    rw [run_sequence, hs.incCall]; dsimp only
    cases hr : run cfg k p (checkpoint st) with
    | ok ns =>
      dsimp only
      obtain ⟨σ1, f1, c1, hd, ht, hp, hk, hq, ha⟩ := h.ok hs.checkpoint hr
      have rb := run_ok_rel hr
      obtain ⟨ns', hc⟩ := checkpointOk_isSome (ns := ns) (rb.stk hs.checkpoint.inv).1
      rw [hc]; dsimp only
      obtain ⟨st2, hcs, rfl⟩ := checkpointOk_some hc
      obtain ⟨-, -, hcache⟩ := bracket_ok hs.inv rb.stk hcs
      exact ⟨σ1, f1, c1, hd, ht, hp, hcache.trans hk, hq, ha⟩
    | err ns =>
      dsimp only
      have rb := run_err_rel hr
      obtain ⟨ns', hc⟩ := restoreStack_isSome (ns := seqErrState st ns) (rb.stk hs.checkpoint.inv).1
      rw [hc]; dsimp only
      obtain ⟨st2, -, rfl⟩ := restoreStack_some hc
      obtain ⟨hd, c1, ht, ha⟩ := h.err hs.checkpoint hr
      exact ⟨hd, c1, ht, ha⟩
    | panic => exact h.panic hs.checkpoint hr
    | fuel => trivial

theorem spec_restoreOnErr {n p m la D T} (h : SpecT cfg input n p m la D T) :
    SpecT cfg input n (.restoreOnErr p) m la D T :=
  SpecT.of_succ fun k hk st σ hs => by
    subst hk
    have h := h.anti (Nat.le_succ k)
    rw [run_restoreOnErr]
    cases hr : run cfg k p (checkpoint st) with
    | ok ns =>
      dsimp only
      obtain ⟨σ1, f1, c1, hd, ht, hp, hk, hq, ha⟩ := h.ok hs.checkpoint hr
      have rb := run_ok_rel hr
      obtain ⟨ns', hc⟩ := checkpointOk_isSome (ns := ns) (rb.stk hs.checkpoint.inv).1
      rw [hc]; dsimp only
      obtain ⟨st2, hcs, rfl⟩ := checkpointOk_some hc
      obtain ⟨-, -, hcache⟩ := bracket_ok hs.inv rb.stk hcs
      exact ⟨σ1, f1, c1, hd, ht, hp, hcache.trans hk, hq, ha⟩
    | err ns =>
      dsimp only
      have rb := run_err_rel hr
      obtain ⟨ns', hc⟩ := restoreStack_isSome (ns := ns) (rb.stk hs.checkpoint.inv).1
      rw [hc]; dsimp only
      obtain ⟨st2, -, rfl⟩ := restoreStack_some hc
      obtain ⟨hd, c1, ht, ha⟩ := h.err hs.checkpoint hr
      exact ⟨hd, c1, ht, ha⟩
    | panic => exact h.panic hs.checkpoint hr
    | fuel => trivial

theorem spec_optional {n p m la D T} (hc : GenVm.ErrSpecN cfg n p False) (h : SpecT cfg input n p m la D T) :
    SpecT cfg input n (.optional p) m la (optD D) (optT T) :=
  SpecT.of_succ fun k hk st σ hs => by
    subst hk
    have h := h.anti (Nat.le_succ k)
    rw [run_optional, hs.incCall]; dsimp only
    cases hr : run cfg k p st with
    | ok s' =>
      dsimp only
      obtain ⟨σ1, f1, c1, hd, ht, hp, hk, hq, ha⟩ := h.ok hs hr
      exact ⟨σ1, f1, c1, by simp [optD, hd], Or.inl ⟨σ1, rfl, ht⟩, hp, hk, hq, ha⟩
    | err s' =>
      dsimp only
      obtain ⟨hd, c1, ht, ha⟩ := h.err hs hr
      obtain ⟨hs1, hq⟩ := hs.next_clean hc (Nat.le_succ k) hr
      exact ⟨σ, [], c1, by simp [optD, hd], Or.inr ⟨rfl, ht⟩, hs1.pos, hs1.stk, by rw [pushNodes_nil]; exact hq, ha⟩
    | panic => simp [OutSpecT, optD, h.panic hs hr]
    | fuel => trivial

theorem spec_repLoop {n p m la D L U LT} (hL : IsLoop D L) (hT : IsLoopT U LT) (hc : GenVm.ErrSpecN cfg n p False)
    (h : SpecT cfg input n p m la D U) : ∀ k, k ≤ n →
    SpecT cfg input k (.repLoop p) m la (fun σ => L σ []) (loopT LT)
  | 0, _ => SpecT.zero _ _ _ _ _
  | k + 1, hk => by
    have ih := spec_repLoop hL hT hc h k (Nat.le_of_succ_le hk)
    have h := h.anti (Nat.le_of_succ_le hk)
    intro st σ hs
    have hu0 : L σ [] = loopD D L σ [] := congrFun (congrFun hL.unfold σ) []
    rw [run_repLoop]
    cases hr : run cfg k p st with
    | ok s' =>
      dsimp only
      obtain ⟨σ1, f1, c1, hd, ht, hp1, hk1, hq1, ha1⟩ := h.ok hs hr
      have hs1 := hs.next_ok hr hp1 hk1
      have hu : L σ [] = (L σ1 []).prepend f1 := by
        rw [hu0, loopD, hd]; dsimp only; rw [hL.acc]; rfl
      cases hr2 : run cfg k (.repLoop p) s' with
      | ok s2 =>
        obtain ⟨σ2, f2, c2, hd2, ht2, hp2, hk2, hq2, ha2⟩ := ih.ok hs1 hr2
        refine ⟨σ2, f1 ++ f2, c1 ++ c2, ?_, fun acc => ?_, hp2, hk2, by rw [hq2, hq1, pushNodes_append],
          stepAtt_trans ha1 ha2⟩
        · show L σ [] = _
          rw [hu, hd2]; rfl
        · have := ht2 (acc ++ c1)
          rw [List.append_assoc] at this
          exact hT.step _ _ _ _ _ _ ht this
      | err s2 => exact absurd hr2 (repLoop_ne_err p k s' s2)
      | panic =>
        show L σ [] = _
        rw [hu, ih.panic hs1 hr2]; rfl
      | fuel => trivial
    | err s' =>
      dsimp only
      obtain ⟨hd, c1, ht, ha⟩ := h.err hs hr
      obtain ⟨hs1, hq⟩ := hs.next_clean hc (Nat.le_of_succ_le hk) hr
      refine ⟨σ, [], c1, ?_, fun acc => hT.stop _ _ _ ht, hs1.pos, hs1.stk, by rw [pushNodes_nil]; exact hq, ha⟩
      show L σ [] = _
      rw [hu0, loopD, hd]
    | panic =>
      show L σ [] = _
      rw [hu0, loopD, h.panic hs hr]
    | fuel => trivial

theorem spec_repeat {n p m la D L U LT} (hL : IsLoop D L) (hT : IsLoopT U LT) (hc : GenVm.ErrSpecN cfg n p False)
    (h : SpecT cfg input n p m la D U) :
    SpecT cfg input n (.repeat_ p) m la (fun σ => L σ []) (loopT LT) :=
  SpecT.of_succ fun k hk st σ hs => by
    rw [run_repeat, hs.incCall]; dsimp only
    exact spec_repLoop hL hT hc h k (hk ▸ Nat.le_succ k) st σ hs

theorem toLA_laMode (positive : Bool) (l : Lookahead) :
    toLA (laMode positive l) = if positive then (toLA l).enterPos else (toLA l).enterNeg := by
  cases positive <;> cases l <;> rfl

theorem la_inner_b (positive : Bool) (la : LA) :
    (if positive then la.enterPos else la.enterNeg).b = true := by
  cases positive <;> cases la <;> rfl

theorem _root_.PestModel.Track.SimT.lookahead {m la} {st : PState} {σ : St} (hs : SimT input m la st σ)
    (positive : Bool) :
    SimT input m (if positive then la.enterPos else la.enterNeg)
      (checkpoint { st with lookahead := laMode positive st.lookahead }) σ :=
  ⟨by rw [la_inner_b]
      exact { hs.toSim with inv := (snapshot_spec st.stack hs.inv).1
                            la := by simp [PS.checkpoint, laMode_ne_none] },
    by show toLA (laMode positive st.lookahead) = _; rw [toLA_laMode, hs.laT]⟩

theorem spec_lookahead {n p m la D T} (positive : Bool)
    (h : SpecT cfg input n p m (if positive then la.enterPos else la.enterNeg) D T) :
    SpecT cfg input n (.lookahead positive p) m la (if positive then posD D else negD D)
      (laT positive T) :=
  SpecT.of_succ fun k hk st σ hs => by
    subst hk
    have h := h.anti (Nat.le_succ k)
    rw [run_lookahead, hs.incCall]; dsimp only
    have hs' := hs.lookahead positive
    -- whatever the interior did, `laPost` returns to the position, queue and stack of `st`
    have key : ∀ ns, Rel (checkpoint { st with lookahead := laMode positive st.lookahead }) ns →
        ∃ ns', laPost st ns = some ns' ∧ ns'.pos = st.pos ∧ ns'.queue = st.queue ∧
          ns'.stack.cache = st.stack.cache ∧ att ns' = att ns := by
      intro ns rb
      obtain ⟨ns', hc⟩ := restoreStack_isSome
        (ns := { ns with pos := st.pos, lookahead := st.lookahead }) (rb.stk hs'.inv).1
      obtain ⟨-, h1, h2, h3⟩ := laPost_rel rb hc
      obtain ⟨st2, -, e⟩ := restoreStack_some hc
      exact ⟨ns', hc, h1, h2, h3 hs.inv, by rw [e]; rfl⟩
    cases hr : run cfg k p (checkpoint { st with lookahead := laMode positive st.lookahead }) with
    | ok ns =>
      dsimp only
      obtain ⟨σ1, f1, c1, hd, ht, -, -, -, ha⟩ := h.ok hs' hr
      obtain ⟨ns', hc, h1, h2, h3, h4⟩ := key ns (run_ok_rel hr)
      rw [hc]; dsimp only
      cases positive with
      | true =>
        simp only [if_true]
        exact ⟨σ, [], c1, by simp [posD, hd], Or.inl ⟨σ1, ht, rfl⟩, h1.trans hs.pos, h3.trans hs.stk,
          by rw [pushNodes_nil]; exact h2, h4.trans ha⟩
      | false =>
        simp only [Bool.false_eq_true, if_false]
        exact ⟨by simp [negD, hd], c1, Or.inl ⟨σ1, ht, rfl⟩, h4.trans ha⟩
    | err ns =>
      dsimp only
      obtain ⟨hd, c1, ht, ha⟩ := h.err hs' hr
      obtain ⟨ns', hc, h1, h2, h3, h4⟩ := key ns (run_err_rel hr)
      rw [hc]; dsimp only
      cases positive with
      | true =>
        simp only [if_true]
        exact ⟨by simp [posD, hd], c1, Or.inr ⟨ht, rfl⟩, h4.trans ha⟩
      | false =>
        simp only [Bool.false_eq_true, if_false]
        exact ⟨σ, [], c1, by simp [negD, hd], Or.inr ⟨ht, rfl⟩, h1.trans hs.pos, h3.trans hs.stk,
          by rw [pushNodes_nil]; exact h2, h4.trans ha⟩
    | panic =>
      have := h.panic hs' hr
      cases positive <;> simp [OutSpecT, posD, negD, this]
    | fuel => trivial

theorem atomPre_att (a : Atomicity) (st : PState) : att (atomPre a st) = att st := by
  unfold atomPre; split <;> rfl

theorem atomPost_att (a : Atomicity) (st ns : PState) : att (atomPost a st ns) = att ns := by
  unfold atomPost; split <;> rfl

theorem _root_.PestModel.Track.SimT.atomPre {m la} {st : PState} {σ : St} (hs : SimT input m la st σ)
    (a : Atomicity) : SimT input a la (atomPre a st) σ := by
  unfold PS.atomPre
  split
  · exact ⟨{ hs.toSim with atom := rfl }, hs.laT⟩
  · rename_i h
    exact ⟨{ hs.toSim with atom := by simpa using h }, hs.laT⟩

theorem spec_atomic {n p m la D T} (a : Atomicity) (h : SpecT cfg input n p a la D T) :
    SpecT cfg input n (.atomic a p) m la D T :=
  SpecT.of_succ fun k hk st σ hs => by
    subst hk
    have h := h.anti (Nat.le_succ k)
    rw [run_atomic, hs.incCall]; dsimp only
    have a1 := atomPre_att a st
    have hs' := hs.atomPre a
    obtain ⟨-, e2, -⟩ := GenVm.atomPre_fields a st
    cases hr : run cfg k p (atomPre a st) with
    | ok ns =>
      dsimp only
      obtain ⟨σ1, f1, c1, hd, ht, hp, hk, hq, ha⟩ := h.ok hs' hr
      obtain ⟨g1, g2, g3⟩ := GenVm.atomPost_fields a st ns
      exact ⟨σ1, f1, c1, hd, ht, g1.trans hp, by rw [g3]; exact hk, by rw [g2, hq, e2],
        by rw [atomPost_att, ha, a1]⟩
    | err ns =>
      dsimp only
      obtain ⟨hd, c1, ht, ha⟩ := h.err hs' hr
      exact ⟨hd, c1, ht, by rw [atomPost_att, ha, a1]⟩
    | panic => exact h.panic hs' hr
    | fuel => trivial


theorem rulePre_fields (st : PState) :
    (rulePre st).pos = st.pos ∧ (rulePre st).stack = st.stack ∧ (rulePre st).input = st.input ∧
    (rulePre st).atomicity = st.atomicity ∧ (rulePre st).lookahead = st.lookahead ∧
    (rulePre st).calls = st.calls ∧ (rulePre st).pa = st.pa := by
  unfold rulePre; split <;> exact ⟨rfl, rfl, rfl, rfl, rfl, rfl, rfl⟩

theorem Sim.ruleCond_iff {m la} {st : PState} {σ : St} (hs : Sim input m la st σ) :
    ruleCond st ↔ (!la && decide (m ≠ .atomic)) = true := by
  unfold ruleCond
  rw [hs.la, hs.atom]
  cases la <;> simp

theorem ruleOkPost_ok {s1 ns : PState} {r : Nat} (rb : Rel (rulePre s1) ns)
    (hen : ns.pa.enabled = false) : ∃ s', ruleOkPost s1 r ns = .ok s' := by
  have hnp := np_ruleOkPost (r := r) rb hen
  unfold ruleOkPost at hnp ⊢
  split
  · rename_i he; rw [he] at hnp; simp at hnp
  · rename_i ns1 he
    rw [he] at hnp; dsimp only at hnp
    unfold ruleFinish at hnp ⊢
    by_cases h1 : ns1.pa.enabled = true
    · rw [if_pos h1] at hnp ⊢
      cases h2 : ruleAdd s1 r ns1 with
      | none => rw [h2] at hnp; simp at hnp
      | some x => exact ⟨_, rfl⟩
    · rw [if_neg h1]; exact ⟨_, rfl⟩

theorem ruleErrPost_err {s1 ns : PState} {r : Nat} (hen : ns.pa.enabled = false) :
    ∃ s', ruleErrPost s1 r ns = .err s' := by
  obtain ⟨ns', h⟩ := ruleErrAdd_no_panic (s1 := s1) (r := r) hen
  unfold ruleErrPost
  rw [h]
  exact ⟨_, rfl⟩

theorem _root_.PestModel.Track.SimT.rulePre {m la} {st : PState} {σ : St} (hs : SimT input m la st σ) :
    SimT input m la (rulePre st) σ :=
  have e := rulePre_fields st
  ⟨hs.toSim.of_rel (rulePre_rel st) (e.2.2.2.2.2.1.trans hs.calls) (e.1.trans hs.pos)
    (by rw [e.2.1]; exact hs.stk), by rw [e.2.2.2.2.1]; exact hs.laT⟩

theorem toLA_neg (l : Lookahead) : decide (toLA l = .neg) = decide (l = .negative) := by
  cases l <;> rfl

theorem spec_rule {n p m la D T} (r : Nat) (h : SpecT cfg input n p m la D T) :
    SpecT cfg input n (.rule r p) m la (ruleD r (!la.b && decide (m ≠ .atomic)) D) (ruleT r m la T) :=
  SpecT.of_succ fun k hk st σ hs => by
    subst hk
    have h := h.anti (Nat.le_succ k)
    rw [run_rule, hs.incCall]; dsimp only
    obtain ⟨-, -, -, -, e5, -, -⟩ := rulePre_fields st
    have hs' := hs.rulePre
    -- the node the reference records, in terms of the state `ns` after the interior
    have node : ∀ {ns : PState} (mt : Bool) (kids : List Call), Rel (rulePre st) ns →
        Call.node r σ.pos mt (decide (la = .neg)) (decide (m ≠ .atomic)) kids =
          .node r st.pos mt (decide (ns.lookahead = .negative)) (decide (ns.atomicity ≠ .atomic)) kids := by
      intro ns mt kids rb
      rw [← hs.pos, ← hs.laT, toLA_neg, ← e5, ← rb.la, ← hs'.atom, ← rb.atom]
    cases hr : run cfg k p (rulePre st) with
    | ok ns =>
      dsimp only
      obtain ⟨σ1, f1, kids, hd, ht, hp, hk, hq, ha⟩ := h.ok hs' hr
      rw [rulePre_att] at ha
      have rb := run_ok_rel hr
      have hen : ns.pa.enabled = false := rb.en.trans hs'.en
      obtain ⟨s', hok⟩ := ruleOkPost_ok (r := r) rb hen
      rw [hok]
      have hatt : att s' = stepAtt (att st) [.node r σ.pos true (decide (la = .neg)) (decide (m ≠ .atomic)) kids] := by
        rw [(ruleOkPost_att hen hok).1, node _ kids rb]
        exact ruleTrack_node true (by rw [decide_eq_true_eq]) ha
      obtain ⟨-, a, b, c, pa', q', rfl, -, h1, h2⟩ := ruleOkPost_spec rb (by rw [hok]; rfl)
      by_cases hc : ruleCond st
      · obtain ⟨inner, hqi, rfl⟩ := h1 hc
        have hemit := hs.ruleCond_iff.1 hc
        refine ⟨σ1, [.node r σ.pos σ1.pos none f1], _, ?_, ⟨kids, ht, rfl⟩, hp, hk, ?_, hatt⟩
        · simp only [ruleD, hd, hemit, if_true]
        · show st.queue ++ QTok.start (st.queue.length + 1 + inner.length) st.pos :: inner ++
            [QTok.end_ st.queue.length r none ns.pos] = _
          rw [pushNodes_single, pushNode_node]
          have : pushNodes (st.queue ++ [QTok.start 0 σ.pos]) f1 =
              st.queue ++ QTok.start 0 st.pos :: inner := by
            rw [← hqi, hq, rulePre_of_cond hc, hs.pos]
          rw [this, setAt_append_cons, hs.pos, hp]
          simp
          omega
      · have := h2 hc; subst this
        have hemit : (!la.b && decide (m ≠ .atomic)) = false := by
          cases hb : (!la.b && decide (m ≠ .atomic))
          · rfl
          · exact absurd (hs.ruleCond_iff.2 hb) hc
        refine ⟨σ1, f1, _, by simp only [ruleD, hd, hemit]; rfl, ⟨kids, ht, rfl⟩, hp, hk, ?_, hatt⟩
        show ns.queue = _
        rw [hq, rulePre_of_not hc]
    | err ns =>
      dsimp only
      obtain ⟨hd, kids, ht, ha⟩ := h.err hs' hr
      rw [rulePre_att] at ha
      have rb := run_err_rel hr
      have hen : ns.pa.enabled = false := rb.en.trans hs'.en
      obtain ⟨s', herr⟩ := ruleErrPost_err (s1 := st) (r := r) hen
      rw [herr]
      have hatt : att s' = stepAtt (att st) [.node r σ.pos false (decide (la = .neg)) (decide (m ≠ .atomic)) kids] := by
        rw [ruleErrPost_att hen herr, node _ kids rb]
        exact ruleTrack_node false (by rw [decide_eq_false_iff_not]) ha
      exact ⟨by simp only [ruleD, hd], _, ⟨kids, ht, rfl⟩, hatt⟩
    | panic =>
      show ruleD r _ D σ = .stuck
      simp only [ruleD, h.panic hs' hr]
    | fuel => trivial

theorem spec_stackPush {n p m la D T} (h : SpecT cfg input n p m la D T) :
    SpecT cfg input n (.stackPush p) m la (pushD input D) (pushT input T) :=
  SpecT.of_succ fun k hk st σ hs => by
    subst hk
    have h := h.anti (Nat.le_succ k)
    rw [run_stackPush, hs.incCall]; dsimp only
    cases hr : run cfg k p st with
    | ok ns =>
      dsimp only
      obtain ⟨σ1, f1, c1, hd, ht, hp, hk, hq, ha⟩ := h.ok hs hr
      have rb := run_ok_rel hr
      unfold pushSpan
      have hsl' : slice? ns.input st.pos ns.pos = slice? input σ.pos σ1.pos := by
        rw [rb.input, hs.inp, hs.pos, hp]
      rw [hsl']
      cases hsl : slice? input σ.pos σ1.pos with
      | none =>
        show pushD input D σ = .stuck
        simp only [pushD, hd, hsl]
      | some str =>
        exact ⟨{ σ1 with stack := str :: σ1.stack }, f1, c1, by simp only [pushD, hd, hsl],
          Or.inr ⟨σ1, str, ht, hsl, rfl⟩, hp, by show str :: ns.stack.cache = _; rw [hk], hq, ha⟩
    | err ns =>
      dsimp only
      obtain ⟨hd, c1, ht, ha⟩ := h.err hs hr
      exact ⟨by simp only [pushD, hd], c1, Or.inl ⟨rfl, ht⟩, ha⟩
    | panic =>
      show pushD input D σ = .stuck
      simp only [pushD, h.panic hs hr]
    | fuel => trivial

theorem spec_ok {n m la} :
    SpecT cfg input n .ok m la (fun σ => .ok σ []) (fun σ r cs => r = .ok σ ∧ cs = []) :=
  SpecT.of_succ fun k hk st σ hs => by
    rw [run]
    exact ⟨σ, [], [], rfl, ⟨rfl, rfl⟩, hs.pos, hs.stk, by rw [pushNodes_nil], (stepAtt_nil _).symm⟩

/-- tagging the last tree of a non-empty forest = patching the tag of the last token of its encoding. -/
theorem tag_queue (q : List QTok) (f : List Tree) (t : Str) (hf : f ≠ []) :
    ∃ X si r tag p, pushNodes q f = X ++ [QTok.end_ si r tag p] ∧
      pushNodes q (Ref.setLastTag f t) = X ++ [QTok.end_ si r (some t) p] := by
  rcases List.eq_nil_or_concat f with h | ⟨init, last, h⟩
  · exact absurd h hf
  · subst h
    cases last with
    | node r a b tag cs =>
      have : init.concat (Tree.node r a b tag cs) = init ++ [Tree.node r a b tag cs] := by simp
      rw [this, setLastTag_concat, pushNodes_append, pushNodes_append, pushNodes_single, pushNodes_single,
        pushNode_node, pushNode_node]
      exact ⟨_, _, _, _, _, rfl, rfl⟩

theorem spec_tag {n p m la D T} (t : Str) (h : SpecT cfg input n p m la D T)
    (hemit : la.b = false → NonEmpty D) :
    SpecT cfg input n (.andThen p (.tagNode t)) m la (tagD la.b t D) T :=
  SpecT.of_succ fun k hk st σ hs => by
    subst hk
    have h := h.anti (Nat.le_succ k)
    rw [run_andThen]
    cases hr : run cfg k p st with
    | ok st1 =>
      obtain ⟨σ1, f1, c1, hd1, ht1, hp1, hk1, hq1, ha1⟩ := h.ok hs hr
      have hs1 := hs.next_ok hr hp1 hk1
      dsimp only
      cases k with
      | zero => rw [run_zero]; trivial
      | succ j =>
        rw [run]
        cases hb : la.b with
        | true =>
          have hla : st1.lookahead ≠ .none := fun hn => by
            have := hs1.la.1 hn; rw [hb] at this; cases this
          rw [if_pos hla]
          exact ⟨σ1, f1, c1, by simp [tagD, hd1], ht1, hp1, hk1, hq1, ha1⟩
        | false =>
          have hla : ¬ st1.lookahead ≠ .none := fun hn => hn (hs1.la.2 hb)
          rw [if_neg hla]
          obtain ⟨X, si, r, tag, p', e1, e2⟩ := tag_queue st.queue f1 t (hemit hb σ σ1 f1 hd1)
          rw [hq1, e1]
          simp only [List.getLast?_append, List.getLast?_singleton, Option.some_or,
            List.dropLast_concat]
          exact ⟨σ1, Ref.setLastTag f1 t, c1, by simp [tagD, hd1], ht1, hp1, hk1, e2.symm, ha1⟩
    | err st1 =>
      obtain ⟨hd, x⟩ := h.err hs hr
      exact ⟨by simp [tagD, hd], x⟩
    | panic => simp [OutSpecT, tagD, h.panic hs hr]
    | fuel => trivial

end PestModel.VmRef
