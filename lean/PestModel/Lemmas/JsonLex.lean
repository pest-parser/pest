import PestModel.Lemmas.JsonPrim
/-!
Lexical rules as functions on cursors. In atomic mode an expression built
from one-character classes by sequence, choice, option and repetition denotes a partial function
`Cur → Option Cur`; `Lexes` says so for all cursors of the input at once, and comes with one rule per
constructor, so that a lexical rule of the grammar is translated by writing down its syntax tree.
The implicit whitespace of non-atomic rules is the first use.
-/
namespace PestModel.Json
open PestModel.Ref PestModel.G
open PestModel.LineCol (Str cLen bLen)
open PestModel.PS (Atomicity CharSet restAt)
open PestModel.Views (Tree)

section
variable {input : Str} {uni : String → Option CharSet}

/-- a loop whose step is a one-character class skips the longest run of the class. -/
theorem span_loop {p : Char → Bool} {stk : List Str} {step : St → Res} {loop : St → List Tree → Res}
    (hstep : ∀ c, At input c → step ⟨c.pos, stk⟩ = toRes (chL p c) stk)
    (hloop : ∀ s acc, loop s acc =
      match step s with
      | .ok s2 f2 => loop s2 (acc ++ f2)
      | .fail => .ok s acc
      | r => r)
    (c : Cur) (h : At input c) (acc : List Tree) : loop ⟨c.pos, stk⟩ acc = .ok ⟨(spanC p c).pos, stk⟩ acc := by
  obtain ⟨rest, q⟩ := c
  induction rest generalizing q with
  | nil => rw [hloop, hstep _ h]; rfl
  | cons ch cs ih =>
    rw [hloop, hstep _ h]
    simp only [chL, spanC, spanL_cons]
    cases p ch
    · rfl
    · simp only [if_true, toRes_some, List.append_nil]
      exact ih _ h.adv

/-- the expression `e`, in atomic mode, is the function `L`. -/
structure Lexes (input : Str) (uni : String → Option CharSet) (la : Bool) (e : Expr) (L : Lex) : Prop where
  val : ∀ c, At input c → ∀ stk, val (jctx input uni) .atomic la e ⟨c.pos, stk⟩ = toRes (L c) stk
  reach : Adv L

theorem Lexes.str1 (la : Bool) (a : Char) : Lexes input uni la (.str [a]) (chL (· == a)) :=
  ⟨fun c h stk => by rw [val_str, lit1_at h], Adv.ch _⟩

theorem Lexes.range (la : Bool) (a b : Char) : Lexes input uni la (.range a b) (chL fun ch => a ≤ ch ∧ ch ≤ b) :=
  ⟨fun c h stk => by rw [val_range, oneChar_at h], Adv.ch _⟩

theorem Lexes.builtin {la : Bool} {nm : String} {p : Char → Bool}
    (h : ∀ s, valCa (jctx input uni) .atomic la nm s = oneChar (jctx input uni) s p) :
    Lexes input uni la (.ident nm) (chL p) :=
  ⟨fun c hc stk => by rw [val_ident, h, oneChar_at hc], Adv.ch _⟩

theorem Lexes.seq {la a b A B} (ha : Lexes input uni la a A) (hb : Lexes input uni la b B) :
    Lexes input uni la (.seq a b) (seqL A B) := by
  refine ⟨fun c h stk => ?_, ha.reach.seq hb.reach⟩
  rw [val_seq_atomic, ha.val c h]
  unfold seqL
  cases hA : A c with
  | none => rfl
  | some d =>
    simp only [toRes_some, Option.bind_some]
    rw [hb.val d (h.reach (ha.reach _ _ hA))]
    cases B d <;> rfl

theorem Lexes.choice {la a b A B} (ha : Lexes input uni la a A) (hb : Lexes input uni la b B) :
    Lexes input uni la (.choice a b) (orL A B) := by
  refine ⟨fun c h stk => ?_, ha.reach.or hb.reach⟩
  rw [val_choice, ha.val c h, hb.val c h]
  unfold orL
  cases A c <;> rfl

theorem Lexes.choiceCh {la a b p q} (ha : Lexes input uni la a (chL p)) (hb : Lexes input uni la b (chL q)) :
    Lexes input uni la (.choice a b) (chL fun ch => p ch || q ch) :=
  chL_or p q ▸ ha.choice hb

theorem Lexes.opt {la a A} (ha : Lexes input uni la a A) : Lexes input uni la (.opt a) (optL A) := by
  refine ⟨fun c h stk => ?_, ha.reach.opt⟩
  rw [val_opt, ha.val c h]
  unfold optL
  cases A c <;> rfl

/-- `!x ~ y` for one-character classes (`x` is evaluated inside a predicate). -/
theorem Lexes.notThen {la x y p q} (hx : Lexes input uni true x (chL p)) (hy : Lexes input uni la y (chL q)) :
    Lexes input uni la (.seq (.negPred x) y) (chL fun ch => !p ch && q ch) := by
  refine ⟨fun c h stk => ?_, Adv.ch _⟩
  rw [val_seq_atomic, val_negPred, hx.val c h]
  cases hr : c.rest with
  | nil => rw [chL_nil hr, chL_nil hr]; simp only [toRes_none]; rw [hy.val c h, chL_nil hr]; rfl
  | cons ch cs =>
    rw [chL_cons hr, chL_cons hr]
    cases p ch
    · simp only [Bool.false_eq_true, if_false, toRes_none, Bool.not_false, Bool.true_and]
      rw [hy.val c h, chL_cons hr]
      cases q ch <;> rfl
    · rfl

theorem Lexes.call {la : Bool} {name : String} {id : Nat} {e : Expr} {L : Lex}
    (hr : (jctx input uni).rule? name = some (id, ⟨name, .atomic, e⟩))
    (he : Lexes input uni la e L) : Lexes input uni la (.ident name) L :=
  ⟨fun c h stk => by rw [val_ident, call_atomic hr, he.val c h], he.reach⟩

/-- `e*` for a one-character class. -/
theorem Lexes.many {la e p} (he : Lexes input uni la e (chL p)) : Lexes input uni la (.rep e) (manyL p) := by
  refine ⟨fun c h stk => ?_, Adv.many p⟩
  rw [val_rep_atomic]
  exact span_loop (fun c h => he.val c h stk) (valL_atomic _ la e) c h []

/-- `e+` (the grammar does not use grammar-extras). -/
theorem Lexes.plus {la e p} (he : Lexes input uni la e (chL p)) :
    Lexes input uni la (.repOnce e) (seqL (chL p) (manyL p)) := by
  have := he.seq he.many
  refine ⟨fun c h stk => ?_, this.reach⟩
  rw [val_repOnce]
  exact this.val c h stk

theorem Lexes.repExact {la e n u L} (hu : seqOfList (List.replicate n e) = some u) (h : Lexes input uni la u L) :
    Lexes input uni la (.repExact e n) L :=
  ⟨fun c hc stk => by rw [val_repExact, hu]; exact h.val c hc stk, h.reach⟩

theorem Lexes.congrCh {la e p q} (h : Lexes input uni la e (chL p)) (hpq : ∀ ch, p ch = true ↔ q ch = true) :
    Lexes input uni la e (chL q) :=
  (funext fun ch => Bool.eq_iff_iff.2 (hpq ch) : p = q) ▸ h

theorem lex_ws (la : Bool) : Lexes input uni la eWs (chL fun ch => isWs ch) :=
  ((((Lexes.str1 la ' ').choiceCh (Lexes.str1 la '\t')).choiceCh (Lexes.str1 la '\r')).choiceCh
    (Lexes.str1 la '\n')).congrCh fun ch => by
      simp only [Bool.or_eq_true, beq_iff_eq, decide_eq_true_eq, or_assoc]
      unfold isWs
      constructor <;> rintro (h | h | h | h) <;> simp [h]

theorem ws_call {c : Cur} (h : At input c) (la : Bool) (stk : List Str) :
    valCa (jctx input uni) .nonAtomic la "WHITESPACE" ⟨c.pos, stk⟩ = toRes (chL (fun ch => isWs ch) c) stk := by
  have hm : bodyMode "WHITESPACE" .silent .nonAtomic = .atomic := rfl
  rw [valCa_unfold, rule_ws]
  simp only [hm, emitsFor, (lex_ws la).val c h]
  cases chL (fun ch => isWs ch) c <;> rfl

/-- the implicit whitespace between the elements of a sequence in a non-atomic rule = RFC `ws`. -/
theorem skip_at {c : Cur} (h : At input c) (la : Bool) (stk : List Str) :
    valK (jctx input uni) .nonAtomic la ⟨c.pos, stk⟩ = .ok ⟨(wsC c).pos, stk⟩ [] := by
  rw [valK_eq]
  simp only [skipWsF, has_ws, has_comment, ne_eq, not_true_eq_false, if_false]
  exact span_loop (fun c h => ws_call h la stk) (fun s acc => valSt_eq _ la _ s acc) c h []

end
end PestModel.Json
