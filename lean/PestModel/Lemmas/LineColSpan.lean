import PestModel.Lemmas.LineColLineOf
/-! `LinesSpan` yields the lines of `specLinesSpan`: the iterator and `specLinesGo` are stepped a line at a time. -/
namespace PestModel.LineCol

/-- `specLinesGo` read a line at a time: the same step as `LinesSpan::next`. -/
theorem specLinesGo_line (post : Str) (st cur : Nat) :
    specLinesGo post st cur = (st, cur + bLen (lineTail post)) ::
      if '\n' ∈ post then
        specLinesGo (lineRest post) (cur + bLen (lineTail post)) (cur + bLen (lineTail post))
      else [] := by
  induction post generalizing cur with
  | nil => simp [specLinesGo, lineTail]
  | cons c cs ih =>
    by_cases hc : c = '\n'
    · subst hc; simp [specLinesGo, lineTail, lineRest]
    · have hc' : ¬ '\n' = c := fun e => hc e.symm
      simp [specLinesGo, lineTail, lineRest, hc, hc', ih, Nat.add_assoc]

theorem specLinesGo_no_nl {H : Str} (hH : '\n' ∉ H) (post : Str) (st cur : Nat) :
    specLinesGo (H ++ post) st cur = specLinesGo post st (cur + bLen H) := by
  induction H generalizing cur with
  | nil => simp
  | cons c cs ih =>
    simp at hH
    simp only [List.cons_append, specLinesGo]
    rw [if_neg (fun e => hH.1 e.symm), ih hH.2]
    simp [Nat.add_assoc]

theorem specLinesGo_bounds (r : Str) (st cur : Nat) (h : st ≤ cur) :
    ∀ p ∈ specLinesGo r st cur, st ≤ p.1 ∧ cur ≤ p.2 ∧ p.2 ≤ cur + bLen r := by
  fun_induction specLinesGo r st cur <;> intro p hp
  · cases List.mem_singleton.1 hp; simp
  · rename_i ih
    rcases List.mem_cons.1 hp with rfl | hp
    · simp
    · have := ih (Nat.le_refl _) p hp; simp; omega
  · rename_i ih
    have := ih (by omega) p hp; simp; omega

/-- the lines that end inside a closed prefix do not pass a filter that asks for an end beyond it -/
theorem specLinesGo_skip (p : Nat × Nat → Bool) (d rest : Str) (st cur : Nat)
    (hp : ∀ x y, y ≤ cur + bLen d + 1 → p (x, y) = false) :
    (specLinesGo (d ++ '\n' :: rest) st cur).filter p =
      (specLinesGo rest (cur + bLen d + 1) (cur + bLen d + 1)).filter p := by
  induction d generalizing st cur with
  | nil => simp [specLinesGo, hp st (cur + 1) (by simp)]
  | cons c cs ih =>
    simp only [List.cons_append, specLinesGo, bLen_cons] at hp ⊢
    have := cLen_pos c
    split
    · rename_i hc
      subst hc
      rw [List.filter_cons_of_neg (by simp [hp st (cur + 1) (by omega)]),
        ih _ _ fun x y h => hp x y (by simp at h ⊢; omega)]
      simp [Nat.add_assoc, Nat.add_comm 1]
    · rw [ih _ _ fun x y h => hp x y (by omega)]
      simp [Nat.add_assoc]

theorem linesSpanGo_gt {s : Str} {b pos : Nat} (h : pos > b) (fuel : Nat) :
    linesSpanGo s b fuel pos = [] := by
  cases fuel <;> simp [linesSpanGo, h]

theorem linesSpanGo_end (s : Str) (b fuel : Nat) : linesSpanGo s b fuel (bLen s) = [] := by
  cases fuel <;> simp [linesSpanGo]

theorem linesSpanGo_step {A : Str} (hA : Closed A) {H : Str} (hH : '\n' ∉ H) {post : Str}
    (hpost : post ≠ []) {b : Nat} (hb : bLen A + bLen H ≤ b) (fuel : Nat) :
    linesSpanGo (A ++ H ++ post) b (fuel + 1) (bLen A + bLen H) =
      (bLen A, bLen A + bLen H + bLen (lineTail post)) ::
        linesSpanGo (A ++ H ++ post) b fuel (bLen A + bLen H + bLen (lineTail post)) := by
  have hT := lineTail_pos hpost
  have hTle := bLen_lineTail_le post
  have hbd : isBoundary (A ++ H ++ post) (bLen A + bLen H) = true :=
    (isBoundary_iff _ _).2 ⟨A ++ H, post, rfl, by simp⟩
  have hls := findLineStart_spec hA hH post
  have hle := findLineEnd_spec (A ++ H) post
  rw [bLen_append] at hle
  have hsp : spanNew (A ++ H ++ post) (bLen A) (bLen A + bLen H + bLen (lineTail post)) = true := by
    unfold spanNew
    have := slice_append A (H ++ lineTail post) (lineRest post)
    simp only [List.append_assoc, lineTail_append_lineRest, bLen_append] at this
    simp only [List.append_assoc, Nat.add_assoc, this]
    rfl
  rw [linesSpanGo]
  rw [if_neg (by omega)]
  simp only [hbd, hls, hle, hsp]
  rw [if_neg (by simp)]
  simp; omega

/-- From the cut `A ++ H | post` (`H = []` after the first line) the iterator yields the remaining lines of the
counting definition that start at or before `b`. -/
theorem linesSpanGo_spec (fuel : Nat) : ∀ (A H post : Str) (b : Nat), Closed A → '\n' ∉ H →
    post.length + 1 ≤ fuel → (H = [] ∨ bLen A + bLen H ≤ b) →
    linesSpanGo (A ++ H ++ post) b fuel (bLen A + bLen H) =
      (specLinesGo post (bLen A) (bLen A + bLen H)).filter
        (fun (x, y) => x < y ∧ x ≤ b ∧ bLen A + bLen H < y) := by
  induction fuel with
  | zero => intro A H post b _ _ h; omega
  | succ fuel ih =>
    intro A H post b hA hH hfuel hb
    by_cases hpost : post = []
    · subst hpost
      have : bLen A + bLen H = bLen (A ++ H ++ []) := by simp
      rw [this, linesSpanGo_end]
      simp [specLinesGo]
    by_cases hgt : bLen A + bLen H > b
    · -- only possible at a line start (`H = []`): every remaining line starts beyond `b`
      obtain rfl : H = [] := hb.resolve_right (by omega)
      rw [linesSpanGo_gt hgt, eq_comm, List.filter_eq_nil_iff]
      rintro ⟨x, y⟩ hp hd
      have := specLinesGo_bounds post (bLen A) (bLen A + bLen []) (by simp) _ hp
      have hd' := of_decide_eq_true hd
      simp only [bLen_nil, Nat.add_zero] at this hgt hd'
      omega
    · rw [linesSpanGo_step hA hH hpost (by omega), specLinesGo_line]
      have hT := lineTail_pos hpost
      rw [List.filter_cons_of_pos (by simp; omega)]
      congr 1
      split
      · rename_i hnl
        obtain ⟨d, hd⟩ := lineTail_closed hnl
        have := ih (A ++ H ++ lineTail post) [] (lineRest post) b (Or.inr ⟨A ++ H ++ d, by simp [hd]⟩)
          (by simp) (by have := length_lineRest_lt hpost; omega) (Or.inl rfl)
        simp only [List.append_nil, bLen_append, bLen_nil, Nat.add_zero, List.append_assoc,
          lineTail_append_lineRest] at this
        simp only [List.append_assoc]
        rw [← Nat.add_assoc] at this
        rw [this]
        apply List.filter_congr
        intro p hp
        have := specLinesGo_bounds _ _ _ (Nat.le_refl _) p hp
        rw [Bool.eq_iff_iff]
        simp only [decide_eq_true_eq]
        omega
      · rename_i hnl
        have h1 := lineTail_append_lineRest post
        rw [lineRest_no_nl hnl, List.append_nil] at h1
        have : bLen A + bLen H + bLen (lineTail post) = bLen (A ++ H ++ post) := by
          rw [h1]; simp [Nat.add_assoc]
        rw [this, linesSpanGo_end]
        rfl

theorem length_le_bLen (s : Str) : s.length ≤ bLen s := by
  induction s with
  | nil => simp
  | cons c cs ih => have := cLen_pos c; simp; omega

/-- the lines of the counting definition from the cut `A ++ H | post` on, as far as a filter that asks for an end
beyond `A` can tell -/
theorem specLines_cut {A H : Str} (hA : Closed A) (hH : '\n' ∉ H) (post : Str) (p : Nat × Nat → Bool)
    (hp : ∀ x y, y ≤ bLen A → p (x, y) = false) :
    (specLines (A ++ H ++ post)).filter p = (specLinesGo post (bLen A) (bLen A + bLen H)).filter p := by
  rw [specLines, List.append_assoc]
  rcases hA with rfl | ⟨d, rfl⟩
  · simp [specLinesGo_no_nl hH]
  · rw [List.append_assoc, List.singleton_append, specLinesGo_skip p d _ 0 0 (by simpa using hp),
      specLinesGo_no_nl hH]
    simp

theorem linesSpan_boundary (pre post : Str) (b : Nat) (hab : bLen pre ≤ b) :
    linesSpan (pre ++ post) (bLen pre) b = specLinesSpan (pre ++ post) (bLen pre) b := by
  induction pre using cut_cases with | _ A H hA hH _ _ =>
  rw [bLen_append] at hab ⊢
  rw [linesSpan, specLinesSpan, specLines_cut hA hH post _ (by
      intro x y hy; simp only [decide_eq_false_iff_not]; omega)]
  exact linesSpanGo_spec _ A H post b hA hH (by have := length_le_bLen post; simp; omega) (.inr hab)

end PestModel.LineCol
