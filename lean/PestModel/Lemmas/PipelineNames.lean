import PestModel.Lemmas.PipelineNoPanic
/-!
The names `validate_pairs` checks are the names of the rules the reader returns: `rules.map name` is the list of the first
inner pairs of the `grammar_rule`s (`definitions`), so "no duplicate, no keyword" of `validate_pairs` is `Nodup` and
"not a keyword" of the rules. The names it reports are texts of the pairs it looked at (`namesOf_mem`, `duplicates_subset`).
-/
namespace PestModel.Pipeline
open PestModel.G PestModel.Reader PestModel.ReaderFull PestModel.ReaderP PestModel.ReaderShape PestModel.Ref
open PestModel.Views (Tree preorderList)
open PestModel.LineCol (Str)

theorem duplicates_nil : ∀ (ns seen : List String), duplicates ns seen = [] → ns.Nodup ∧ ∀ n ∈ ns, n ∉ seen
  | [], _, _ => by simp
  | n :: ns, seen, h => by
    unfold duplicates at h
    split at h
    · simp at h
    · rename_i hc
      obtain ⟨hnd, hns⟩ := duplicates_nil ns (n :: seen) h
      have hn : n ∉ seen := by simpa using hc
      refine ⟨List.nodup_cons.2 ⟨fun hm => (hns n hm) (by simp), hnd⟩, ?_⟩
      intro x hx
      rcases List.mem_cons.1 hx with rfl | hx
      · exact hn
      · exact fun hm => hns x hx (by simp [hm])

theorem duplicates_subset : ∀ (ns seen : List String), ∀ n ∈ duplicates ns seen, n ∈ ns
  | [], _, n, h => by simp [duplicates] at h
  | m :: ms, seen, n, h => by
    unfold duplicates at h
    split at h
    · rcases List.mem_cons.1 h with rfl | h
      · simp
      · exact List.mem_cons_of_mem _ (duplicates_subset ms seen n h)
    · exact List.mem_cons_of_mem _ (duplicates_subset ms _ n h)

theorem ruleParts_name {text : Str} {t : Tree} {name : String} {ty : RuleType} {inner : List Tree}
    (h : ReaderP.ruleParts text t = .ok (name, ty, inner)) :
    ∃ c rest s, t.children = c :: rest ∧ strOf text c = some s ∧ name = String.ofList s := by
  unfold ReaderP.ruleParts at h
  split at h
  · rename_i id x m rest hch
    simp only [R3.bind_eq_ok] at h
    obtain ⟨_, _, h⟩ := h
    split at h
    · simp only [R3.bind_eq_ok, orPanic_eq_ok] at h
      obtain ⟨s, hs, h⟩ := h
      split at h
      · cases h
      · simp only [R3.ok.injEq, Prod.mk.injEq] at h
        exact ⟨id, _, s, hch, hs, h.1.symm⟩
    · cases h
  · cases h

/-- the name of the rule a `grammar_rule` pair is read to is the text of its first inner pair. -/
theorem consumeRule_name {extras : Bool} {text : Str} {fuel : Nat} {t : Tree} {r : Rule}
    (h : ReaderP.consumeRule extras text fuel t = .ok r) :
    ∃ c rest s, t.children = c :: rest ∧ strOf text c = some s ∧ r.name = String.ofList s := by
  simp only [ReaderP.consumeRule, R3.bind_eq_ok, R3.map_eq_ok] at h
  obtain ⟨⟨name, ty, inner⟩, hp, body, _, rfl⟩ := h
  exact ruleParts_name hp

theorem names_link {extras : Bool} {text : Str} {fuel : Nat} : ∀ (forest : List Tree) (rules : List Rule) (defs : List Tree)
    (names : List String), ReaderP.consumeRulesGo extras text fuel forest = .ok rules → definitions forest = .ok defs →
    namesOf text defs = .ok names → rules.map (·.name) = names := by
  intro forest
  fun_induction ReaderP.consumeRulesGo extras text fuel forest with
  | case1 =>
    intro rules defs names h hd hn
    cases h; cases hd; cases hn; rfl
  | case2 t ts hk hch => intro rules defs names h; cases h
  | case3 t ts hk c cs hch hl ih =>
    intro rules defs names h hd hn
    simp only [definitions, hk, hch, hl, if_true, R3.map_eq_ok] at hd
    obtain ⟨ds, hds, rfl⟩ := hd
    exact ih _ _ _ h hds hn
  | case4 t ts hk c cs hch hl ih =>
    intro rules defs names h hd hn
    simp only [definitions, hk, hch, hl, if_true, if_false, R3.map_eq_ok] at hd
    obtain ⟨ds, hds, rfl⟩ := hd
    simp only [R3.bind_eq_ok, R3.map_eq_ok] at h
    obtain ⟨r, hr, rs, hrs, rfl⟩ := h
    simp only [namesOf, R3.bind_eq_ok, R3.map_eq_ok, orPanic_eq_ok] at hn
    obtain ⟨s, hs, ns, hns, rfl⟩ := hn
    obtain ⟨c', rest', s', hch', hs', hname⟩ := consumeRule_name hr
    rw [hch] at hch'; cases hch'
    rw [hs] at hs'; cases hs'
    simp [hname, ih _ _ _ hrs hds hns]
  | case5 t ts hk ih =>
    intro rules defs names h hd hn
    simp only [definitions, hk, if_false] at hd
    exact ih _ _ _ h hd hn

/-- `namesOf` succeeds with `ns` exactly when every pair has a text and the texts are `ns`. -/
theorem namesOf_iff {text : Str} : ∀ (l : List Tree) (ns : List String),
    namesOf text l = .ok ns ↔ l.map (fun t => (strOf text t).map String.ofList) = ns.map some
  | [], ns => by cases ns <;> simp [namesOf]
  | t :: ts, ns => by
    cases ns with
    | nil => simp [namesOf, R3.bind_eq_ok, R3.map_eq_ok]
    | cons n ns =>
      simp only [namesOf, R3.bind_eq_ok, R3.map_eq_ok, orPanic_eq_ok, List.map_cons, List.cons.injEq,
        namesOf_iff ts]
      constructor
      · rintro ⟨s, hs, ns', hns, rfl, rfl⟩; exact ⟨by simp [hs], hns⟩
      · rintro ⟨h1, h2⟩
        cases hs : strOf text t with
        | none => simp [hs] at h1
        | some s => simp [hs] at h1; exact ⟨s, rfl, ns, h2, h1, rfl⟩

theorem namesOf_mem {text : Str} (l : List Tree) (ns : List String) (h : namesOf text l = .ok ns) :
    ∀ n ∈ ns, ∃ t ∈ l, (strOf text t).map String.ofList = some n := by
  intro n hn
  have : some n ∈ l.map (fun t => (strOf text t).map String.ofList) := by
    rw [(namesOf_iff l ns).1 h]; exact List.mem_map_of_mem hn
  exact List.mem_map.1 this

/-- what `validate_pairs` computes when none of its `unwrap`s panics. -/
theorem validatePairs_inv {text : Str} {forest : List Tree} {errs : List (String × String)}
    (h : validatePairs text forest = .ok errs) :
    ∃ defs names used, definitions forest = .ok defs ∧ namesOf text defs = .ok names ∧
      namesOf text (called forest) = .ok used ∧
      errs = (names.filter fun n => PestModel.Gen.Unicode.pestKeywords.contains n).map (fun n => ("keyword", n)) ++
        (duplicates names []).map (fun n => ("defined", n)) ++
        (used.filter fun n => !names.contains n && !PestModel.V.isBuiltin n).map (fun n => ("undefined", n)) := by
  simp only [validatePairs, R3.bind_eq_ok, R3.ok.injEq] at h
  obtain ⟨defs, hd, names, hn, used, hu, rfl⟩ := h
  exact ⟨defs, names, used, hd, hn, hu, rfl⟩

theorem validatePairs_nil {text : Str} {forest : List Tree} (h : validatePairs text forest = .ok []) :
    ∃ defs names, definitions forest = .ok defs ∧ namesOf text defs = .ok names ∧ names.Nodup ∧
      ∀ n ∈ names, n ∉ PestModel.Gen.Unicode.pestKeywords := by
  obtain ⟨defs, names, used, hd, hn, _, h⟩ := validatePairs_inv h
  simp only [List.nil_eq, List.append_eq_nil_iff, List.map_eq_nil_iff, List.filter_eq_nil_iff] at h
  exact ⟨defs, names, hd, hn, (duplicates_nil names [] h.1.2).1, fun n hn' hc => h.1.1 n hn' (by simpa using hc)⟩

/-- what `parse_and_optimize` has gone through after the parse when it returns rules. -/
theorem afterParse_inv {extras : Bool} {text : Str} {forest : List Tree} {rs : List ORule}
    (h : afterParse extras text forest = .ok rs) :
    validatePairs text forest = .ok [] ∧ ∃ rules, ReaderP.consumeRulesWithSpans extras text forest = .ok rules ∧
      PestModel.V.validateAst extras rules = [] ∧ optimize extras rules = some rs := by
  unfold afterParse at h
  split at h
  · cases h
  · cases h
  · rename_i errs hv
    split at h
    · cases h
    · rename_i he
      split at h
      · cases h
      · cases h
      · rename_i rules hc
        cases ho : optimize extras rules with
        | none => simp only [ho] at h; split at h <;> cases h
        | some rs' =>
          simp only [ho] at h
          split at h
          · cases h
          · rename_i hve
            cases h
            have he : errs = [] := by simpa using he
            exact ⟨he ▸ hv, rules, hc, by simpa using hve, ho⟩

end PestModel.Pipeline
