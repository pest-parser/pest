import PestModel.Lemmas.JsonMain
/-!
`value` (ordered choice = dispatch on the first character), the induction,
and the top rule `json`.
-/
namespace PestModel.Json
open PestModel.Ref PestModel.G
open PestModel.LineCol (Str cLen bLen)
open PestModel.PS (Atomicity CharSet restAt restAt_iff restAt_advance)
open PestModel.Views (Tree)

section
variable {input : Str} {uni : String → Option CharSet}

/-- the ordered choice of `value`. -/
def chain6 (r1 r2 r3 r4 r5 r6 : Res) : Res :=
  match (match (match (match (match r1 with | .fail => r2 | r => r) with | .fail => r3 | r => r) with
    | .fail => r4 | r => r) with | .fail => r5 | r => r) with
  | .fail => r6
  | r => r

theorem vRes_node {label : String} {id : Nat} (hid : ruleIdx label = id) (a : Nat) (stk : List Str)
    (X : Option (JTree × Cur)) :
    wrap id a (vRes X stk) =
    vRes (match X with
      | some (t, c') => some (.node label a c'.pos [t], c')
      | none => none) stk := by
  cases X with
  | none => rfl
  | some p => obtain ⟨t, c'⟩ := p; simp [JT_node, hid]

theorem vRes_or_fail (X : Option (JTree × Cur)) (stk : List Str) :
    (match vRes X stk with | .fail => Res.fail | r => r) = vRes X stk := by
  cases X with
  | none => rfl
  | some p => rfl

theorem value_step {stk : List Str} {f : Nat} (hO : PO input uni stk f) (hA : PA input uni stk f) :
    PV input uni stk (f + 1) := by
  intro c h hb
  rw [call_normal_of (rule_value input uni), value_succ]
  suffices key : val (jctx input uni) .nonAtomic false eValue ⟨c.pos, stk⟩ = vRes (valueInner f c) stk by
    rw [key]; exact vRes_node (by rw [ruleIdx_eq input uni, rule_value]) c.pos stk _
  simp only [eValue, val_choice', val_ident]
  rw [string_call h, number_call h, hO c h (by omega), hA c h (by omega), bool_call h, null_call h, valueInner_eq]
  simp only [vRes_orJ, orJ_assoc]

/-- the fuel-free meaning of the five structural rules = the RFC recogniser with enough fuel. -/
theorem struct_all (stk : List Str) (f : Nat) :
    PV input uni stk f ∧ PO input uni stk f ∧ PA input uni stk f ∧ PM input uni stk f ∧ PE input uni stk f := by
  induction f with
  | zero =>
    refine ⟨?_, ?_, ?_, ?_, ?_⟩
    · intro c _ hb; omega
    · intro c h hb
      have hr : c.rest = [] := List.eq_nil_of_length_eq_zero (by omega)
      rw [hd_nil hr]
      exact bracket_fail (op := '{') (cl := '}') (it := "pair") h stk (rule_object input uni) (hd_nil hr _)
    · intro c h hb
      have hr : c.rest = [] := List.eq_nil_of_length_eq_zero (by omega)
      rw [hd_nil hr]
      exact bracket_fail (op := '[') (cl := ']') (it := "value") h stk (rule_array input uni) (hd_nil hr _)
    · intro c _ hb; omega
    · intro c _ hb; omega
  | succ f ih =>
    obtain ⟨hV, hO, hA, hM, hE⟩ := ih
    exact ⟨value_step hO hA, object_step hV hM, array_step hV hE, members_step hV hM, elements_step hV hE⟩

/-- **values**: the grammar's `value` at a cursor = RFC 8259 `value` (with enough fuel), same tree. -/
theorem value_call {c : Cur} (h : At input c) (stk : List Str) (f : Nat) (hb : 3 * c.rest.length + 1 ≤ f) :
    valCa (jctx input uni) .nonAtomic false "value" ⟨c.pos, stk⟩ = vRes (value f c) stk :=
  (struct_all stk f).1 c h hb

/-- a definite fuel-free value is reached with some fuel. -/
theorem exists_call_eq {c : Ctx} {m : Atomicity} {la : Bool} {nm : String} {s : St} {r : Res}
    (h : valCa c m la nm s = r) : ∃ fuel, call c fuel m la nm s = r :=
  (exists_call c m la nm s).imp fun _ hn => hn.trans h

/-- the same for a rule that produces one pair, with the tree translation under any name. -/
theorem exists_call_vRes {T : JTree → Tree} (hT : ∀ t, T t = JT t) {c : Ctx} {m : Atomicity} {la : Bool} {nm : String}
    {s : St} {o : Option (JTree × Cur)} {stk : List Str} (h : valCa c m la nm s = vRes o stk) :
    ∃ fuel, call c fuel m la nm s =
      match (generalizing := false) o with
      | some (t, c') => .ok ⟨c'.pos, stk⟩ [T t]
      | none => .fail := by
  obtain rfl : T = JT := funext hT
  exact exists_call_eq h

theorem SOI_call (m : Atomicity) (la : Bool) (s : St) :
    valCa (jctx input uni) m la "SOI" s = if s.pos = 0 then .ok s [] else .fail := by
  rw [valCa_unfold]; rfl

theorem EOI_call (s : St) :
    valCa (jctx input uni) .nonAtomic false "EOI" s =
      if s.pos = bLen input then .ok s [.node 15 s.pos s.pos none []] else .fail := by
  rw [valCa_unfold, rule_EOI]; rfl

/-- the result of a whole parse. -/
def jRes (input : Str) : Res :=
  match jsonText input with
  | some t => .ok ⟨bLen input, []⟩ [JT t]
  | none => .fail

/-- **the bundled grammar = RFC 8259**: the fuel-free meaning of rule `json` on the whole input. -/
theorem json_val (input : Str) (uni : String → Option CharSet) :
    valCa (jctx input uni) .nonAtomic false "json" ⟨0, []⟩ = jRes input := by
  rw [call_normal_of (rule_json input uni)]
  simp only [eJson, val_seq, val_ident, SOI_call, if_true]
  have h0 : At input ⟨input, 0⟩ := At.start input
  have hk := skip_at (uni := uni) h0 false []
  simp only at hk
  rw [hk]
  simp only []
  have h1 := h0.reach (wsC_reach ⟨input, 0⟩)
  have hl1 := (wsC_reach ⟨input, 0⟩).len
  simp only at hl1
  rw [value_call h1 [] (4 * (input.length + 1)) (by omega)]
  unfold jRes jsonText
  simp only []
  rw [ws_eq _ ⟨input, 0⟩ (by simp)]
  cases hv : value (4 * (input.length + 1)) (wsC ⟨input, 0⟩) with
  | none => rfl
  | some p =>
    obtain ⟨v, c1⟩ := p
    have hr1 := value_adv _ _ _ _ hv
    have h2 := h1.reach hr1
    have hl2 := hr1.len
    simp only [vRes_some]
    rw [skip_at h2, ws_eq _ c1 (by omega)]
    simp only []
    rw [EOI_call]
    have h3 := h2.reach (wsC_reach c1)
    simp only []
    by_cases he : (wsC c1).rest = []
    · have hp : (wsC c1).pos = bLen input := h3.eoi.2 he
      simp [he, hp, JT_node, ruleIdx_eq input uni, rule_json, rule_EOI]
      rfl
    · have hp : ¬ (wsC c1).pos = bLen input := fun e => he (h3.eoi.1 e)
      simp [he, hp]

end
end PestModel.Json
