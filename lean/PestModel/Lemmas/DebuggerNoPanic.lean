import PestModel.Lemmas.DebuggerTerm
import PestModel.Lemmas.DebuggerCtrl
namespace PestModel.Dbg

def okPc : PPc → Bool
  | .exited true => false
  | .abortCheck _ .panic => false
  | _ => true

/-- aborting the parse at any entry never ends in a panic of the parser thread. -/
def AbortsClean (s : State) : Prop := ∀ x ∈ s.abortInfo, x.2 ≠ Outcome.panic

structure PanicFree (s : State) : Prop where
  ab : AbortsClean s
  pc : ∀ t, s.cur = some t → okPc t.pc = true

theorem okPc_endWith {o : Outcome} (h : o ≠ .panic) : okPc (endWith o) = true := by
  cases o <;> simp_all [endWith, okPc]

theorem okPc_abortCheck {n : Nat} {o : Outcome} (h : o ≠ .panic) : okPc (.abortCheck n o) = true := by
  cases o <;> simp_all [okPc]

theorem okPc_abortCheck_inv {n : Nat} {o : Outcome} (h : okPc (.abortCheck n o) = true) : o ≠ .panic := by
  cases o <;> simp_all [okPc]

theorem okPc_nextEntry (s : State) (k : Nat) : okPc (nextEntry s k) = true := by
  unfold nextEntry; split <;> rfl

theorem abortInfo_getD {s : State} (h : AbortsClean s) (k : Nat) : (s.abortInfo[k]?.getD (0, .err)).2 ≠ Outcome.panic := by
  cases hk : s.abortInfo[k]? with
  | none => simp
  | some x => simpa using h x (List.mem_of_getElem? hk)

theorem parserStep_frame {s s' : State} (h : parserStep s = some s') :
    s'.abortInfo = s.abortInfo ∧ s'.cpc = s.cpc ∧ s'.rets = s.rets ∧ s'.old = s.old := by
  obtain ⟨t, _, hst⟩ := PStep_of_parserStep h
  cases hst <;> exact ⟨rfl, rfl, rfl, rfl⟩

theorem PanicFree_parser {s s' : State} (hp : PanicFree s) (h : parserStep s = some s') : PanicFree s' := by
  obtain ⟨t, hc, hst⟩ := PStep_of_parserStep h
  have hpc := hp.pc t hc
  refine ⟨fun x hx => hp.ab x ((parserStep_frame h).1 ▸ hx), fun t' ht' => ?_⟩
  cases hst <;> cases ht'
  case abort0 k o _ _ _ hab => exact okPc_endWith (by simpa [hab] using abortInfo_getD hp.ab k)
  case abortN k n o _ _ _ hab => exact okPc_abortCheck (by simpa [hab] using abortInfo_getD hp.ab k)
  case abortEnd hk _ => exact okPc_endWith (okPc_abortCheck_inv (hk ▸ hpc))
  case abortDec hk _ => exact okPc_abortCheck (okPc_abortCheck_inv (hk ▸ hpc))
  case lock =>
    show okPc (if _ then _ else _) = true
    split
    · rfl
    · exact okPc_nextEntry _ _
  case woken => exact okPc_nextEntry _ _
  all_goals rfl

/-- The controller leaves `abortInfo` alone and never moves a program counter of the parser: a thread it leaves in place
keeps its `pc`, the one it spawns is `Thread.fresh`. (Read off the branches of `controllerStep`.) -/
theorem ctrl_frame {s s' : State} (h : controllerStep s = some s') :
    s'.abortInfo = s.abortInfo ∧
      ∀ t', s'.cur = some t' → t' = Thread.fresh ∨ ∃ t, s.cur = some t ∧ t'.pc = t.pc := by
  unfold controllerStep at h
  repeat' split at h
  all_goals cases h
  all_goals simp_all

theorem PanicFree_ctrl {s s' : State} (hp : PanicFree s) (h : controllerStep s = some s') : PanicFree s' := by
  obtain ⟨hab, hpc⟩ := ctrl_frame h
  refine ⟨fun x hx => hp.ab x (hab ▸ hx), fun t' ht' => ?_⟩
  rcases hpc t' ht' with rfl | ⟨t, hc, e⟩
  · rfl
  · exact e ▸ hp.pc t hc

theorem PanicFree_reach {s0 s : State} (h0 : PanicFree s0) (hr : Reach s0 s) : PanicFree s := by
  induction hr with
  | refl => exact h0
  | step _ hs ih =>
    rcases hs with hs | hs
    · exact PanicFree_ctrl ih hs
    · exact PanicFree_parser ih hs

theorem PanicFree_init (entries : List (Rule × Nat)) (ok : Bool) (ab : List (Nat × Outcome)) (cap : Nat) (bps : List Rule)
    (todo : List Cmd) (h : ∀ x ∈ ab, x.2 ≠ Outcome.panic) : PanicFree (State.init entries ok ab cap bps todo) :=
  ⟨h, by simp [State.init]⟩
end PestModel.Dbg
