import PestModel.Lemmas.RefVal
/-! C01, reference side: the result combinators that the VM's program combinators implement, and one
unfolding of the reference's mutual block (`step c X`, for any family `X` — a fuel level or the limit)
written with them. -/
namespace PestModel.VmRef
open PestModel.G PestModel.PS PestModel.Ref PestModel.Views
open PestModel.LineCol (Str slice?)

def seqD (D1 D2 : St → Res) (σ : St) : Res :=
  match D1 σ with
  | .ok s1 f1 =>
    match D2 s1 with
    | .ok s2 f2 => .ok s2 (f1 ++ f2)
    | r => r
  | r => r

def altD (D1 D2 : St → Res) (σ : St) : Res :=
  match D1 σ with
  | .fail => D2 σ
  | r => r

def optD (D : St → Res) (σ : St) : Res :=
  match D σ with
  | .fail => .ok σ []
  | r => r

def posD (D : St → Res) (σ : St) : Res :=
  match D σ with
  | .ok _ _ => .ok σ []
  | r => r

def negD (D : St → Res) (σ : St) : Res :=
  match D σ with
  | .ok _ _ => .fail
  | .fail => .ok σ []
  | r => r

def ruleD (id : Nat) (emit : Bool) (D : St → Res) (σ : St) : Res :=
  match D σ with
  | .ok s1 f1 => if emit then .ok s1 [.node id σ.pos s1.pos none f1] else .ok s1 f1
  | r => r

def pushD (input : Str) (D : St → Res) (σ : St) : Res :=
  match D σ with
  | .ok s1 f1 =>
    match slice? input σ.pos s1.pos with
    | some str => .ok { s1 with stack := str :: s1.stack } f1
    | none => .stuck
  | r => r

def tagD (la : Bool) (t : Str) (D : St → Res) (σ : St) : Res :=
  match D σ with
  | .ok s1 f1 => .ok s1 (if la then f1 else Ref.setLastTag f1 t)
  | r => r

def _root_.PestModel.Ref.Res.prepend (acc : List Tree) : Res → Res
  | .ok s f => .ok s (acc ++ f)
  | r => r

/-- one round of the loop `L` over the unit `U`, with accumulator. -/
def loopD (U : St → Res) (L : St → List Tree → Res) (s : St) (acc : List Tree) : Res :=
  match U s with
  | .ok s1 f1 => L s1 (acc ++ f1)
  | .fail => .ok s acc
  | r => r

theorem ruleD_false (id : Nat) (D : St → Res) : ruleD id false D = D := by
  funext σ
  unfold ruleD
  cases D σ <;> rfl

theorem tagD_ne_fuel {la : Bool} {t : Str} {D : St → Res} {σ : St} (h : tagD la t D σ ≠ .fuel) :
    seqD D (fun σ => .ok σ []) σ ≠ .fuel := by
  unfold tagD at h
  unfold seqD
  cases h1 : D σ with
  | fuel => rw [h1] at h; exact absurd rfl h
  | _ => simp

theorem prepend_prepend (a b : List Tree) (r : Res) : (r.prepend b).prepend a = r.prepend (a ++ b) := by
  cases r <;> simp [Res.prepend]

theorem prepend_nil (r : Res) : r.prepend [] = r := by
  cases r <;> simp [Res.prepend]

/-- `seqD D (L · [])` when the accumulator of `L` is only prepended. -/
theorem seqD_loop {D : St → Res} {L : St → List Tree → Res}
    (hacc : ∀ s acc, L s acc = (L s []).prepend acc) (σ : St) :
    seqD D (fun s => L s []) σ = match D σ with | .ok s1 f1 => L s1 f1 | r => r := by
  unfold seqD
  cases D σ with
  | ok s1 f1 =>
    dsimp only
    rw [hacc s1 f1]
    cases L s1 [] <;> rfl
  | _ => rfl

theorem loopD_acc {U : St → Res} {L : St → List Tree → Res}
    (hacc : ∀ s acc, L s acc = (L s []).prepend acc) (s : St) (acc : List Tree) :
    loopD U L s acc = (loopD U L s []).prepend acc := by
  unfold loopD
  cases U s with
  | ok s1 f1 =>
    dsimp only
    rw [hacc s1 (acc ++ f1), hacc s1 ([] ++ f1), prepend_prepend]
    rfl
  | fail => simp [Res.prepend]
  | stuck => rfl
  | fuel => rfl

theorem loopD_ne_fail {U : St → Res} {L : St → List Tree → Res} (hnf : ∀ s acc, L s acc ≠ .fail)
    (s : St) (acc : List Tree) : loopD U L s acc ≠ .fail := by
  unfold loopD
  cases U s with
  | ok s1 f1 => exact hnf _ _
  | _ => simp

/-! ### one unfolding of the mutual block -/

section
variable (c : Ctx) (X : Fam) (m : Atomicity) (la : Bool)

theorem denoteF_seq (a b : Expr) :
    denoteF c X m la (.seq a b) = seqD (seqD (X.d m la a) (X.k m la)) (X.d m la b) := by
  funext s
  unfold seqD
  show (match X.d m la a s with
    | .ok s1 f1 => (match X.k m la s1 with
      | .ok s2 f2 => (match X.d m la b s2 with | .ok s3 f3 => Res.ok s3 (f1 ++ f2 ++ f3) | r => r)
      | r => r)
    | r => r) = _
  cases X.d m la a s with
  | ok s1 f1 =>
    dsimp only
    cases X.k m la s1 <;> rfl
  | _ => rfl

theorem denoteF_choice (a b : Expr) : denoteF c X m la (.choice a b) = altD (X.d m la a) (X.d m la b) := rfl
theorem denoteF_opt (e : Expr) : denoteF c X m la (.opt e) = optD (X.d m la e) := rfl
theorem denoteF_posPred (e : Expr) : denoteF c X m la (.posPred e) = posD (X.d m true e) := rfl
theorem denoteF_negPred (e : Expr) : denoteF c X m la (.negPred e) = negD (X.d m true e) := rfl
theorem denoteF_push (e : Expr) : denoteF c X m la (.push e) = pushD c.input (X.d m la e) := rfl
theorem denoteF_nodeTag (e : Expr) (t : Str) :
    denoteF c X m la (.nodeTag e t) = tagD la t (X.d m la e) := rfl
theorem denoteF_ident (n : String) : denoteF c X m la (.ident n) = X.ca m la n := rfl

theorem denoteF_repOnce_plain (hx : c.extras = false) (e : Expr) :
    denoteF c X m la (.repOnce e) = X.d m la (.seq e (.rep e)) := by
  funext s
  show (if c.extras then _ else _) = _
  rw [hx]; rfl

theorem callF_eq (name : String) :
    callF c X m la name = match c.rule? name with
      | some (id, r) => ruleD id (emitsFor r.ty m la) (X.d (bodyMode r.name r.ty m) la r.expr)
      | none => builtin c m la name := by
  funext s
  unfold callF
  cases c.rule? name <;> rfl

theorem repLoopF_eq (e : Expr) :
    repLoopF X m la e = loopD (seqD (X.k m la) (X.d m la e)) (X.l m la e) := by
  funext s acc
  unfold repLoopF loopD seqD
  cases X.k m la s with
  | ok s1 f1 =>
    dsimp only
    cases X.d m la e s1 <;> simp
  | _ => rfl

theorem starF_eq (name : String) : starF X la name = loopD (X.ca .nonAtomic la name) (X.st la name) := rfl

end

/-- the loops of `X` only prepend their accumulator and never fail. -/
structure Reg (X : Fam) : Prop where
  l_acc : ∀ m la e s acc, X.l m la e s acc = (X.l m la e s []).prepend acc
  st_acc : ∀ la n s acc, X.st la n s acc = (X.st la n s []).prepend acc
  cl_acc : ∀ la s acc, X.cl la s acc = (X.cl la s []).prepend acc
  l_nf : ∀ m la e s acc, X.l m la e s acc ≠ .fail
  st_nf : ∀ la n s acc, X.st la n s acc ≠ .fail

section
variable (c : Ctx) {X : Fam} (hX : Reg X) (m : Atomicity) (la : Bool)
include hX

theorem commentLoopF_eq :
    commentLoopF X la = loopD (seqD (X.ca .nonAtomic la "COMMENT") (fun σ => X.st la "WHITESPACE" σ []))
      (X.cl la) := by
  funext s acc
  unfold commentLoopF loopD seqD
  cases X.ca .nonAtomic la "COMMENT" s with
  | ok s1 f1 =>
    dsimp only
    have := hX.st_nf la "WHITESPACE" s1 []
    cases h : X.st la "WHITESPACE" s1 [] <;> simp_all
  | _ => rfl

theorem denoteF_rep (e : Expr) :
    denoteF c X m la (.rep e) = optD (seqD (X.d m la e) (fun σ => X.l m la e σ [])) := by
  funext s
  unfold optD
  rw [seqD_loop (hX.l_acc m la e)]
  show (match X.d m la e s with | .ok s1 f1 => X.l m la e s1 f1 | .fail => .ok s [] | r => r) = _
  cases X.d m la e s with
  | ok s1 f1 =>
    dsimp only
    have := hX.l_nf m la e s1 f1
    cases h : X.l m la e s1 f1 <;> simp_all
  | _ => rfl

theorem denoteF_repOnce (hx : c.extras = true) (e : Expr) :
    denoteF c X m la (.repOnce e) = seqD (X.d m la e) (fun σ => X.l m la e σ []) := by
  funext s
  rw [seqD_loop (hX.l_acc m la e)]
  show (if c.extras then _ else _) = _
  rw [if_pos hx]
  rfl

/-- the implicit skip outside atomic rules. -/
theorem skipWsF_nonAtomic :
    skipWsF c X .nonAtomic la = match c.has "WHITESPACE", c.has "COMMENT" with
      | false, false => fun σ => .ok σ []
      | true, false => fun σ => X.st la "WHITESPACE" σ []
      | false, true => fun σ => X.st la "COMMENT" σ []
      | true, true => seqD (fun σ => X.st la "WHITESPACE" σ []) (fun σ => X.cl la σ []) := by
  funext s
  unfold skipWsF
  rw [if_neg (by simp)]
  cases c.has "WHITESPACE" <;> cases c.has "COMMENT" <;> dsimp only
  rw [seqD_loop (hX.cl_acc la)]
  rfl

theorem Reg.step : Reg (step c X) where
  l_acc m la e := by
    show ∀ s acc, repLoopF X m la e s acc = (repLoopF X m la e s []).prepend acc
    rw [repLoopF_eq]; exact loopD_acc (hX.l_acc m la e)
  st_acc la n := loopD_acc (hX.st_acc la n)
  cl_acc la := by
    show ∀ s acc, commentLoopF X la s acc = (commentLoopF X la s []).prepend acc
    rw [commentLoopF_eq hX]; exact loopD_acc (hX.cl_acc la)
  l_nf m la e := by
    show ∀ s acc, repLoopF X m la e s acc ≠ _
    rw [repLoopF_eq]; exact loopD_ne_fail (hX.l_nf m la e)
  st_nf la n := loopD_ne_fail (hX.st_nf la n)

end

theorem reg_lev (c : Ctx) : ∀ n, Reg (lev c n)
  | 0 => by
    constructor <;> intros <;>
      simp [lev_zero_l, lev_zero_st, lev_zero_cl, Res.prepend]
  | n + 1 => by rw [lev_succ]; exact (reg_lev c n).step c

/-- two convergent sequences take their limits at a common index. -/
theorem conv_both {f g : Nat → Res} {a b : Res} (hf : Conv f a) (hg : Conv g b) : ∃ n, f n = a ∧ g n = b := by
  obtain ⟨N1, h1⟩ := hf
  obtain ⟨N2, h2⟩ := hg
  exact ⟨N1 + N2, h1 _ (Nat.le_add_right _ _), h2 _ (Nat.le_add_left _ _)⟩

theorem reg_V (c : Ctx) : Reg (V c) where
  l_acc m la e s acc := by
    obtain ⟨n, a, b⟩ := conv_both ((lev_conv c).l m la e s acc) ((lev_conv c).l m la e s [])
    rw [← a, ← b]; exact (reg_lev c n).l_acc m la e s acc
  st_acc la nm s acc := by
    obtain ⟨n, a, b⟩ := conv_both ((lev_conv c).st la nm s acc) ((lev_conv c).st la nm s [])
    rw [← a, ← b]; exact (reg_lev c n).st_acc la nm s acc
  cl_acc la s acc := by
    obtain ⟨n, a, b⟩ := conv_both ((lev_conv c).cl la s acc) ((lev_conv c).cl la s [])
    rw [← a, ← b]; exact (reg_lev c n).cl_acc la s acc
  l_nf m la e s acc := by
    obtain ⟨n, a⟩ := (lev_conv c).l m la e s acc
    rw [← a n (Nat.le_refl _)]; exact (reg_lev c n).l_nf m la e s acc
  st_nf la nm s acc := by
    obtain ⟨n, a⟩ := (lev_conv c).st la nm s acc
    rw [← a n (Nat.le_refl _)]; exact (reg_lev c n).st_nf la nm s acc

/-! ### the two instances: the limit, and a fuel level over the previous one -/

section
variable (c : Ctx) (m : Atomicity) (la : Bool)

theorem val_step (e : Expr) : val c m la e = denoteF c (V c) m la e := funext (val_eq c m la e)
theorem valL_step (e : Expr) : valL c m la e = repLoopF (V c) m la e :=
  funext fun s => funext (valL_eq c m la e s)
theorem valK_step : valK c m la = skipWsF c (V c) m la := funext (valK_eq c m la)
theorem valSt_step (nm : String) : valSt c la nm = starF (V c) la nm :=
  funext fun s => funext (valSt_eq c la nm s)
theorem valCl_step : valCl c la = commentLoopF (V c) la := funext fun s => funext (valCl_eq c la s)
theorem valCa_step (nm : String) : valCa c m la nm = callF c (V c) m la nm := funext (valCa_eq c m la nm)

variable (n : Nat)

theorem denote_succ (e : Expr) : denote c (n + 1) m la e = denoteF c (lev c n) m la e :=
  congrArg (fun X : Fam => X.d m la e) (lev_succ c n)
theorem repLoop_succ (e : Expr) : repLoop c (n + 1) m la e = repLoopF (lev c n) m la e :=
  congrArg (fun X : Fam => X.l m la e) (lev_succ c n)
theorem skipWs_succ : skipWs c (n + 1) m la = skipWsF c (lev c n) m la :=
  congrArg (fun X : Fam => X.k m la) (lev_succ c n)
theorem star_succ (nm : String) : star c (n + 1) la nm = starF (lev c n) la nm :=
  congrArg (fun X : Fam => X.st la nm) (lev_succ c n)
theorem commentLoop_succ : commentLoop c (n + 1) la = commentLoopF (lev c n) la :=
  congrArg (fun X : Fam => X.cl la) (lev_succ c n)
theorem call_succ (nm : String) : call c (n + 1) m la nm = callF c (lev c n) m la nm :=
  congrArg (fun X : Fam => X.ca m la nm) (lev_succ c n)

end

/-- `L` is the reference's loop over the unit `D` (with an accumulator). -/
structure IsLoop (D : St → Res) (L : St → List Tree → Res) : Prop where
  unfold : L = loopD D L
  acc : ∀ s acc, L s acc = (L s []).prepend acc

theorem isLoop_valL (c : Ctx) (m : Atomicity) (la : Bool) (e : Expr) :
    IsLoop (seqD (valK c m la) (val c m la e)) (valL c m la e) :=
  ⟨(valL_step c m la e).trans (repLoopF_eq _ m la e), (reg_V c).l_acc m la e⟩

theorem isLoop_valSt (c : Ctx) (la : Bool) (name : String) :
    IsLoop (valCa c .nonAtomic la name) (valSt c la name) :=
  ⟨(valSt_step c la name).trans (starF_eq _ la name), (reg_V c).st_acc la name⟩

theorem isLoop_valCl (c : Ctx) (la : Bool) :
    IsLoop (seqD (valCa c .nonAtomic la "COMMENT") (fun σ => valSt c la "WHITESPACE" σ []))
      (valCl c la) :=
  ⟨(valCl_step c la).trans (commentLoopF_eq (reg_V c) la), (reg_V c).cl_acc la⟩

/-! ### results that carry at least one tree -/

theorem setLastTag_concat (init : List Tree) (r a b : Nat) (tag : Option Str) (cs : List Tree) (t : Str) :
    Ref.setLastTag (init ++ [.node r a b tag cs]) t = init ++ [.node r a b (some t) cs] := by
  unfold Ref.setLastTag
  simp

theorem setLastTag_ne_nil {f : List Tree} (t : Str) (h : f ≠ []) : Ref.setLastTag f t ≠ [] := by
  rcases List.eq_nil_or_concat f with h' | ⟨init, last, h'⟩
  · exact absurd h' h
  · subst h'
    cases last with
    | node r a b tag cs =>
      have : init.concat (Tree.node r a b tag cs) = init ++ [Tree.node r a b tag cs] := by simp
      rw [this, setLastTag_concat]
      simp

/-- every successful result of `D` carries at least one tree. -/
def NonEmpty (D : St → Res) : Prop := ∀ σ σ' f, D σ = .ok σ' f → f ≠ []

theorem NonEmpty.seqD_left {D1 D2 : St → Res} (h : NonEmpty D1) : NonEmpty (seqD D1 D2) := by
  intro σ σ' f hv
  unfold seqD at hv
  cases h1 : D1 σ with
  | ok s1 f1 =>
    rw [h1] at hv; dsimp only at hv
    cases h2 : D2 s1 with
    | ok s2 f2 => rw [h2] at hv; cases hv; simp [h σ s1 f1 h1]
    | _ => rw [h2] at hv; cases hv
  | _ => rw [h1] at hv; cases hv

theorem NonEmpty.seqD_right {D1 D2 : St → Res} (h : NonEmpty D2) : NonEmpty (seqD D1 D2) := by
  intro σ σ' f hv
  unfold seqD at hv
  cases h1 : D1 σ with
  | ok s1 f1 =>
    rw [h1] at hv; dsimp only at hv
    cases h2 : D2 s1 with
    | ok s2 f2 => rw [h2] at hv; cases hv; simp [h s1 _ f2 h2]
    | _ => rw [h2] at hv; cases hv
  | _ => rw [h1] at hv; cases hv

theorem NonEmpty.altD {D1 D2 : St → Res} (h1 : NonEmpty D1) (h2 : NonEmpty D2) : NonEmpty (altD D1 D2) := by
  intro σ σ' f hv
  unfold VmRef.altD at hv
  cases h : D1 σ with
  | ok s1 f1 => rw [h] at hv; cases hv; exact h1 σ _ _ h
  | fail => rw [h] at hv; exact h2 σ σ' f hv
  | _ => rw [h] at hv; cases hv

theorem NonEmpty.pushD {input : Str} {D : St → Res} (h : NonEmpty D) : NonEmpty (pushD input D) := by
  intro σ σ' f hv
  unfold VmRef.pushD at hv
  cases h1 : D σ with
  | ok s1 f1 =>
    rw [h1] at hv; dsimp only at hv
    split at hv
    · cases hv; exact h σ s1 _ h1
    · cases hv
  | _ => rw [h1] at hv; cases hv

theorem NonEmpty.tagD {t : Str} {D : St → Res} (h : NonEmpty D) : NonEmpty (tagD false t D) := by
  intro σ σ' f hv
  unfold VmRef.tagD at hv
  cases h1 : D σ with
  | ok s1 f1 => rw [h1] at hv; cases hv; exact setLastTag_ne_nil t (h σ _ f1 h1)
  | _ => rw [h1] at hv; cases hv

theorem NonEmpty.ruleD_true {id : Nat} {D : St → Res} : NonEmpty (ruleD id true D) := by
  intro σ σ' f hv
  unfold ruleD at hv
  cases h1 : D σ with
  | ok s1 f1 => rw [h1] at hv; cases hv; simp
  | _ => rw [h1] at hv; cases hv

end PestModel.VmRef
