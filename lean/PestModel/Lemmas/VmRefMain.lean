import PestModel.Lemmas.VmRefBuiltin
import PestModel.Lemmas.RefConcat
import PestModel.Lemmas.VmRefTag
/-! C01 and C08: the main induction — every lowered expression, rule call and `skip` implements the
reference denotation, makes the calls of the instrumented reference and moves the attempt bookkeeping
accordingly. -/
namespace PestModel.VmRef
open PestModel.G PestModel.PS PestModel.Lower PestModel.Ref PestModel.Views PestModel.Track
open PestModel.RefTrace (LA R Call callT modeAtRule)
open PestModel.LineCol (Str isBoundary bLen cLen splitAt? slice?)

section
variable (env : Env) (extras memchr : Bool) (input : Str)

/-- the context side conditions of an expression evaluated in mode `m`: the rules it refers to can be
entered in mode `m`, and its node tags sit on token-emitting operands. -/
def CtxOK (m : Atomicity) (e : OExpr) : Prop :=
  (∀ n' ∈ identsOf e, Reach env.rules n' m) ∧ TagOK extras env.rules m e

/-- the statement for expressions at fuel `n`. -/
def PE (n : Nat) : Prop :=
  ∀ (e : OExpr) (m : Atomicity) (la : LA), GoodE extras env.rules e → CtxOK env extras m e →
    SpecT (mkCfg env memchr) input n (vmExpr env m e) m la
      (val (mkCtx env extras input) m la.b (ofOptimized e))
      (EvD (mkCtx env extras input) m la (ofOptimized e))

theorem PE_zero : PE env extras memchr input 0 := fun _ _ _ _ _ => SpecT.zero _ _ _ _ _

variable {env extras memchr input}

theorem CtxOK.left {m : Atomicity} {a b : OExpr} (h : CtxOK env extras m (.seq a b)) : CtxOK env extras m a :=
  ⟨fun n hn => h.1 n (by simp [identsOf, hn]), h.2.1⟩
theorem CtxOK.right {m : Atomicity} {a b : OExpr} (h : CtxOK env extras m (.seq a b)) : CtxOK env extras m b :=
  ⟨fun n hn => h.1 n (by simp [identsOf, hn]), h.2.2⟩
theorem CtxOK.cleft {m : Atomicity} {a b : OExpr} (h : CtxOK env extras m (.choice a b)) :
    CtxOK env extras m a := ⟨fun n hn => h.1 n (by simp [identsOf, hn]), h.2.1⟩
theorem CtxOK.cright {m : Atomicity} {a b : OExpr} (h : CtxOK env extras m (.choice a b)) :
    CtxOK env extras m b := ⟨fun n hn => h.1 n (by simp [identsOf, hn]), h.2.2⟩
theorem CtxOK.tag {m : Atomicity} {e : OExpr} {t : Str} (h : CtxOK env extras m (.nodeTag e t)) :
    CtxOK env extras m e := ⟨h.1, h.2.2.2⟩

theorem bodyMode_ws {name : String} (h : isWsCm name = true) (ty : RuleType) (m : Atomicity) :
    bodyMode name ty m = if ty = .compound then .compound else .atomic := by
  unfold bodyMode
  rw [if_pos (by simpa [isWsCm] using h)]

theorem bodyMode_nws {name : String} (h : ¬ isWsCm name = true) (ty : RuleType) (m : Atomicity) :
    bodyMode name ty m = match ty with
      | .normal | .silent => m
      | .atomic => .atomic
      | .compound => .compound
      | .nonAtomic => .nonAtomic := by
  unfold bodyMode
  rw [if_neg (by simpa [isWsCm] using h)]
  cases ty <;> rfl

theorem modeAtRule_eq (name : String) (ty : RuleType) (m : Atomicity) :
    modeAtRule name ty m =
      match ty with | .compound => .compound | .nonAtomic => .nonAtomic | _ => m := by
  unfold modeAtRule; cases ty <;> simp only [ite_self]

/-- the calls a rule call records, given the calls `T` of its body. -/
def callsT (i : Nat) (rl : Rule) (m : Atomicity) (la : LA) (T : DT) : DT := fun σ res cs =>
  ∃ kids, T σ res kids ∧ cs = ruleCalls i rl m la σ res kids

theorem callsT_silent {i : Nat} {rl : Rule} {m : Atomicity} {la : LA} {T : DT} (h : rl.ty = .silent) :
    callsT i rl m la T = T := by
  funext σ res cs
  unfold callsT ruleCalls
  simp only [if_pos h]
  exact propext ⟨fun ⟨_, h1, h2⟩ => h2 ▸ h1, fun h1 => ⟨cs, h1, rfl⟩⟩

/-- a rule that is not silent records one node, in the mode `M` in which `rule` runs. -/
theorem callsT_node {i : Nat} {rl : Rule} {m : Atomicity} {la : LA} {T : DT} (M : Atomicity)
    (h : rl.ty ≠ .silent) (hM : modeAtRule rl.name rl.ty m = M) : callsT i rl m la T = ruleT i M la T := by
  funext σ res cs
  unfold callsT ruleCalls ruleT
  simp only [if_neg h, hM]

/-- `Vm::parse_rule` wraps the body in `rule` and `atomic` nodes; whatever these two wrappers preserve
passes from the body (in its own mode) to the rule call. -/
theorem vmRule_cases {P : Prog → Atomicity → (St → Res) → DT → Prop} {B : Atomicity → St → Res}
    {BT : Atomicity → DT} (env : Env) (i : Nat) (r : ORule) (m : Atomicity) (b : Bool) (la : LA)
    (hrule : ∀ {p m' D T}, P p m' D T →
      P (.rule i p) m' (ruleD i (!b && decide (m' ≠ .atomic)) D) (ruleT i m' la T))
    (hatom : ∀ {a p m' D T}, P p a D T → P (.atomic a p) m' D T)
    (hbody : P (vmExpr env (bodyMode r.name r.ty m) r.expr) (bodyMode r.name r.ty m)
      (B (bodyMode r.name r.ty m)) (BT (bodyMode r.name r.ty m))) :
    P (vmRule env i r m) m (ruleD i (emitsFor r.ty m b) (B (bodyMode r.name r.ty m)))
      (callsT i (oruleToRule r) m la (BT (bodyMode r.name r.ty m))) := by
  have e1 : ∀ x : Atomicity, x ≠ .atomic → ∀ D, ruleD i (!b && decide (x ≠ .atomic)) D = ruleD i (!b) D := by
    intro x hx D; simp [hx]
  have eT : ∀ (M : Atomicity) T, r.ty ≠ .silent → modeAtRule r.name r.ty m = M →
      callsT i (oruleToRule r) m la T = ruleT i M la T := fun M T h hM => callsT_node M h hM
  have eS : ∀ T, r.ty = .silent → callsT i (oruleToRule r) m la T = T := fun T h => callsT_silent h
  unfold vmRule
  by_cases hws : isWsCm r.name = true
  · rw [if_pos hws, bodyMode_ws hws]
    rw [bodyMode_ws hws] at hbody
    revert hbody
    cases hty : r.ty <;> dsimp only <;> intro hbody
    · rw [eT m _ (by rw [hty]; nofun) (by rw [modeAtRule_eq, hty])]
      exact hrule (hatom hbody)
    · rw [eS _ hty]
      exact (ruleD_false i _).symm ▸ hatom hbody
    · rw [eT m _ (by rw [hty]; nofun) (by rw [modeAtRule_eq, hty])]
      exact hrule (hatom hbody)
    · rw [eT .compound _ (by rw [hty]; nofun) (by rw [modeAtRule_eq, hty])]
      exact e1 .compound (by decide) _ ▸ hatom (hrule hbody)
    · rw [eT .nonAtomic _ (by rw [hty]; nofun) (by rw [modeAtRule_eq, hty])]
      exact e1 .nonAtomic (by decide) _ ▸ hatom (hrule (hatom hbody))
  · rw [if_neg hws, bodyMode_nws hws]
    rw [bodyMode_nws hws] at hbody
    revert hbody
    cases hty : r.ty <;> dsimp only <;> intro hbody
    · rw [eT m _ (by rw [hty]; nofun) (by rw [modeAtRule_eq, hty])]
      exact hrule hbody
    · rw [eS _ hty]
      exact (ruleD_false i _).symm ▸ hbody
    · rw [eT m _ (by rw [hty]; nofun) (by rw [modeAtRule_eq, hty])]
      exact hrule (hatom hbody)
    · rw [eT .compound _ (by rw [hty]; nofun) (by rw [modeAtRule_eq, hty])]
      exact e1 .compound (by decide) _ ▸ hatom (hrule hbody)
    · rw [eT .nonAtomic _ (by rw [hty]; nofun) (by rw [modeAtRule_eq, hty])]
      exact e1 .nonAtomic (by decide) _ ▸ hatom (hrule hbody)

theorem spec_vmRule {n : Nat} (ih : PE env extras memchr input n) (i : Nat) (r : ORule)
    (hg : GoodE extras env.rules r.expr) (m : Atomicity) (la : LA)
    (hc : CtxOK env extras (bodyMode r.name r.ty m) r.expr) :
    SpecT (mkCfg env memchr) input n (vmRule env i r m) m la
      (ruleD i (emitsFor r.ty m la.b)
        (val (mkCtx env extras input) (bodyMode r.name r.ty m) la.b (ofOptimized r.expr)))
      (callsT i (oruleToRule r) m la
        (EvD (mkCtx env extras input) (bodyMode r.name r.ty m) la (ofOptimized r.expr))) :=
  vmRule_cases
    (P := fun p m' D T => SpecT (mkCfg env memchr) input n p m' la D T)
    (B := fun m' => val (mkCtx env extras input) m' la.b (ofOptimized r.expr))
    (BT := fun m' => EvD (mkCtx env extras input) m' la (ofOptimized r.expr)) env i r m la.b la
    (spec_rule i) (spec_atomic _) (ih r.expr _ la hg hc)

variable (hsize : env.rules.length ≤ 333333333) (hgood : GoodRules extras env.rules)
  (htr : TagRules extras env.rules)
include hsize hgood htr

/-- a rule reference `Ident(name)` in context `m`: one unit of fuel goes into the `call`. -/
theorem spec_callRule {n : Nat} (ih : PE env extras memchr input n) (name : String)
    (m : Atomicity) (la : LA) (hreach : Reach env.rules name m) :
    SpecT (mkCfg env memchr) input (n + 1) (callRule env name m) m la
      (valCa (mkCtx env extras input) m la.b name) (EvCa (mkCtx env extras input) m la name) := by
  unfold callRule
  cases hidx : env.index name with
  | none =>
    dsimp only
    have hrule := (index_none (extras := extras) (input := input) hidx).1
    refine ((spec_builtin (extras := extras) hsize name hrule).congr fun σ => ?_).monoT fun σ r cs h => ?_
    · rw [valCa_unfold, hrule]
    · have := EvCa.builtin (m := m) (la := la) (s := σ) hrule
      rw [h] at this
      exact this
  | some i =>
    dsimp only
    obtain ⟨r, hget, hname, hlook, hrule, hfind⟩ := index_some (extras := extras) (input := input) hidx
    have hmem : r ∈ env.rules := List.mem_of_getElem? hget
    have hg : GoodE extras env.rules r.expr := hgood.expr r hmem
    have hc : CtxOK env extras (bodyMode r.name r.ty m) r.expr :=
      ⟨fun n' hn' => Reach.step hreach hfind hn', htr r hmem m (by rw [hname]; exact hreach)⟩
    refine ((spec_call (env_get m hget) (spec_vmRule ih i r hg m la hc)).congr fun σ => ?_).monoT ?_
    · rw [valCa_unfold, hrule]
      rfl
    · rintro σ res cs ⟨kids, hd, rfl⟩
      exact EvCa.rule hrule hd

/-- `name*` for `WHITESPACE` and `COMMENT`. -/
theorem spec_star {n : Nat} (ih : PE env extras memchr input n) (name : String)
    (hd : ¬ Dirty env.rules (.ident name)) (la : LA) :
    SpecT (mkCfg env memchr) input (n + 1) (.repeat_ (callRule env name .nonAtomic)) .nonAtomic la
      (fun σ => valSt (mkCtx env extras input) la.b name σ [])
      (loopT (EvSt (mkCtx env extras input) la name)) :=
  spec_repeat (isLoop_valSt _ la.b name) (isLoopT_star _ la name)
    ((GenVm.es_callRule hsize (GenVm.es_all hsize n) name .nonAtomic).weaken hd)
    (spec_callRule hsize hgood htr ih name .nonAtomic la (Reach.entry name))

/-- the unit `COMMENT ~ WHITESPACE*` of the comment loop. -/
theorem spec_cmUnit {n : Nat} (ih : PE env extras memchr input n) (la : LA) :
    SpecT (mkCfg env memchr) input (n + 1)
      (.sequence (.andThen (callRule env "COMMENT" .nonAtomic)
        (.repeat_ (callRule env "WHITESPACE" .nonAtomic)))) .nonAtomic la
      (seqD (valCa (mkCtx env extras input) .nonAtomic la.b "COMMENT")
        (fun σ => valSt (mkCtx env extras input) la.b "WHITESPACE" σ []))
      (seqT (EvCa (mkCtx env extras input) .nonAtomic la "COMMENT")
        (loopT (EvSt (mkCtx env extras input) la "WHITESPACE"))) :=
  spec_sequence (spec_andThen
    (spec_callRule hsize hgood htr ih "COMMENT" .nonAtomic la (Reach.entry _))
    (spec_star hsize hgood htr ih "WHITESPACE" hgood.ws la))

/-- the implicit `skip` between sequence elements and repetition units. -/
theorem spec_skipProg {n : Nat} (ih : PE env extras memchr input n) (m : Atomicity) (la : LA) :
    SpecT (mkCfg env memchr) input (n + 1) (skipProg env m) m la
      (valK (mkCtx env extras input) m la.b) (EvK (mkCtx env extras input) m la) := by
  unfold skipProg
  by_cases hm : m ≠ .nonAtomic
  · rw [if_pos hm]
    refine (spec_ok.congr fun σ => (valK_atomic _ _ _ _ hm).symm).monoT ?_
    rintro σ r cs ⟨rfl, rfl⟩
    exact EvK.atomic hm
  · rw [if_neg hm]
    have hm' : m = .nonAtomic := by simpa using hm
    subst hm'
    rw [valK_step, skipWsF_nonAtomic _ (reg_V _), has_eq, has_eq]
    cases h1 : env.has "WHITESPACE" <;> cases h2 : env.has "COMMENT" <;> dsimp only
    · refine spec_ok.monoT ?_
      rintro σ r cs ⟨rfl, rfl⟩
      exact EvK.none (by rw [has_eq, h1]) (by rw [has_eq, h2])
    · exact (spec_star hsize hgood htr ih "COMMENT" hgood.cm la).monoT fun σ r cs h =>
        EvK.cm rfl (by rw [has_eq, h1]) (by rw [has_eq, h2]) (loopT_nil h)
    · exact (spec_star hsize hgood htr ih "WHITESPACE" hgood.ws la).monoT fun σ r cs h =>
        EvK.ws rfl (by rw [has_eq, h1]) (by rw [has_eq, h2]) (loopT_nil h)
    · refine (spec_sequence (spec_andThen (spec_star hsize hgood htr ih "WHITESPACE" hgood.ws la)
        (spec_repeat (isLoop_valCl (mkCtx env extras input) la.b)
          (isLoopT_comment (mkCtx env extras input) la) (GenVm.es_sequence _ _)
          (spec_cmUnit hsize hgood htr ih la)))).monoT ?_
      rintro σ r cs (⟨-, hf⟩ | ⟨σ1, c1, c2, hw, hcl, rfl⟩)
      · exact (EvSt.ne_fail (hf [])).elim
      · exact EvK.both rfl (by rw [has_eq, h1]) (by rw [has_eq, h2]) (loopT_nil hw) (hcl c1)

/-- the unit `skip ~ e` of a repetition. -/
theorem spec_unit {n : Nat} (ih : PE env extras memchr input n) {e : OExpr} {m : Atomicity} {la : LA}
    (he : SpecT (mkCfg env memchr) input (n + 1) (vmExpr env m e) m la
      (val (mkCtx env extras input) m la.b (ofOptimized e))
      (EvD (mkCtx env extras input) m la (ofOptimized e))) :
    SpecT (mkCfg env memchr) input (n + 1) (.sequence (.andThen (skipProg env m) (vmExpr env m e))) m la
      (seqD (valK (mkCtx env extras input) m la.b) (val (mkCtx env extras input) m la.b (ofOptimized e)))
      (seqT (EvK (mkCtx env extras input) m la) (EvD (mkCtx env extras input) m la (ofOptimized e))) :=
  spec_sequence (spec_andThen (spec_skipProg hsize hgood htr ih m la) he)

omit hsize hgood htr in
/-- an expression without sub-expressions: its program leaves the bookkeeping alone, and the instrumented
reference is the reference with the forest forgotten. -/
theorem leafSpec {n : Nat} {p : Prog} {m : Atomicity} {la : LA} {e : Expr} (h : isLeaf e = true)
    (hS : SpecT (mkCfg env memchr) input n p m la
      (denoteF (mkCtx env extras input) (V (mkCtx env extras input)) m la.b e)
      (leafT (denoteF (mkCtx env extras input) (V (mkCtx env extras input)) m la.b e))) :
    SpecT (mkCfg env memchr) input n p m la (val (mkCtx env extras input) m la.b e)
      (EvD (mkCtx env extras input) m la e) := by
  rw [← val_step] at hS
  refine hS.monoT ?_
  rintro σ r cs ⟨rfl, rfl⟩
  exact EvD.of_const (t := (eraseR (val (mkCtx env extras input) m la.b e σ), []))
    fun f => leaf_erase _ m la la.b e σ f h

/-- the induction step: by induction on the expression, the fuel going down at rule references only. -/
theorem PE_succ {n : Nat} (ih : PE env extras memchr input n) : PE env extras memchr input (n + 1) := by
  intro e
  induction e with
  | str s => exact fun m la _ _ => leafSpec rfl (spec_matchString (c := mkCtx env extras input) s).liftS
  | insens s => exact fun m la _ _ => leafSpec rfl (spec_matchInsensitive (c := mkCtx env extras input) s).liftS
  | range a b => exact fun m la _ _ => leafSpec rfl (spec_matchRange (c := mkCtx env extras input) a b).liftS
  | peekSlice a b => exact fun m la _ _ => leafSpec rfl (spec_peekSlice (c := mkCtx env extras input) a b).liftS
  | skip ss => exact fun m la _ _ => leafSpec rfl (spec_skipUntil (c := mkCtx env extras input) ss).liftS
  | pushLiteral s => exact fun m la _ _ => leafSpec rfl (spec_stackPushLiteral (c := mkCtx env extras input) s).liftS
  | ident name =>
    intro m la hg hc
    rw [val_step]
    exact (spec_callRule hsize hgood htr ih name m la (hc.1 name (by simp [identsOf]))).monoT
      fun _ _ _ h => EvD.ident h
  | posPred e ihe =>
    intro m la hg hc
    have h := ihe m la.enterPos hg hc
    rw [show la.enterPos.b = true from la_inner_b true la] at h
    rw [val_step, ofOptimized, denoteF_posPred]
    exact (spec_lookahead true h).monoT fun _ _ _ => EvD.posPred
  | negPred e ihe =>
    intro m la hg hc
    have h := ihe m la.enterNeg hg hc
    rw [show la.enterNeg.b = true from la_inner_b false la] at h
    rw [val_step, ofOptimized, denoteF_negPred]
    exact (spec_lookahead false h).monoT fun _ _ _ => EvD.negPred
  | seq a b iha ihb =>
    intro m la hg hc
    obtain ⟨hga, hgb⟩ := hg
    rw [val_step, ofOptimized, denoteF_seq]
    exact (spec_sequence (spec_andThen (spec_andThen (iha m la hga hc.left)
      (spec_skipProg hsize hgood htr ih m la)) (ihb m la hgb hc.right))).monoT fun _ _ _ => EvD.seq
  | choice a b iha ihb =>
    intro m la hg hc
    obtain ⟨hda, hga, hgb⟩ := hg
    rw [val_step, ofOptimized, denoteF_choice]
    exact (spec_orElse ((GenVm.es_all hsize _ a m).weaken hda) (iha m la hga hc.cleft)
      (ihb m la hgb hc.cright)).monoT fun _ _ _ => EvD.choice
  | opt e ihe =>
    intro m la hg hc
    obtain ⟨hd, hge⟩ := hg
    rw [val_step, ofOptimized, denoteF_opt]
    exact (spec_optional ((GenVm.es_all hsize _ e m).weaken hd) (ihe m la hge hc)).monoT
      fun _ _ _ => EvD.opt
  | rep e ihe =>
    intro m la hg hc
    obtain ⟨hd, hge⟩ := hg
    rw [val_step, ofOptimized, denoteF_rep _ (reg_V _)]
    exact (spec_sequence (spec_optional
      ((GenVm.es_andThen_never (GenVm.es_all hsize _ e m) fun _ _ _ hg => repeat_ne_err hg.calls).weaken hd)
      (spec_andThen (ihe m la hge hc)
        (spec_repeat (isLoop_valL _ m la.b (ofOptimized e)) (isLoopT_rep _ m la (ofOptimized e))
          (GenVm.es_sequence _ _) (spec_unit hsize hgood htr ih (ihe m la hge hc)))))).monoT
      fun _ _ _ => EvD.rep fun _ _ _ => EvL.ne_fail
  | repOnce e ihe =>
    intro m la hg hc
    obtain ⟨hx, hge⟩ := hg
    rw [val_step, ofOptimized, denoteF_repOnce _ (reg_V _) m la.b (by exact hx)]
    exact (spec_sequence (spec_andThen (ihe m la hge hc)
      (spec_repeat (isLoop_valL _ m la.b (ofOptimized e)) (isLoopT_rep _ m la (ofOptimized e))
        (GenVm.es_sequence _ _) (spec_unit hsize hgood htr ih (ihe m la hge hc))))).monoT
      fun _ _ _ => EvD.repOnce hx
  | push e ihe =>
    intro m la hg hc
    rw [val_step, ofOptimized, denoteF_push]
    exact (spec_stackPush (ihe m la hg hc)).monoT fun _ _ _ => EvD.push
  | nodeTag e t ihe =>
    intro m la hg hc
    rw [val_step, ofOptimized, denoteF_nodeTag]
    refine (spec_tag t (ihe m la hg hc.tag) fun hla => ?_).monoT fun _ _ _ h => EvD.nodeTag h
    rw [hla]
    exact emits_spec env extras input m e hc.2.2.1
  | restoreOnErr e ihe =>
    intro m la hg hc
    rw [ofOptimized]
    exact spec_restoreOnErr (ihe m la hg hc)

theorem PE_all : ∀ n, PE env extras memchr input n
  | 0 => PE_zero _ _ _ _
  | n + 1 => PE_succ hsize hgood htr (PE_all n)

end
end PestModel.VmRef
