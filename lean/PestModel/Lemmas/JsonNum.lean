import PestModel.Lemmas.JsonLex
/-!
Numbers: `number` of the grammar (atomic) = RFC 8259 `number`: both are
the cursor function `numL`.
-/
namespace PestModel.Json
open PestModel.Ref PestModel.G
open PestModel.LineCol (Str cLen bLen)
open PestModel.PS (Atomicity CharSet restAt restAt_iff restAt_advance)
open PestModel.Views (Tree)

/-- `1*DIGIT` -/
def dig1 : Lex := seqL (chL isDigit) (manyL isDigit)

theorem digits1_eq (n : Nat) (c : Cur) (h : c.rest.length < n) : digits1 n c = dig1 c := by
  obtain ⟨rest, p⟩ := c
  cases rest with
  | nil => exact digits1_nil n p
  | cons ch cs =>
    rw [digits1_cons n ch cs p (by simp at h; omega)]
    show _ = (if isDigit ch then some (⟨cs, p + cLen ch⟩ : Cur) else none).bind (manyL isDigit)
    cases isDigit ch <;> rfl

def intL : Lex := orL (chL (· == '0')) (seqL (chL fun ch => '1' ≤ ch ∧ ch ≤ '9') (manyL isDigit))
def esignL : Lex := optL (orL (chL (· == '+')) (chL (· == '-')))
def expL : Lex := seqL (seqL (orL (chL (· == 'E')) (chL (· == 'e'))) esignL) dig1
def fracL : Lex := seqL (chL (· == '.')) dig1
def numL : Lex := seqL (seqL (optL (chL (· == '-'))) intL) (optL (orL (seqL fracL (optL expL)) expL))

/-! `number` of the model, cut into named pieces (same text). -/

def signC (c : Cur) : Cur := match c.rest with | '-' :: _ => c.adv | _ => c

def afterIntN (n : Nat) (c1 : Cur) : Option Cur :=
  match c1.rest with
  | '0' :: _ => some c1.adv
  | ch :: _ => if '1' ≤ ch ∧ ch ≤ '9' then digits1 n c1 else none
  | [] => none

def fracN (n : Nat) (c2 : Cur) : Cur :=
  match c2.rest with
  | '.' :: _ => (match digits1 n c2.adv with | some c' => c' | none => c2)
  | _ => c2

def esignC (c' : Cur) : Cur :=
  match c'.rest with
  | s :: _ => if s = '+' ∨ s = '-' then c'.adv else c'
  | [] => c'

def expN (n : Nat) (c3 : Cur) : Cur :=
  match c3.rest with
  | ch :: _ =>
    if ch = 'e' ∨ ch = 'E' then
      (match digits1 n (esignC c3.adv) with | some d => d | none => c3)
    else c3
  | [] => c3

theorem number_decomp (c : Cur) : number c =
    match afterIntN (c.rest.length + 1) (signC c) with
    | none => none
    | some c2 =>
      let c4 := expN (c.rest.length + 1) (fracN (c.rest.length + 1) c2)
      some (.node "number" c.pos c4.pos [], c4) := rfl

theorem signC_eq (c : Cur) : signC c = (chL (· == '-') c).getD c := by
  unfold signC
  split
  · rename_i tl hr; rw [chL_lit hr]; rfl
  · rename_i hne; rw [chL_lit_none hne]; rfl

theorem signC_reach (c : Cur) : Reach c (signC c) := by
  rw [signC_eq]; exact (Adv.ch _).getD c

theorem esignC_eq (c : Cur) : some (esignC c) = esignL c := by
  unfold esignC esignL optL
  rw [chL_or]
  cases hr : c.rest with
  | nil => rw [chL_nil hr]; rfl
  | cons s tl =>
    rw [chL_cons hr]
    by_cases h : s = '+' ∨ s = '-' <;> simp [h]

theorem dig1_adv : Adv dig1 := (Adv.ch _).seq (Adv.many _)
theorem intL_adv : Adv intL := (Adv.ch _).or ((Adv.ch _).seq (Adv.many _))
theorem esignL_adv : Adv esignL := ((Adv.ch _).or (Adv.ch _)).opt
theorem expL_adv : Adv expL := (((Adv.ch _).or (Adv.ch _)).seq esignL_adv).seq dig1_adv
theorem fracL_adv : Adv fracL := (Adv.ch _).seq dig1_adv

theorem isDigit_of_nz {ch : Char} (h : '1' ≤ ch ∧ ch ≤ '9') : isDigit ch = true := by
  simp only [isDigit, decide_eq_true_eq]
  exact ⟨Char.le_trans (by decide) h.1, h.2⟩

theorem afterIntN_eq (n : Nat) (c1 : Cur) (h : c1.rest.length < n) : afterIntN n c1 = intL c1 := by
  unfold afterIntN intL orL seqL
  split
  · rename_i tl hr; rw [chL_lit hr]
  · rename_i ch tl hne hr
    have h0 : (ch == '0') = false := beq_eq_false_iff_ne.2 hne
    simp only [chL_cons hr, h0, digits1_eq n c1 h]
    by_cases h19 : '1' ≤ ch ∧ ch ≤ '9'
    · unfold dig1 seqL
      rw [chL_cons hr, isDigit_of_nz h19]
      simp [h19]
    · simp [h19]
  · rename_i hr; rw [chL_nil hr, chL_nil hr]; rfl

theorem fracN_eq (n : Nat) (c2 : Cur) (h : c2.rest.length < n) : fracN n c2 = (fracL c2).getD c2 := by
  unfold fracN fracL seqL
  split
  · rename_i tl hr
    rw [chL_lit hr, Option.bind_some, digits1_eq n c2.adv (by have := (Reach.adv c2).len; omega)]
    cases dig1 c2.adv <;> rfl
  · rename_i hne; rw [chL_lit_none hne]; rfl

theorem expN_eq (n : Nat) (c3 : Cur) (h : c3.rest.length < n) : expN n c3 = (expL c3).getD c3 := by
  unfold expN expL seqL
  rw [chL_or]
  cases hr : c3.rest with
  | nil => rw [chL_nil hr]; rfl
  | cons ch tl =>
    rw [chL_cons hr]
    by_cases he : ch = 'e' ∨ ch = 'E'
    · have hE : (ch == 'E' || ch == 'e') = true := by rcases he with rfl | rfl <;> rfl
      have hl : (esignC c3.adv).rest.length ≤ c3.rest.length := by
        have := (Reach.adv c3).len
        have := (esignL_adv _ _ (esignC_eq c3.adv).symm).len
        omega
      simp only [he, hE, if_true, Option.bind_some]
      rw [← esignC_eq, Option.bind_some, digits1_eq n _ (by omega)]
      cases dig1 (esignC c3.adv) <;> rfl
    · have hE : (ch == 'E' || ch == 'e') = false := by
        simp only [Bool.or_eq_false_iff, beq_eq_false_iff_ne]
        exact ⟨fun e => he (Or.inr e), fun e => he (Or.inl e)⟩
      simp only [he, hE, if_false]
      rfl

theorem optL_or_seq_opt (A B : Lex) (c : Cur) :
    optL (orL (seqL A (optL B)) B) c = some ((B ((A c).getD c)).getD ((A c).getD c)) := by
  unfold optL orL seqL
  cases A c <;> rfl

theorem numL_eq (c : Cur) : numL c =
    (intL (signC c)).bind fun c2 => some ((expL ((fracL c2).getD c2)).getD ((fracL c2).getD c2)) := by
  unfold numL
  show (intL ((chL (· == '-') c).getD c)).bind _ = _
  rw [← signC_eq]
  congr
  funext c2
  exact optL_or_seq_opt fracL expL c2

theorem numL_adv : Adv numL :=
  ((Adv.ch _).opt.seq intL_adv).seq (((fracL_adv.seq expL_adv.opt).or expL_adv).opt)

theorem number_eq (c : Cur) : number c =
    match numL c with
    | some c4 => some (.node "number" c.pos c4.pos [], c4)
    | none => none := by
  have h1 := (signC_reach c).len
  rw [number_decomp, numL_eq, afterIntN_eq _ _ (by omega)]
  cases hi : intL (signC c) with
  | none => rfl
  | some c2 =>
    have h2 := (intL_adv _ _ hi).len
    have h3 := (fracL_adv.getD c2).len
    simp only [Option.bind_some]
    rw [fracN_eq _ _ (by omega), expN_eq _ _ (by omega)]

section
variable {input : Str} {uni : String → Option CharSet}

theorem digit_call (m : Atomicity) (la : Bool) (s : St) :
    valCa (jctx input uni) m la "ASCII_DIGIT" s = oneChar (jctx input uni) s isDigit := by
  rw [valCa_unfold]; rfl

theorem nzdigit_call (m : Atomicity) (la : Bool) (s : St) :
    valCa (jctx input uni) m la "ASCII_NONZERO_DIGIT" s =
      oneChar (jctx input uni) s (fun ch => '1' ≤ ch ∧ ch ≤ '9') := by
  rw [valCa_unfold]; rfl

theorem lex_digit (la : Bool) : Lexes input uni la (.ident "ASCII_DIGIT") (chL isDigit) :=
  Lexes.builtin (digit_call .atomic la)

theorem lex_exp (la : Bool) : Lexes input uni la (.ident "exp") expL :=
  Lexes.call (rule_exp input uni)
    ((((Lexes.str1 la 'E').choice (Lexes.str1 la 'e')).seq ((Lexes.str1 la '+').choice (Lexes.str1 la '-')).opt).seq
      (lex_digit la).plus)

theorem lex_int (la : Bool) : Lexes input uni la (.ident "int") intL :=
  Lexes.call (rule_int input uni)
    ((Lexes.str1 la '0').choice ((Lexes.builtin (nzdigit_call .atomic la)).seq (lex_digit la).many))

theorem lex_number (la : Bool) : Lexes input uni la eNumber numL :=
  (((Lexes.str1 la '-').opt).seq (lex_int la)).seq
    (((((Lexes.str1 la '.').seq (lex_digit la).plus).seq (lex_exp la).opt).choice (lex_exp la)).opt)

/-- **numbers**: the grammar's `number` (called from a non-atomic rule) = RFC 8259 `number`,
with the same leaf. -/
theorem number_call {c : Cur} (h : At input c) (stk : List Str) :
    valCa (jctx input uni) .nonAtomic false "number" ⟨c.pos, stk⟩ = vRes (number c) stk := by
  rw [call_leaf (rule_number input uni), (lex_number false).val c h, number_eq]
  cases numL c with
  | none => rfl
  | some c4 => simp [JT_node, ruleIdx_eq input uni, rule_number]

end
end PestModel.Json
