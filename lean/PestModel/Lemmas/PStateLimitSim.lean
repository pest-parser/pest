import PestModel.Lemmas.PStateLimitK
/-!
C12: a limited run that does not end with the limit reached never had a call refused, and is,
up to the `calls` field, the run with any larger limit / without limit.
-/
namespace PestModel.PS
open PestModel.LineCol PestModel.Stack

/-- replace the limit (`none`: remove the counter altogether). -/
def relimC (m : Option Nat) (c : Option (Nat × Nat)) : Option (Nat × Nat) :=
  match m with
  | none => none
  | some m' => c.map (fun x => (x.1, m'))

abbrev relim (m : Option Nat) : PState → PState := tw (relimC m) id

theorem relim_none_eq : relim none = PState.eraseCalls := by
  funext s; rfl

theorem relim_some {s : PState} {c n : Nat} (h : s.calls = some (c, n)) (m : Nat) :
    relim (some m) s = { s with calls := some (c, m) } := by
  show ({ s with calls := s.calls.map _, pa := s.pa } : PState) = _
  rw [h]; rfl

/-- the new limit is not smaller than the old one. -/
def LimOK (m : Option Nat) (s : PState) : Prop :=
  ∀ m', m = some m' → ∀ c n, s.calls = some (c, n) → n ≤ m'

theorem LimOK.none (s : PState) : LimOK none s := fun _ hm => nomatch hm

theorem LimOK.of_le {s : PState} {c n m : Nat} (h : s.calls = some (c, n)) (hnm : n ≤ m) :
    LimOK (some m) s := by
  intro m' hm c' n' h0
  rw [h] at h0; cases h0; cases hm; exact hnm

theorem LimOK.mono {m : Option Nat} {s s' : PState} (h : LimOK m s) (hc : CallsMono s s') :
    LimOK m s' := by
  intro m' hm c n h0
  cases hs : s.calls with
  | none => rw [hc.1 hs] at h0; cases h0
  | some x =>
    obtain ⟨c', e, -⟩ := hc.2 x.1 x.2 hs
    rw [e] at h0; cases h0
    exact h m' hm x.1 x.2 hs

theorem reached_relim {m : Option Nat} {s : PState} (h : reachedCallLimit s = false) (hok : LimOK m s) :
    reachedCallLimit (relim m s) = false := by
  unfold reachedCallLimit at h ⊢
  show (match relimC m s.calls with | none => false | some (cur, lim) => decide (cur ≥ lim)) = false
  cases m with
  | none => rfl
  | some m' =>
    cases hs : s.calls with
    | none => rfl
    | some x =>
      obtain ⟨cur, lim⟩ := x
      rw [hs] at h
      have hle := hok m' rfl cur lim hs
      simp [relimC] at h ⊢
      omega

theorem bump_relim (m : Option Nat) (s : PState) : bump (relim m s) = relim m (bump s) := by
  show ({ s with calls := (relimC m s.calls).map _, pa := s.pa } : PState) =
    { s with calls := relimC m (s.calls.map _), pa := s.pa }
  cases m <;> cases s.calls <;> rfl

abbrev SIH (cfg : Cfg) (m : Option Nat) (fuel : Nat) : Prop :=
  ∀ p s s', (run cfg fuel p s).state? = some s' → reachedCallLimit s' = false → LimOK m s →
    run cfg fuel p (relim m s) = (run cfg fuel p s).mapState (relim m)

/-- what the simulation needs of a way to go on after a first run. -/
def SimK (m : Option Nat) (f : PState → Out) : Prop :=
  ∀ s1 s', (f s1).state? = some s' →
    (reachedCallLimit s' = false → LimOK m s1 → f (relim m s1) = (f s1).mapState (relim m)) ∧
    CallsMono s1 s'

theorem simK_ok (m : Option Nat) : SimK m .ok := fun s1 _ h => by
  cases h; exact ⟨fun _ _ => rfl, CallsMono.refl s1⟩

theorem simK_err (m : Option Nat) : SimK m .err := fun s1 _ h => by
  cases h; exact ⟨fun _ _ => rfl, CallsMono.refl s1⟩

theorem SIH.simK {cfg : Cfg} {m : Option Nat} {fuel : Nat} (ih : SIH cfg m fuel) (q : Prog) :
    SimK m (run cfg fuel q) := fun s1 s' h => ⟨ih q s1 s' h, run_callsMono cfg fuel q s1 s' h⟩

section cases
variable (cfg : Cfg) (m : Option Nat) (fuel : Nat) (ih : SIH cfg m fuel)
include ih

theorem sim_bracket0 (body : Prog) (pre : PState → PState) (K : PState → Out → Out)
    (ha : ∀ s1, pre (relim m s1) = relim m (pre s1))
    (hpre : ∀ s1, Core s1 (pre s1))
    (hb : ∀ s1 o, K (relim m s1) (o.mapState (relim m)) = (K s1 o).mapState (relim m))
    (hc : KCalls K) (s1 s' : PState)
    (h : (bracket0 cfg fuel body pre K s1).state? = some s')
    (hnr : reachedCallLimit s' = false) (hok : LimOK m s1) :
    bracket0 cfg fuel body pre K (relim m s1) =
      (bracket0 cfg fuel body pre K s1).mapState (relim m) := by
  unfold bracket0 at *
  obtain ⟨ns, hns, hcalls⟩ := hc _ _ _ h
  rw [ha, ih body (pre s1) ns hns ((CallsMono.of_eq hcalls).not_reached hnr)
    (hok.mono (CallsMono.of_eq (hpre s1).1)), hb]

theorem sim_bracket (body : Prog) (pre : PState → PState) (K : PState → Out → Out)
    (ha : ∀ s1, pre (relim m s1) = relim m (pre s1))
    (hpre : ∀ s1, Core s1 (pre s1))
    (hb : ∀ s1 o, K (relim m s1) (o.mapState (relim m)) = (K s1 o).mapState (relim m))
    (hc : KCalls K) (s s' : PState)
    (h : (bracket cfg fuel body pre K s).state? = some s')
    (hnr : reachedCallLimit s' = false) (hok : LimOK m s)
    (hr : reachedCallLimit (relim m s) = reachedCallLimit s) :
    bracket cfg fuel body pre K (relim m s) =
      (bracket cfg fuel body pre K s).mapState (relim m) := by
  refine bracket_tw _ _ cfg fuel body pre K s hr (bump_relim m s) fun s1 hic => ?_
  unfold bracket at h; rw [hic] at h
  exact sim_bracket0 cfg m fuel ih body pre K ha hpre hb hc s1 s' h hnr (hok.mono (incCall_mono hic))

theorem sim_shape {X body : Prog} {inc : Bool} {pre : PState → PState} {K : PState → Out → Out}
    (hX : Shape X inc body pre K) (s s' : PState) (h : (run cfg (fuel+1) X s).state? = some s')
    (hnr : reachedCallLimit s' = false) (hok : LimOK m s)
    (hr : reachedCallLimit (relim m s) = reachedCallLimit s) :
    run cfg (fuel+1) X (relim m s) = (run cfg (fuel+1) X s).mapState (relim m) := by
  rw [hX.run] at h ⊢; rw [hX.run]
  cases inc
  · exact sim_bracket0 cfg m fuel ih body pre K (hX.pre_tw _ _) hX.pre_core (hX.K_tw _ _) hX.kCore.calls
      s s' h hnr hok
  · exact sim_bracket cfg m fuel ih body pre K (hX.pre_tw _ _) hX.pre_core (hX.K_tw _ _) hX.kCore.calls
      s s' h hnr hok hr

theorem sim_thenK {fok ferr : PState → Out} (hfo : SimK m fok) (hfe : SimK m ferr) {p : Prog}
    {s s' : PState} (h : (thenK fok ferr (run cfg fuel p s)).state? = some s')
    (hnr : reachedCallLimit s' = false) (hok : LimOK m s) :
    thenK fok ferr (run cfg fuel p (relim m s)) =
      (thenK fok ferr (run cfg fuel p s)).mapState (relim m) := by
  have key : ∀ {f : PState → Out} {s1 : PState}, SimK m f → (run cfg fuel p s).state? = some s1 →
      (f s1).state? = some s' →
      run cfg fuel p (relim m s) = (run cfg fuel p s).mapState (relim m) ∧
      f (relim m s1) = (f s1).mapState (relim m) := fun hf hp hq =>
    ⟨ih p s _ hp ((hf _ _ hq).2.not_reached hnr) hok,
     (hf _ _ hq).1 hnr (hok.mono (run_callsMono cfg fuel p s _ hp))⟩
  cases hp : run cfg fuel p s with
  | ok s1 =>
    rw [hp] at h
    obtain ⟨e1, e2⟩ := key hfo (by rw [hp]; rfl) h
    rw [e1, hp]; exact e2
  | err s1 =>
    rw [hp] at h
    obtain ⟨e1, e2⟩ := key hfe (by rw [hp]; rfl) h
    rw [e1, hp]; exact e2
  | panic => rw [hp] at h; cases h
  | fuel => rw [hp] at h; cases h

theorem sim_call (i : Nat) (s s' : PState)
    (h : (run cfg (fuel+1) (.call i) s).state? = some s')
    (hnr : reachedCallLimit s' = false) (hok : LimOK m s) :
    run cfg (fuel+1) (.call i) (relim m s) = (run cfg (fuel+1) (.call i) s).mapState (relim m) := by
  rw [run_call] at h
  rw [run_call, run_call]
  cases hi : cfg.env[i]? with
  | none => rfl
  | some p => rw [hi] at h; exact ih p s s' h hnr hok

end cases

/-- **The simulation**: a completed run that does not end with the limit reached is, up to the
limit, the run with any larger limit (or none). -/
theorem run_relim (cfg : Cfg) (m : Option Nat) : ∀ (fuel : Nat) (p : Prog) (s s' : PState),
    (run cfg fuel p s).state? = some s' → reachedCallLimit s' = false → LimOK m s →
    run cfg fuel p (relim m s) = (run cfg fuel p s).mapState (relim m)
  | 0, p, s, s', h, _, _ => by rw [run_zero] at h; cases h
  | fuel + 1, p, s, s', h, hnr, hok => by
    have ih : SIH cfg m fuel := run_relim cfg m fuel
    have hr : reachedCallLimit (relim m s) = reachedCallLimit s := by
      have hr := (run_callsMono cfg _ p s s' h).not_reached hnr
      rw [reached_relim hr hok, hr]
    cases p with
    | sequence _ | restoreOnErr _ | optional _ | repeat_ _ | lookahead _ _ | atomic _ _ | stackPush _ =>
      exact sim_shape cfg m fuel ih (by constructor) s s' h hnr hok hr
    | repLoop p =>
      rw [run_repLoop_K] at h ⊢; rw [run_repLoop_K]
      exact sim_thenK cfg m fuel ih (ih.simK _) (simK_ok m) h hnr hok
    | rule r p =>
      rw [run_rule_K] at h ⊢; rw [run_rule_K]
      exact sim_bracket cfg m fuel ih p rulePre (ruleK r) (rulePre_rew _ id id) rulePre_core
        (ruleK_rewc _ id (fs' := id) r) (ruleK_calls r) s s' h hnr hok hr
    | andThen p q =>
      rw [run_andThen_K] at h ⊢; rw [run_andThen_K]
      exact sim_thenK cfg m fuel ih (ih.simK q) (simK_err m) h hnr hok
    | orElse p q =>
      rw [run_orElse_K] at h ⊢; rw [run_orElse_K]
      exact sim_thenK cfg m fuel ih (simK_ok m) (ih.simK q) h hnr hok
    | call i => exact sim_call cfg m fuel ih i s s' h hnr hok
    | matchString _ | matchInsensitive _ | matchRange _ _ | matchCharBy _ | skip _ =>
      rw [run, run]; exact terminal_rew _ id id (handleToken_rewc _ id) s _ _
    | stackPeek => exact stackPeek_tw _ _ (handleToken_rewc _ id) cfg fuel s hr
    | stackPop => exact stackPop_tw _ _ (handleToken_rewc _ id) cfg fuel s hr
    | _ => exact leaf_tw _ _ cfg fuel _ s trivial

theorem finish_relim {m : Option Nat} {o : Out} {s' : PState} (h : o.state? = some s')
    (hnr : reachedCallLimit s' = false) (hok : LimOK m s') :
    finish (o.mapState (relim m)) = finish o := by
  have hr' := reached_relim hnr hok
  rcases state?_some_cases h with rfl | rfl <;>
    simp only [mapState_ok, mapState_err, finish, hr', hnr] <;> rfl

/-- a completed run ending with the limit reached reports the call-limit error. -/
theorem finish_reached {o : Out} {s' : PState} (h : o.state? = some s')
    (hr : reachedCallLimit s' = true) : finish o = some (.callLimit s'.attemptPos) := by
  rcases state?_some_cases h with rfl | rfl <;> simp only [finish, hr, if_true]

/-- a report other than the call-limit error comes from a completed run that did not reach the
limit. -/
theorem finish_not_limit {o : Out} {rep : Report} (h : finish o = some rep)
    (hnl : ∀ pos, rep ≠ .callLimit pos) :
    ∃ s', o.state? = some s' ∧ reachedCallLimit s' = false := by
  cases hs : o.state? with
  | none => cases o <;> cases hs <;> cases h
  | some s' =>
    refine ⟨s', rfl, ?_⟩
    cases hr : reachedCallLimit s' with
    | false => rfl
    | true => rw [finish_reached hs hr] at h; cases h; exact absurd rfl (hnl _)

end PestModel.PS
