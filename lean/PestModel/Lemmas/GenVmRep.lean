import PestModel.Lemmas.GenVmSeq
import PestModel.Lemmas.GenVmCleanVm
/-! C02: the generator's atomic repetition `repeat(e)` against the VM's
`sequence(optional(e ~ repeat(sequence(skip ~ e))))`, for an operand that fails clean. -/
namespace PestModel.GenVm
open PestModel.PS PestModel.Stack
open PestModel.LineCol (Str isBoundary slice?)
open PestModel.VmRef (run_mono)

/-- a clean failure inside `sequence`: restoring changes nothing but the snapshots. -/
theorem seqK_err_oeq {t x y : PState} (hg : Good t) (r : Rel (checkpoint t) x)
    (hc : x.pos = t.pos ∧ x.queue = t.queue ∧ x.stack.cache = t.stack.cache) (h : SEq x y) :
    OEq (seqK t (.err x)) (.err y) := by
  obtain ⟨hp, hq, hc⟩ := hc
  obtain ⟨i, f⟩ := rel_checkpoint_saved hg r
  obtain ⟨st, e, e1, i1, -⟩ := seqK_err_eq (t := t) i f r.q
  rw [e, ← hp, ← hq]
  exact OEq.mk_err (SEq.trans ⟨⟨rfl, e1.trans hc.symm⟩, ⟨⟨h.g1.wf.1, i1⟩, h.g1.calls⟩, h.g1⟩ h)

variable {A B : Cfg} {n : Nat}

/-- one iteration, VM shape to generator shape. -/
theorem iter_VG {E G : Prog} (h : Sim A B n E G) (hc : ErrCleanP A E) :
    Sim A B n (.sequence (.andThen .ok E)) G := by
  intro k hk t1 t2 hs hne
  obtain ⟨k, rfl, hne, e1⟩ := br_ne_fuel (Shape.sequence _).br (Shape.sequence .ok).kok hs.g1 hne
  obtain ⟨k, rfl⟩ := fuel_pos hne
  obtain ⟨k, rfl⟩ := fuel_pos (run_comb_ne_fuel (π := .ok) hne)
  rw [e1, run_andThen, run_ok_succ]
  rw [run_andThen, run_ok_succ] at hne
  dsimp only at hne ⊢
  have hc1 : SEq (checkpoint t1) t2 := (seq_checkpoint_left hs.g1).trans hs
  rcases h.inv (by omega) hc1 hne with ⟨x, x2, e, ev, hx⟩ | ⟨x, x2, e, ev, hx⟩ | ⟨e, ev⟩
  · exact ⟨_, ev, by rw [e]; exact seqK_ok_oeq hx⟩
  · exact ⟨_, ev, by rw [e]; exact seqK_err_oeq hs.g1 (run_err_rel e) (hc (k+1) (checkpoint t1) x (good_checkpoint hs.g1) e) hx⟩
  · exact ⟨_, ev, by rw [e]; exact OEq.mk_panic⟩

/-- one iteration, generator shape to VM shape. -/
theorem iter_GV {E G : Prog} (h : Sim A B n G E) (hc : ErrCleanP B E) :
    Sim A B n G (.sequence (.andThen .ok E)) := by
  intro k hk t1 t2 hs hne
  have hc2 : SEq t1 (checkpoint t2) := hs.trans (seq_checkpoint_left hs.g2).symm
  have ev2 := fun {o} (ev : Ev B E (checkpoint t2) o) =>
    ev_bracket (Shape.sequence (.andThen .ok E)).br (Shape.sequence .ok).kok hs.g2 (ev_comb_go .ok (ev_ok B _) ev)
  rcases h.inv hk hc2 hne with ⟨x1, x2, e, ev, hx⟩ | ⟨x1, x2, e, ev, hx⟩ | ⟨e, ev⟩
  · exact ⟨_, ev2 ev, by rw [e]; exact (seqK_ok_oeq hx.symm).symm⟩
  · obtain ⟨m, em, -⟩ := ev
    exact ⟨_, ev2 ⟨m, em, Out.noConfusion⟩, by
      rw [e]
      exact (seqK_err_oeq hs.g2 (run_err_rel em) (hc m (checkpoint t2) x2 (good_checkpoint hs.g2) em) hx.symm).symm⟩
  · exact ⟨_, ev2 ev, by rw [e]; exact OEq.mk_panic⟩

theorem repLoop_sel {C : Cfg} (P : Prog) (m : Nat) (s : PState) : Pol.sel .err (run C m (.repLoop P) s) = none := by
  cases e : run C m (.repLoop P) s with
  | err x => exact absurd e (repLoop_not_err P m s x)
  | _ => rfl

/-- an outcome other than `err` passes through `optional` and `sequence` up to the snapshots. -/
theorem oeq_seqK_optK {o o' : Out} {t c : PState} (h : OEq o o') (hn : Pol.sel .err o = none) :
    OEq (seqK t (optK c o)) o' := by
  cases o with
  | ok x => obtain ⟨y, rfl, hy⟩ := h.ok_inv; exact seqK_ok_oeq hy
  | err x => cases hn
  | panic => exact h
  | fuel => exact absurd rfl h.2

/-- the VM's atomic-context repetition. -/
def vmRep (E : Prog) : Prog :=
  .sequence (.optional (.andThen E (.repeat_ (.sequence (.andThen .ok E)))))

theorem ev_vmRep {E : Prog} {s : PState} {o : Out} (hg : Good s)
    (h : Ev B (.andThen E (.repeat_ (.sequence (.andThen .ok E)))) (checkpoint s) o) :
    Ev B (vmRep E) s (seqK s (optK (checkpoint s) o)) :=
  ev_bracket (Shape.sequence _).br (Shape.sequence .ok).kok hg (ev_bracket (Shape.optional _).br (Shape.optional .ok).kok (good_checkpoint hg) h)

/-- generator shape to VM shape. -/
theorem rep_GV {E G : Prog} (h : Sim A B n G E) (hc : ErrCleanP B E) :
    Sim A B n (.repeat_ G) (vmRep E) := by
  intro k hk s1 s2 hs hne
  have hc2 : SEq s1 (checkpoint s2) := hs.trans (seq_checkpoint_left hs.g2).symm
  obtain ⟨k, rfl, hne, e1⟩ := br_ne_fuel (Shape.repeat_ _).br (Shape.repeat_ .ok).kok hs.g1 hne
  obtain ⟨k, rfl⟩ := fuel_pos hne
  rw [e1, run_repLoop]
  rw [run_repLoop] at hne
  rcases h.inv (k := k) (by omega) hc2 (fun hf => hne (by rw [hf])) with
    ⟨x1, x2, e, ev, hx⟩ | ⟨x1, x2, e, ev, hx⟩ | ⟨e, ev⟩
  · rw [e] at hne ⊢
    obtain ⟨o2', evl, oel⟩ := sim_repLoop (iter_GV h hc) k (by omega) x1 x2 hx hne
    exact ⟨_, ev_vmRep hs.g2 (ev_comb_go .ok ev (ev_bracket (Shape.repeat_ _).br (Shape.repeat_ .ok).kok hx.g2 evl)),
      (oeq_seqK_optK oel.symm (oel.sel_none (repLoop_sel _ _ _))).symm⟩
  · rw [e]; exact ⟨_, ev_vmRep hs.g2 (ev_comb_stop .ok ev rfl), (seqK_ok_oeq hx.symm).symm⟩
  · rw [e]; exact ⟨_, ev_vmRep hs.g2 (ev_comb_stop .ok ev rfl), OEq.mk_panic⟩

/-- VM shape to generator shape. -/
theorem rep_VG {E G : Prog} (h : Sim A B n E G) (hc : ErrCleanP A E) :
    Sim A B n (vmRep E) (.repeat_ G) := by
  intro k hk s1 s2 hs hne
  have hB := (Shape.repeat_ G).br (cfg := B)
  have hc1 : SEq (checkpoint s1) s2 := (seq_checkpoint_left hs.g1).trans hs
  obtain ⟨k, rfl, hne, e1⟩ := br_ne_fuel (Shape.sequence _).br (Shape.sequence .ok).kok hs.g1 hne
  obtain ⟨k, rfl, hne, e2⟩ := br_ne_fuel (Shape.optional _).br (Shape.optional .ok).kok (good_checkpoint hs.g1) hne
  obtain ⟨k, rfl⟩ := fuel_pos hne
  unfold vmRep
  rw [e1, e2, run_andThen]
  rw [run_andThen] at hne
  rcases h.inv (k := k) (by omega) hc1 (fun hf => hne (by rw [hf])) with
    ⟨x1, x2, e, ev, hx⟩ | ⟨x1, x2, e, ev, hx⟩ | ⟨e, ev⟩
  · rw [e] at hne ⊢
    obtain ⟨k, rfl, hne, e3⟩ := br_ne_fuel (Shape.repeat_ _).br (Shape.repeat_ .ok).kok hx.g1 hne
    obtain ⟨o2', evl, oel⟩ := sim_repLoop (iter_VG h hc) k (by omega) x1 x2 hx hne
    dsimp only
    rw [e3]
    exact ⟨_, ev_bracket hB (Shape.repeat_ .ok).kok hs.g2 (ev_repLoop_ok ev evl), oeq_seqK_optK oel (repLoop_sel _ _ _)⟩
  · rw [e]; exact ⟨_, ev_bracket hB (Shape.repeat_ .ok).kok hs.g2 (ev_repLoop_err ev), seqK_ok_oeq hx⟩
  · rw [e]; exact ⟨_, ev_bracket hB (Shape.repeat_ .ok).kok hs.g2 (ev_repLoop_panic ev), OEq.mk_panic⟩

end PestModel.GenVm
