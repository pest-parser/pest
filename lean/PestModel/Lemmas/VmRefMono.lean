import PestModel.Lemmas.PStateLimitBr
/-! C01 (termination): more fuel never changes a definite outcome of `run`. -/
namespace PestModel.VmRef
open PestModel.PS

variable {cfg : Cfg}

/-- `b` is `a`, unless `a` ran out of fuel. -/
def OLe (a b : Out) : Prop := a = .fuel ∨ b = a

/-- `sub h`, for `h : OLe a b`, where the goal is `OLe (f a) (g b)` with `f` strict in `.fuel`:
closes the case `a = .fuel` and replaces `b` by `a` in the other. -/
local macro "sub " t:term : tactic =>
  `(tactic| (obtain hh | hh := $t; (· simp only [hh]; exact Or.inl rfl); simp only [hh]))

theorem OLe.map {a b : Out} (h : OLe a b) (f : Out → Out) (hf : f .fuel = .fuel) : OLe (f a) (f b) :=
  h.elim (fun e => .inl (by rw [e, hf])) fun e => .inr (by rw [e])

/-- a bracketing combinator inherits `run_le` from its body: its continuation passes `.fuel` on. -/
theorem bracket_le {k : Nat} (ih : ∀ p s, OLe (run cfg k p s) (run cfg (k + 1) p s)) (body : Prog)
    (pre : PState → PState) {K : PState → Out → Out} (hK : ∀ s1, K s1 .fuel = .fuel) (s : PState) :
    OLe (bracket0 cfg k body pre K s) (bracket0 cfg (k + 1) body pre K s) ∧
      OLe (PS.bracket cfg k body pre K s) (PS.bracket cfg (k + 1) body pre K s) := by
  refine ⟨(ih body (pre s)).map _ (hK s), ?_⟩
  unfold PS.bracket
  cases incCall s with
  | none => exact Or.inr rfl
  | some s1 => exact (ih body (pre s1)).map _ (hK s1)

theorem shape_le {k : Nat} (ih : ∀ p s, OLe (run cfg k p s) (run cfg (k + 1) p s)) {X body : Prog} {inc : Bool}
    {pre : PState → PState} {K : PState → Out → Out} (h : Shape X inc body pre K) (s : PState) :
    OLe (run cfg (k + 1) X s) (run cfg (k + 2) X s) := by
  have hK : ∀ s1, K s1 .fuel = .fuel := fun s1 => by cases h <;> rfl
  have hb := bracket_le ih body pre hK s
  rw [h.run, h.run]
  cases inc
  · exact hb.1
  · exact hb.2

theorem run_le : ∀ (F : Nat) (p : Prog) (s : PState), OLe (run cfg F p s) (run cfg (F + 1) p s)
  | 0, p, s => Or.inl (run_zero _ _ _)
  | k + 1, p, s => by
    have ih := fun p s => run_le k p s
    cases p with
    | call i =>
      rw [run_call, run_call]
      cases cfg.env[i]? with
      | none => exact Or.inr rfl
      | some q => exact ih q s
    | andThen p q =>
      rw [run_andThen, run_andThen]; sub ih p s
      cases run cfg k p s <;> first | exact Or.inr rfl | exact ih _ _
    | orElse p q =>
      rw [run_orElse, run_orElse]; sub ih p s
      cases run cfg k p s <;> first | exact Or.inr rfl | exact ih _ _
    | repLoop p =>
      rw [run_repLoop, run_repLoop]; sub ih p s
      cases run cfg k p s <;> first | exact Or.inr rfl | exact ih _ _
    | repeat_ p => exact shape_le ih (.repeat_ p) s
    | restoreOnErr p => exact shape_le ih (.restoreOnErr p) s
    | sequence p => exact shape_le ih (.sequence p) s
    | optional p => exact shape_le ih (.optional p) s
    | lookahead b p => exact shape_le ih (.lookahead b p) s
    | atomic a p => exact shape_le ih (.atomic a p) s
    | stackPush p => exact shape_le ih (.stackPush p) s
    | rule r p =>
      rw [run_rule_K, run_rule_K]
      exact (bracket_le ih p rulePre (fun _ => rfl) s).2
    | _ => rw [run, run]; exact Or.inr rfl

theorem run_mono {F F' : Nat} {p : Prog} {s : PState} (h : run cfg F p s ≠ .fuel) (hle : F ≤ F') :
    run cfg F' p s = run cfg F p s := by
  induction hle with
  | refl => rfl
  | step _ ih => rw [← ih]; exact (run_le _ p s).resolve_left (by rw [ih]; exact h)

end PestModel.VmRef
