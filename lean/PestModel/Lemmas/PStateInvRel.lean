import PestModel.Lemmas.PStateInvPos
import PestModel.Lemmas.PStateInvStack
import PestModel.Lemmas.PStateInvQueue
import PestModel.Lemmas.PStateAtt
/-! The before/after relation established by every completed `run`. -/
namespace PestModel.PS
open PestModel.LineCol PestModel.Stack

/-- What every completed call guarantees about the state after (`s'`) relative to before (`s`). -/
structure Rel (s s' : PState) : Prop where
  input : s'.input = s.input
  la : s'.lookahead = s.lookahead
  atom : s'.atomicity = s.atomicity
  en : s'.pa.enabled = s.pa.enabled
  pos : s.pos ≤ s'.pos
  q : QLe s.queue s'.queue
  qla : s.lookahead ≠ .none → s'.queue = s.queue
  bnd : isBoundary s.input s.pos = true → isBoundary s.input s'.pos = true
  stk : StkInv s.stack → StkInv s'.stack ∧ (abs s'.stack).saved = (abs s.stack).saved

theorem Rel.refl (s : PState) : Rel s s :=
  ⟨rfl, rfl, rfl, rfl, Nat.le_refl _, QLe.refl _, fun _ => rfl, id, fun h => ⟨h, rfl⟩⟩

theorem Rel.trans {a b c : PState} (h1 : Rel a b) (h2 : Rel b c) : Rel a c where
  input := h2.input.trans h1.input
  la := h2.la.trans h1.la
  atom := h2.atom.trans h1.atom
  en := h2.en.trans h1.en
  pos := Nat.le_trans h1.pos h2.pos
  q := h1.q.trans h2.q
  qla := fun h => (h2.qla (by rw [h1.la]; exact h)).trans (h1.qla h)
  bnd := fun h => by
    have := h2.bnd (by rw [h1.input]; exact h1.bnd h)
    rwa [h1.input] at this
  stk := fun h => by
    obtain ⟨i1, e1⟩ := h1.stk h
    obtain ⟨i2, e2⟩ := h2.stk i1
    exact ⟨i2, e2.trans e1⟩

/-- States that differ only in bookkeeping (`calls`, attempts, `pa` except `enabled`). -/
theorem Rel.of_core {s s' : PState} (h1 : s'.input = s.input) (h2 : s'.pos = s.pos)
    (h3 : s'.queue = s.queue) (h4 : s'.lookahead = s.lookahead) (h5 : s'.atomicity = s.atomicity)
    (h6 : s'.stack = s.stack) (h7 : s'.pa.enabled = s.pa.enabled) : Rel s s' :=
  ⟨h1, h4, h5, h7, Nat.le_of_eq h2.symm, QLe.of_eq h3, fun _ => h3, fun h => by rw [h2]; exact h,
   fun h => by rw [h6]; exact ⟨h, rfl⟩⟩

theorem Rel.wf {s s' : PState} (r : Rel s s') (h : s.WF) : s'.WF := by
  refine ⟨?_, (r.stk h.2).1⟩
  rw [r.input]; exact r.bnd h.1

theorem incCall_some {s s1 : PState} (h : incCall s = some s1) : ∃ c, s1 = { s with calls := c } := by
  unfold incCall at h
  split at h
  · cases h; rename_i hc; exact ⟨none, by rw [← hc]⟩
  · split at h
    · cases h
    · simp at h; exact ⟨_, h.symm⟩

theorem incCall_rel {s s1 : PState} (h : incCall s = some s1) : Rel s s1 := by
  obtain ⟨c, rfl⟩ := incCall_some h
  exact Rel.of_core rfl rfl rfl rfl rfl rfl rfl

theorem tryAddNewToken_enabled (pa : PAttempts) (tok : PTok) (a b : Nat) (n : Bool) :
    (pa.tryAddNewToken tok a b n).enabled = pa.enabled := by
  unfold PAttempts.tryAddNewToken
  cases n <;> simp only [apply_ite PAttempts.enabled, ite_self, Bool.false_eq_true, if_false, if_true,
    false_and, true_and]

/-- "`s` with another attempt record of the same `enabled`" passes through `if`. -/
theorem paOnly_ite {s : PState} {c : Prop} [Decidable c] {a b : PState}
    (ha : ∃ pa', a = { s with pa := pa' } ∧ pa'.enabled = s.pa.enabled)
    (hb : ∃ pa', b = { s with pa := pa' } ∧ pa'.enabled = s.pa.enabled) :
    ∃ pa', (if c then a else b) = { s with pa := pa' } ∧ pa'.enabled = s.pa.enabled := by
  split <;> assumption

theorem handleToken_eq (s : PState) (start : Nat) (tok : PTok) (succ : Bool) :
    ∃ pa', handleToken s start tok succ = { s with pa := pa' } ∧ pa'.enabled = s.pa.enabled := by
  have base : ∃ pa', s = { s with pa := pa' } ∧ pa'.enabled = s.pa.enabled := ⟨s.pa, rfl, rfl⟩
  have tk : ∀ n, ∃ pa', { s with pa := s.pa.tryAddNewToken tok start s.pos n } = { s with pa := pa' } ∧
      pa'.enabled = s.pa.enabled := fun n => ⟨_, rfl, tryAddNewToken_enabled _ _ _ _ _⟩
  unfold handleToken
  exact paOnly_ite base (paOnly_ite (paOnly_ite (tk true) (paOnly_ite ⟨_, rfl, rfl⟩ base))
    (paOnly_ite (tk false) base))

/-- A terminal that found a position moves there and touches nothing else but the attempt record. -/
theorem terminal_some (s : PState) (b : Bool) (p : Nat) (tok : Option PTok) :
    ∃ pa', terminal s (some (b, p)) tok = (if b then Out.ok else Out.err) { s with pos := p, pa := pa' } ∧
      pa'.enabled = s.pa.enabled := by
  cases tok with
  | none => exact ⟨s.pa, by unfold terminal; cases b <;> rfl, rfl⟩
  | some t =>
    obtain ⟨pa', he, hen⟩ := handleToken_eq { s with pos := p } s.pos t b
    exact ⟨pa', by unfold terminal; simp only []; rw [he]; cases b <;> rfl, hen⟩

theorem track_eq (s : PState) (rule pos pai nai prev : Nat) :
    ∃ a b c, track s rule pos pai nai prev = { s with posAtt := a, negAtt := b, attemptPos := c } :=
  ⟨_, _, _, track_norm s rule pos pai nai prev⟩

theorem tryAddNewStackRule_enabled {pa pa' : PAttempts} {r st : Nat}
    (h : pa.tryAddNewStackRule r st = some pa') : pa'.enabled = pa.enabled := by
  unfold PAttempts.tryAddNewStackRule at h
  split at h
  · cases h
  · extract_lets _ _ _ _ cs at h
    split at h <;> (cases h; rfl)

theorem tryAddRuleToStack_eq {s s' : PState} {r cs m : Nat} (h : tryAddRuleToStack s r cs m = some s') :
    ∃ pa', s' = { s with pa := pa' } ∧ pa'.enabled = s.pa.enabled := by
  unfold tryAddRuleToStack at h
  simp only [] at h
  split at h
  · split at h
    · rename_i pa hp
      cases h
      exact ⟨pa, rfl, tryAddNewStackRule_enabled hp⟩
    · cases h
  · cases h; exact ⟨s.pa, rfl, rfl⟩

theorem checkpointOk_some {ns ns' : PState} (h : checkpointOk ns = some ns') :
    ∃ st, clearSnapshot ns.stack = some st ∧ ns' = { ns with stack := st } := by
  unfold checkpointOk at h
  simp only [Option.map_eq_some_iff] at h
  obtain ⟨st, h1, h2⟩ := h
  exact ⟨st, h1, h2.symm⟩

theorem restoreStack_some {ns ns' : PState} (h : restoreStack ns = some ns') :
    ∃ st, restore ns.stack = some st ∧ ns' = { ns with stack := st } := by
  unfold restoreStack at h
  simp only [Option.map_eq_some_iff] at h
  obtain ⟨st, h1, h2⟩ := h
  exact ⟨st, h1, h2.symm⟩

theorem checkpointOk_isSome {ns : PState} (h : StkInv ns.stack) : ∃ ns', checkpointOk ns = some ns' := by
  obtain ⟨st, h1, -⟩ := clearSnapshot_spec ns.stack h
  exact ⟨{ ns with stack := st }, by simp [checkpointOk, h1]⟩

theorem restoreStack_isSome {ns : PState} (h : StkInv ns.stack) : ∃ ns', restoreStack ns = some ns' := by
  obtain ⟨st, h1, -⟩ := restore_spec ns.stack h
  exact ⟨{ ns with stack := st }, by simp [restoreStack, h1]⟩

/-- Stack part of a `checkpoint … checkpointOk` bracket. -/
theorem bracket_ok {st0 st1 st2 : Stk Str} (h0 : StkInv st0)
    (hbody : StkInv { st0 with lengths := (st0.cache.length, st0.cache.length) :: st0.lengths } →
      StkInv st1 ∧ (abs st1).saved =
        (abs { st0 with lengths := (st0.cache.length, st0.cache.length) :: st0.lengths }).saved)
    (hc : clearSnapshot st1 = some st2) :
    StkInv st2 ∧ (abs st2).saved = (abs st0).saved ∧ st2.cache = st1.cache := by
  obtain ⟨i0, e0⟩ := snapshot_spec st0 h0
  obtain ⟨i1, e1⟩ := hbody i0
  obtain ⟨st2', hc', i2, c2, e2⟩ := clearSnapshot_spec st1 i1
  rw [hc] at hc'; simp at hc'; subst hc'
  refine ⟨i2, ?_, c2⟩
  rw [e2, e1, e0]; rfl

/-- Stack part of a `checkpoint … restore` bracket: everything is as before. -/
theorem bracket_restore {st0 st1 st2 : Stk Str} (h0 : StkInv st0)
    (hbody : StkInv { st0 with lengths := (st0.cache.length, st0.cache.length) :: st0.lengths } →
      StkInv st1 ∧ (abs st1).saved =
        (abs { st0 with lengths := (st0.cache.length, st0.cache.length) :: st0.lengths }).saved)
    (hc : restore st1 = some st2) :
    StkInv st2 ∧ (abs st2).saved = (abs st0).saved ∧ st2.cache = st0.cache := by
  obtain ⟨i0, e0⟩ := snapshot_spec st0 h0
  obtain ⟨i1, e1⟩ := hbody i0
  obtain ⟨st2', hc', i2, hh⟩ := restore_spec st1 i1
  rw [hc] at hc'; simp at hc'; subst hc'
  obtain ⟨c2, e2⟩ := hh _ _ (e1.trans e0)
  exact ⟨i2, e2, c2⟩

theorem stackEq_of {a b : Stk Str} (h1 : a.cache = b.cache) (h2 : (abs a).saved = (abs b).saved) :
    stackEq a b := by
  unfold stackEq
  have : ∀ n : Naive Str, n = ⟨n.cur, n.saved⟩ := fun n => rfl
  rw [this (abs a), this (abs b), h2]
  show Naive.mk a.cache _ = Naive.mk b.cache _
  rw [h1]

end PestModel.PS

namespace PestModel.Views
open PestModel.PS PestModel.LineCol

/-- The tokens `s'` has beyond those of `s` encode a forest nested within `[s.pos, s'.pos]`. -/
def Ext (s s' : PState) : Prop :=
  Wf s.input s'.queue s.queue.length s.pos s'.queue.length s'.pos

theorem Ext.of_len {s s' : PState} (r : Rel s s') (h : s'.queue.length = s.queue.length) : Ext s s' := by
  unfold Ext; rw [h]; exact .nil r.pos

theorem Ext.of_eq {s s' t t' : PState} (h : Ext s s') (h1 : t.input = s.input)
    (h2 : t.queue.length = s.queue.length) (h3 : t.pos = s.pos) (h4 : t'.queue = s'.queue)
    (h5 : t'.pos = s'.pos) : Ext t t' := by
  unfold Ext at h ⊢; rw [h1, h2, h3, h4, h5]; exact h

theorem Ext.right {s s' t' : PState} (h : Ext s s') (h4 : t'.queue = s'.queue) (h5 : t'.pos = s'.pos) :
    Ext s t' := h.of_eq rfl rfl rfl h4 h5

theorem Ext.trans {a b c : PState} (h1 : Ext a b) (h2 : Ext b c) (r1 : Rel a b) (r2 : Rel b c) :
    Ext a c := by
  unfold Ext at h1 h2 ⊢
  rw [r1.input] at h2
  refine Wf.append (h1.congr fun i _ hi => r2.q.getElem?_erase i hi) h2

/-- A terminal moves the position (and, with error detail on, the attempt record) only. -/
theorem terminal_queue {s s' : PState} {r : Option (Bool × Nat)} {tok : Option PTok}
    (h : (terminal s r tok).state? = some s') : s'.queue = s.queue := by
  obtain _ | ⟨b, p⟩ := r
  · cases h
  · obtain ⟨pa', he, -⟩ := terminal_some s b p tok
    rw [he] at h
    cases b <;> (cases h; rfl)

/-- leaves: the queue is untouched -/
macro "leaf_queue" h:ident : tactic => `(tactic| (
  rw [PS.run] at $h:ident
  repeat' split at $h:ident
  all_goals first
    | (simp at $h:ident; done)
    | (simp at $h:ident; subst $h:ident; rfl)
    | exact terminal_queue $h
    | (simp only [] at $h:ident
       repeat' split at $h:ident
       all_goals first
         | (simp at $h:ident; done)
         | (simp at $h:ident; subst $h:ident; rfl)
         | exact (terminal_queue $h :))))

end PestModel.Views

namespace PestModel.PS
open PestModel.LineCol PestModel.Views

/-- `Rel` together with the queue invariant: what a call started on a character boundary appends to
the queue is the encoding of a forest nested between the positions before and after the call.
`Ext` reads only `input`, `queue` and `pos`, so `{ r with … }` carries it over a change of other fields. -/
structure RelX (s s' : PState) : Prop extends Rel s s' where
  ext : isBoundary s.input s.pos = true → Ext s s'

theorem Rel.of_len {s s' : PState} (r : Rel s s') (h : s'.queue.length = s.queue.length) : RelX s s' :=
  ⟨r, fun _ => Ext.of_len r h⟩

theorem RelX.refl (s : PState) : RelX s s := (Rel.refl s).of_len rfl

theorem RelX.trans {a b c : PState} (h1 : RelX a b) (h2 : RelX b c) : RelX a c :=
  ⟨h1.toRel.trans h2.toRel, fun h =>
    (h1.ext h).trans (h2.ext (by rw [h1.input]; exact h1.bnd h)) h1.toRel h2.toRel⟩

theorem incCall_relx {s s1 : PState} (h : incCall s = some s1) : RelX s s1 := by
  obtain ⟨c, rfl⟩ := incCall_some h
  exact (incCall_rel h).of_len rfl

end PestModel.PS
