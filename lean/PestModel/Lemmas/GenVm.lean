import PestModel.Model.Lower
import PestModel.Lemmas.GenVmTop
import PestModel.Lemmas.VmRefCex
/-! Everything `Thm/C02` needs: the agreement proof (`GenVmTop` and below) and, for the refutation of the
termination statement, divergence through `rule` and `atomic`. -/
namespace PestModel.GenVm
open PestModel.PS PestModel.VmRef

variable {cfg : Cfg}

theorem div_rule {r : Nat} {p : Prog} {st : PState} (hi : incCall st = some st) (hp : VmRef.Div cfg p (rulePre st)) :
    VmRef.Div cfg (.rule r p) st :=
  .of_succ fun k => by rw [run_rule, hi]; dsimp only; rw [hp k]

theorem div_atomic {a : Atomicity} {p : Prog} {st : PState} (hi : incCall st = some st)
    (hp : VmRef.Div cfg p (atomPre a st)) : VmRef.Div cfg (.atomic a p) st :=
  .of_succ fun k => by rw [run_atomic, hi]; dsimp only; rw [hp k]

end PestModel.GenVm
