import PestModel.Model.Reader
import PestModel.Thm.C13
import PestModel.Lemmas.ReaderCanon
/-! helper lemmas for C07: the operator-precedence stage with the reader's table. -/
namespace PestModel.Reader
open PestModel.Pratt PestModel.C07

def treeOf : Bin → Tree
  | .leaf i => .prim (100 + i)
  | .seq a b => .inf (treeOf a) seqTok (treeOf b)
  | .alt a b => .inf (treeOf a) altTok (treeOf b)

theorem ofTree_treeOf : ∀ e, ofTree (treeOf e) = some e
  | .leaf i => by simp [treeOf, ofTree]
  | .seq a b => by simp [treeOf, ofTree, ofTree_treeOf a, ofTree_treeOf b]
  | .alt a b => by simp [treeOf, ofTree, ofTree_treeOf a, ofTree_treeOf b, seqTok, altTok]

theorem readerTable_alt : readerTable altTok = some (.infix .left, 20) := by decide
theorem readerTable_seq : readerTable seqTok = some (.infix .left, 30) := by decide
theorem readerTable_prim (i : Nat) : readerTable (100 + i) = none := by
  simp only [readerTable, prattTable, prattEntries, lookupLast, altTok, seqTok, List.map_cons,
    List.map_nil, List.append_nil, List.cons_append, List.nil_append, List.reverse_cons, List.reverse_nil]
  rw [List.find?_cons_of_neg (by simp; omega), List.find?_cons_of_neg (by simp; omega)]
  rfl

theorem wf_toks : ∀ (e : Bin) (rest : List Nat),
    wf readerTable true (toks e ++ rest) = wf readerTable false rest
  | .leaf i, rest => by simp [toks, wf, readerTable_prim]
  | .seq a b, rest => by
    simp only [toks, List.append_assoc, List.cons_append, List.nil_append]
    rw [wf_toks a, wf, readerTable_seq]
    exact wf_toks b rest
  | .alt a b, rest => by
    simp only [toks, List.append_assoc, List.cons_append, List.nil_append]
    rw [wf_toks a, wf, readerTable_alt]
    exact wf_toks b rest

theorem wellFormed_toks (e : Bin) : WellFormed readerTable (toks e) := by
  have := wf_toks e []
  simpa [WellFormed, wf] using this

theorem yield_treeOf : ∀ e, (treeOf e).yield = toks e
  | .leaf _ => rfl
  | .seq a b | .alt a b => by simp [treeOf, Tree.yield, toks, yield_treeOf a, yield_treeOf b]

theorem rabove_treeOf : ∀ e, RAbove readerTable 20 (treeOf e)
  | .leaf _ => trivial
  | .seq _ b => ⟨fun a p h => by cases readerTable_seq.symm.trans h; decide, rabove_treeOf b⟩
  | .alt _ b => ⟨fun a p h => by cases readerTable_alt.symm.trans h; decide, rabove_treeOf b⟩

/-- a canonical skeleton without `|` at the top is a chain of `~` to the left, with terms as right operands -/
theorem seq_chain : ∀ e, Canon e → 2 ≤ e.level → RAbove readerTable 30 (treeOf e) ∧ LAbove readerTable 20 (treeOf e)
  | .leaf _, _, _ => ⟨trivial, trivial⟩
  | .seq a (.leaf _), ⟨ha, hl, _⟩, _ =>
    ⟨⟨fun a p h => by cases readerTable_seq.symm.trans h; decide, trivial⟩, (seq_chain a ha hl).2,
      fun a p h => by cases readerTable_seq.symm.trans h; decide⟩
  | .seq _ (.seq _ _), hc, _ | .seq _ (.alt _ _), hc, _ => by simp [Canon, Bin.level] at hc
  | .alt _ _, _, h => by simp [Bin.level] at h

theorem ok_treeOf : ∀ e, Canon e → OK readerTable (treeOf e)
  | .leaf i, _ => readerTable_prim i
  | .seq a (.leaf j), ⟨ha, hl, _⟩ =>
    ⟨_, _, readerTable_seq, ok_treeOf a ha, (seq_chain a ha hl).1, readerTable_prim j, trivial⟩
  | .seq _ (.seq _ _), hc | .seq _ (.alt _ _), hc => by simp [Canon, Bin.level] at hc
  | .alt a b, ⟨ha, hb, hl⟩ =>
    ⟨_, _, readerTable_alt, ok_treeOf a ha, rabove_treeOf a, ok_treeOf b hb, (seq_chain b hb hl).2⟩

theorem shuntingYard_toks (e : Bin) (h : Canon e) :
    shuntingYard readerTable (toks e) = some (treeOf e) :=
  yield_treeOf e ▸ shuntingYard_yield (ok_treeOf e h)

end PestModel.Reader
