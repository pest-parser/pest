import PestModel.Lemmas.PStateInvRel
/-! One-step equations of `run` for the larger combinators, with the pieces named. -/
namespace PestModel.PS
open PestModel.LineCol PestModel.Stack

theorem run_zero (cfg : Cfg) (p : Prog) (s : PState) : run cfg 0 p s = .fuel := by
  rw [run]

/-! ### `rule` -/

def ruleCond (s : PState) : Prop := s.lookahead = .none ∧ s.atomicity ≠ .atomic

instance (s : PState) : Decidable (ruleCond s) := by unfold ruleCond; infer_instance

def rulePre (s : PState) : PState :=
  if s.lookahead = .none ∧ s.atomicity ≠ .atomic
    then { s with queue := s.queue ++ [.start 0 s.pos] } else s

def rulePai (s : PState) : Nat × Nat :=
  if s.pos = s.attemptPos then (s.posAtt.length, s.negAtt.length) else (0, 0)

def ruleTrack (s1 : PState) (r : Nat) (ns : PState) : PState :=
  track ns r s1.pos (rulePai s1).1 (rulePai s1).2 (attemptsAt (rulePre s1) s1.pos)

def ruleEmit (s1 : PState) (r : Nat) (ns : PState) : Option PState :=
  if ns.lookahead = .none ∧ ns.atomicity ≠ .atomic then
    match ns.queue[s1.queue.length]? with
    | some (.start _ p0) =>
      some { ns with queue := setAt ns.queue s1.queue.length (.start ns.queue.length p0) ++
                                [.end_ s1.queue.length r none ns.pos] }
    | _ => none
  else some ns

def ruleAdd (s1 : PState) (r : Nat) (ns : PState) : Option PState :=
  tryAddRuleToStack ns r (rulePre s1).pa.callStacks.length (rulePre s1).pa.maxPos

def ruleTrackIf (s1 : PState) (r : Nat) (ns : PState) : PState :=
  if ns.lookahead = .negative then ruleTrack s1 r ns else ns

def ruleFinish (s1 : PState) (r : Nat) (ns : PState) : Out :=
  if ns.pa.enabled then
    match ruleAdd s1 r ns with
    | some ns => .ok ns
    | none => .panic
  else .ok ns

def ruleOkPost (s1 : PState) (r : Nat) (ns : PState) : Out :=
  match ruleEmit s1 r (ruleTrackIf s1 r ns) with
  | none => .panic
  | some ns => ruleFinish s1 r ns

def ruleErrAdd (s1 : PState) (r : Nat) (ns : PState) : Option PState :=
  if ns.lookahead ≠ .negative then
    if (ruleTrack s1 r ns).pa.enabled then ruleAdd s1 r (ruleTrack s1 r ns) else some (ruleTrack s1 r ns)
  else some ns

def ruleErrTrunc (s1 : PState) (ns : PState) : PState :=
  if ns.lookahead = .none ∧ ns.atomicity ≠ .atomic
    then { ns with queue := ns.queue.take s1.queue.length } else ns

def ruleErrPost (s1 : PState) (r : Nat) (ns : PState) : Out :=
  match ruleErrAdd s1 r ns with
  | none => .panic
  | some ns => .err (ruleErrTrunc s1 ns)

theorem run_rule (cfg : Cfg) (fuel : Nat) (r : Nat) (p : Prog) (s : PState) :
    run cfg (fuel+1) (.rule r p) s =
      match incCall s with
      | none => .err s
      | some s1 =>
        match run cfg fuel p (rulePre s1) with
        | .ok ns => ruleOkPost s1 r ns
        | .err ns => ruleErrPost s1 r ns
        | o => o := rfl

/-! ### `lookahead` -/

def laMode (positive : Bool) (initialLa : Lookahead) : Lookahead :=
  if positive then
    (match initialLa with | .negative => Lookahead.negative | _ => Lookahead.positive)
  else
    (match initialLa with | .negative => Lookahead.positive | _ => Lookahead.negative)

theorem laMode_ne_none (positive : Bool) (la : Lookahead) : laMode positive la ≠ .none := by
  cases positive <;> cases la <;> simp [laMode]

def laPost (s1 ns : PState) : Option PState :=
  restoreStack { ns with pos := s1.pos, lookahead := s1.lookahead }

theorem run_lookahead (cfg : Cfg) (fuel : Nat) (positive : Bool) (p : Prog) (s : PState) :
    run cfg (fuel+1) (.lookahead positive p) s =
      match incCall s with
      | none => .err s
      | some s1 =>
        match run cfg fuel p (checkpoint { s1 with lookahead := laMode positive s1.lookahead }) with
        | .ok ns =>
          match laPost s1 ns with
          | some ns => if positive then .ok ns else .err ns
          | none => .panic
        | .err ns =>
          match laPost s1 ns with
          | some ns => if positive then .err ns else .ok ns
          | none => .panic
        | o => o := rfl

/-! ### `atomic` -/

def atomPre (a : Atomicity) (s1 : PState) : PState :=
  if s1.atomicity ≠ a then { s1 with atomicity := a } else s1

def atomPost (a : Atomicity) (s1 ns : PState) : PState :=
  if s1.atomicity ≠ a then { ns with atomicity := s1.atomicity } else ns

theorem run_atomic (cfg : Cfg) (fuel : Nat) (a : Atomicity) (p : Prog) (s : PState) :
    run cfg (fuel+1) (.atomic a p) s =
      match incCall s with
      | none => .err s
      | some s1 =>
        match run cfg fuel p (atomPre a s1) with
        | .ok ns => .ok (atomPost a s1 ns)
        | .err ns => .err (atomPost a s1 ns)
        | o => o := rfl

/-! ### `sequence` -/

def seqErrState (s1 ns : PState) : PState :=
  { ns with pos := s1.pos, queue := setLastTag (ns.queue.take s1.queue.length) (lastTag s1.queue) }

theorem run_sequence (cfg : Cfg) (fuel : Nat) (p : Prog) (s : PState) :
    run cfg (fuel+1) (.sequence p) s =
      match incCall s with
      | none => .err s
      | some s1 =>
        match run cfg fuel p (checkpoint s1) with
        | .ok ns => (match checkpointOk ns with | some ns => .ok ns | none => .panic)
        | .err ns => (match restoreStack (seqErrState s1 ns) with | some ns => .err ns | none => .panic)
        | o => o := rfl

theorem run_restoreOnErr (cfg : Cfg) (fuel : Nat) (p : Prog) (s : PState) :
    run cfg (fuel+1) (.restoreOnErr p) s =
      match run cfg fuel p (checkpoint s) with
      | .ok ns => (match checkpointOk ns with | some ns => .ok ns | none => .panic)
      | .err ns => (match restoreStack ns with | some ns => .err ns | none => .panic)
      | o => o := rfl

/-! ### `stack_push` -/

def pushSpan (s1 ns : PState) : Out :=
  match slice? ns.input s1.pos ns.pos with
  | some str => .ok { ns with stack := { ns.stack with cache := str :: ns.stack.cache } }
  | none => .panic

theorem run_stackPush (cfg : Cfg) (fuel : Nat) (p : Prog) (s : PState) :
    run cfg (fuel+1) (.stackPush p) s =
      match incCall s with
      | none => .err s
      | some s1 =>
        match run cfg fuel p s1 with
        | .ok ns => pushSpan s1 ns
        | o => o := rfl

theorem run_optional (cfg : Cfg) (fuel : Nat) (p : Prog) (s : PState) :
    run cfg (fuel+1) (.optional p) s =
      match incCall s with
      | none => .err s
      | some s1 =>
        match run cfg fuel p s1 with
        | .ok s' => .ok s'
        | .err s' => .ok s'
        | o => o := rfl

theorem run_repeat (cfg : Cfg) (fuel : Nat) (p : Prog) (s : PState) :
    run cfg (fuel+1) (.repeat_ p) s =
      match incCall s with
      | none => .err s
      | some s1 => run cfg fuel (.repLoop p) s1 := rfl

theorem run_repLoop (cfg : Cfg) (fuel : Nat) (p : Prog) (s : PState) :
    run cfg (fuel+1) (.repLoop p) s =
      match run cfg fuel p s with
      | .ok s' => run cfg fuel (.repLoop p) s'
      | .err s' => .ok s'
      | o => o := rfl

theorem run_andThen (cfg : Cfg) (fuel : Nat) (p q : Prog) (s : PState) :
    run cfg (fuel+1) (.andThen p q) s =
      match run cfg fuel p s with
      | .ok s' => run cfg fuel q s'
      | o => o := rfl

theorem run_orElse (cfg : Cfg) (fuel : Nat) (p q : Prog) (s : PState) :
    run cfg (fuel+1) (.orElse p q) s =
      match run cfg fuel p s with
      | .err s' => run cfg fuel q s'
      | o => o := rfl

theorem run_call (cfg : Cfg) (fuel : Nat) (i : Nat) (s : PState) :
    run cfg (fuel+1) (.call i) s =
      match cfg.env[i]? with
      | some p => run cfg fuel p s
      | none => .panic := rfl

end PestModel.PS
