import PestModel.Lemmas.ViewsPairs
import PestModel.Lemmas.ViewsToks
/-! Helper lemmas for C04: the `FlatPairs` iterator, and `find_tagged`, which walks it and filters by tag. -/
namespace PestModel.Views
open PestModel.PS (QTok)
open PestModel.LineCol (Str)

@[simp] theorem Tree.preorder_node (r a b : Nat) (t : Option Str) (cs : List Tree) :
    (Tree.node r a b t cs).preorder = .node r a b t cs :: preorderList cs := by simp [Tree.preorder]
@[simp] theorem preorderList_nil : preorderList [] = [] := by simp [preorderList]
@[simp] theorem preorderList_cons (t : Tree) (ts : List Tree) :
    preorderList (t :: ts) = t.preorder ++ preorderList ts := by simp [preorderList]

/-- The window `[s, e)` as `FlatPairs` sees it: it begins at the `Start` token of the first
remaining node, the other `Start` tokens follow in order, everything in between is an `End`. -/
def FlatSeg (q : List QTok) : Nat → Nat → List Tree → Prop
  | s, e, [] => s = e
  | s, e, t :: L => PairObs q s t ∧ isStart q s = some true ∧
      ∃ m, s < m ∧ (∀ j, s < j → j < m → isStart q j = some false) ∧ FlatSeg q m e L

variable {q : List QTok}

theorem isStart_start {a e p : Nat} (h : q[a]? = some (.start e p)) : isStart q a = some true := by
  simp [isStart, h]
theorem isStart_end {a e r p : Nat} {t : Option Str} (h : q[a]? = some (.end_ e r t p)) :
    isStart q a = some false := by
  simp [isStart, h]

namespace FlatSeg

theorem le : ∀ {L : List Tree} {s e : Nat}, FlatSeg q s e L → s ≤ e := by
  intro L
  induction L with
  | nil => intro s e h; simp [FlatSeg] at h; omega
  | cons t L ih =>
    intro s e h
    obtain ⟨_, _, m, hm, _, hr⟩ := h
    have := ih hr; omega

theorem lt {L : List Tree} {s e : Nat} {t : Tree} (h : FlatSeg q s e (t :: L)) : s < e := by
  obtain ⟨_, _, m, hm, _, hr⟩ := h
  have := hr.le; omega

theorem head {L : List Tree} {s e : Nat} (h : FlatSeg q s e L) : s = e ∨ isStart q s = some true := by
  cases L with
  | nil => exact .inl h
  | cons t L => exact .inr h.2.1

theorem append : ∀ {L1 L2 : List Tree} {s m e : Nat}, FlatSeg q s m L1 → FlatSeg q m e L2 →
    FlatSeg q s e (L1 ++ L2) := by
  intro L1
  induction L1 with
  | nil => intro L2 s m e h1 h2; simp [FlatSeg] at h1; subst h1; simpa using h2
  | cons t L ih =>
    intro L2 s m e h1 h2
    obtain ⟨ho, hs, m1, hm, hg, hr⟩ := h1
    exact ⟨ho, hs, m1, hm, hg, ih hr h2⟩

theorem extend : ∀ {L : List Tree} {s m m' : Nat} {t : Tree}, FlatSeg q s m (t :: L) → m ≤ m' →
    (∀ j, m ≤ j → j < m' → isStart q j = some false) → FlatSeg q s m' (t :: L) := by
  intro L
  induction L with
  | nil =>
    intro s m m' t h hle hg
    obtain ⟨ho, hs, m1, hm, hg1, hr⟩ := h
    simp only [FlatSeg] at hr
    subst hr
    refine ⟨ho, hs, m', by omega, ?_, rfl⟩
    intro j h1 h2
    rcases Nat.lt_or_ge j m1 with h | h
    · exact hg1 j h1 h
    · exact hg j h h2
  | cons t' L ih =>
    intro s m m' t h hle hg
    obtain ⟨ho, hs, m1, hm, hg1, hr⟩ := h
    exact ⟨ho, hs, m1, hm, hg1, ih hr hle hg⟩

theorem snoc_inv : ∀ {L : List Tree} {s e : Nat} {t : Tree}, FlatSeg q s e (L ++ [t]) →
    ∃ i, s ≤ i ∧ i < e ∧ PairObs q i t ∧ isStart q i = some true ∧
      (∀ j, i < j → j < e → isStart q j = some false) ∧ FlatSeg q s i L := by
  intro L
  induction L with
  | nil =>
    intro s e t h
    obtain ⟨ho, hs, m1, hm, hg1, hr⟩ := h
    simp only [FlatSeg] at hr
    subst hr
    exact ⟨s, Nat.le_refl _, hm, ho, hs, hg1, rfl⟩
  | cons t' L ih =>
    intro s e t h
    obtain ⟨ho, hs, m1, hm, hg1, hr⟩ := h
    obtain ⟨i, h1, h2, h3, h4, h5, h6⟩ := ih hr
    exact ⟨i, by omega, h2, h3, h4, h5, ho, hs, m1, hm, hg1, h6⟩

end FlatSeg

theorem flat_of_layout {a b : Nat} {ts : List Tree} (h : Layout q a ts b) :
    FlatSeg q a b (preorderList ts) := by
  induction h with
  | nil a => simp [FlatSeg]
  | cons h1 h2 hk hr ihk ihr =>
    rename_i a e b r p0 p1 tag kids rest
    have hobs : PairObs q a (.node r p0 p1 tag kids) := pairObs_of h1 h2 hk
    have hle := hk.le
    simp only [preorderList_cons, Tree.preorder_node, List.cons_append]
    have hfirst : FlatSeg q a (e + 1) (.node r p0 p1 tag kids :: preorderList kids) := by
      cases hpk : preorderList kids with
      | nil =>
        rw [hpk] at ihk
        simp only [FlatSeg] at ihk
        refine ⟨hobs, isStart_start h1, e + 1, by omega, ?_, rfl⟩
        intro j hj1 hj2
        have : j = e := by omega
        subst this
        exact isStart_end h2
      | cons k ks =>
        rw [hpk] at ihk
        refine ⟨hobs, isStart_start h1, a + 1, by omega, fun j h1 h2 => by omega, ?_⟩
        refine ihk.extend (by omega) ?_
        intro j hj1 hj2
        have : j = e := by omega
        subst this
        exact isStart_end h2
    exact hfirst.append ihr

theorem flatAdvance_gap {stop : Nat} : ∀ (fuel i m : Nat), i ≤ m → m ≤ stop →
    (∀ j, i ≤ j → j < m → isStart q j = some false) → (m = stop ∨ isStart q m = some true) →
    m - i ≤ fuel → flatAdvance q stop fuel i = some m := by
  intro fuel
  induction fuel with
  | zero => intro i m h1 h2 _ _ hf; have : i = m := by omega
            subst this; simp [flatAdvance]
  | succ fuel ih =>
    intro i m h1 h2 hg hm hf
    rw [flatAdvance]
    by_cases hlt : i < stop
    · simp only [hlt, if_true]
      by_cases him : i = m
      · subst him
        rcases hm with hm | hm
        · omega
        · simp [hm]
      · rw [hg i (Nat.le_refl _) (by omega)]
        exact ih (i + 1) m (by omega) h2 (fun j h1 h2 => hg j (by omega) h2) hm (by omega)
    · have : i = m := by omega
      subst this; simp [hlt]

theorem flatRetreat_gap {start : Nat} : ∀ (fuel j i : Nat), i ≤ j → start ≤ i →
    isStart q i = some true → (∀ k, i < k → k ≤ j → isStart q k = some false) →
    j - i + 1 ≤ fuel → flatRetreat q start fuel j = some i := by
  intro fuel
  induction fuel with
  | zero => intro j i _ _ _ _ hf; omega
  | succ fuel ih =>
    intro j i h1 h2 hs hg hf
    rw [flatRetreat]
    have hge : j ≥ start := by omega
    simp only [hge, if_true]
    by_cases hji : j = i
    · subst hji; simp [hs]
    · rw [hg j (by omega) (Nat.le_refl _)]
      have : ¬ j = 0 := by omega
      simp only [this, if_false]
      exact ih (j - 1) i (by omega) h2 hs (fun k h1 h2 => hg k h1 (by omega)) (by omega)

/-- one step of `FlatPairs::len`, by the position looked at -/
def lenStep (q : List QTok) (acc i : Nat) : Option Nat :=
  match isStart q i with
  | some true => some (acc + 1)
  | some false => some acc
  | none => none

theorem Flat.len_eq (v : Flat) :
    v.len q = (List.range' v.start (v.stop - v.start)).foldlM (lenStep q) 0 := by
  rw [List.range'_eq_map_range, List.foldlM_map]; rfl

theorem lenFold_gap {d s acc : Nat} (hg : ∀ j, s ≤ j → j < s + d → isStart q j = some false) :
    (List.range' s d).foldlM (lenStep q) acc = some acc := by
  induction d generalizing s with
  | zero => rfl
  | succ d ih =>
    rw [List.range'_succ, List.foldlM_cons]
    simp only [lenStep, hg s (Nat.le_refl _) (by omega), Option.bind_eq_bind, Option.bind_some]
    exact ih fun j h1 h2 => hg j (by omega) (by omega)

theorem lenFold_of_seg : ∀ {L : List Tree} {s e : Nat} (acc : Nat), FlatSeg q s e L →
    (List.range' s (e - s)).foldlM (lenStep q) acc = some (acc + L.length) := by
  intro L
  induction L with
  | nil => intro s e acc h; simp only [FlatSeg] at h; subst h; simp
  | cons t L ih =>
    intro s e acc h
    have hlt := h.lt
    obtain ⟨_, hs, m, hm, hg, hr⟩ := h
    have hme := hr.le
    -- the window is `s`, then the gap up to `m`, then the rest
    have : e - s = 1 + ((m - (s + 1)) + (e - m)) := by omega
    rw [this, ← List.range'_append_1, ← List.range'_append_1]
    have h0 : (List.range' s 1).foldlM (lenStep q) acc = some (acc + 1) := by simp [lenStep, hs]
    have hgap := lenFold_gap (q := q) (acc := acc + 1) (s := s + 1) (d := m - (s + 1))
      fun j h1 h2 => hg j (by omega) (by omega)
    have hm' : s + 1 + (m - (s + 1)) = m := by omega
    simp only [List.foldlM_append, h0, hgap, Option.bind_eq_bind, Option.bind_some, hm', ih _ hr]
    simp; omega

theorem flat_len_of_seg {L : List Tree} {s e : Nat} (h : FlatSeg q s e L) :
    Flat.len q ⟨s, e⟩ = some L.length := by
  rw [Flat.len_eq]
  simpa using lenFold_of_seg 0 h

theorem Flat.next_nil {s e : Nat} (h : FlatSeg q s e []) :
    Flat.next q ⟨s, e⟩ = some (none, ⟨s, e⟩) ∧ Flat.nextBack q ⟨s, e⟩ = some (none, ⟨s, e⟩) := by
  have hse : s = e := h
  simp [Flat.next, Flat.nextBack, hse]

theorem Flat.next_cons {s e : Nat} {t : Tree} {L : List Tree} (h : FlatSeg q s e (t :: L)) :
    ∃ m, Flat.next q ⟨s, e⟩ = some (some s, ⟨m, e⟩) ∧ FlatSeg q m e L ∧ PairObs q s t := by
  have hlt := h.lt
  obtain ⟨ho, hs, m, hm, hg, hr⟩ := h
  have hme := hr.le
  have hadv : flatAdvance q e (e - s) (s + 1) = some m :=
    flatAdvance_gap _ _ _ (by omega) hme (fun j h1 h2 => hg j (by omega) h2) hr.head (by omega)
  exact ⟨m, by simp [Flat.next, Nat.not_le.2 hlt, hadv], hr, ho⟩

theorem Flat.nextBack_snoc {s e : Nat} {t : Tree} {L : List Tree} (h : FlatSeg q s e (L ++ [t])) :
    ∃ i, Flat.nextBack q ⟨s, e⟩ = some (some i, ⟨s, i⟩) ∧ FlatSeg q s i L ∧ PairObs q i t := by
  obtain ⟨i, h1, h2, ho, hs, hg, hr⟩ := h.snoc_inv
  have hret : flatRetreat q s (e - s + 1) (e - 1) = some i :=
    flatRetreat_gap _ _ _ (by omega) h1 hs (fun k h1 h2 => hg k h1 (by omega)) (by omega)
  have hle : ¬ e ≤ s := by omega
  exact ⟨i, by simp [Flat.nextBack, hle, hret], hr, ho⟩

theorem flatRun_of_seg : ∀ (ops : List Bool) (s e : Nat) (L : List Tree), FlatSeg q s e L →
    ∃ res, flatRun q ⟨s, e⟩ ops = some res ∧ ObsMatch q res (dequeRun L ops) := by
  intro ops
  induction ops with
  | nil => intro s e L _; exact ⟨[], by simp [flatRun], by simp [ObsMatch]⟩
  | cons op ops ih =>
    intro s e L h
    cases L with
    | nil =>
      obtain ⟨h1, h2⟩ := Flat.next_nil h
      obtain ⟨res, hr, hm⟩ := ih s e [] h
      refine ⟨(none, 0) :: res, ?_, by simp [dequeRun, ObsMatch, hm]⟩
      cases op <;> simp [flatRun, h1, h2, flat_len_of_seg h, hr]
    | cons t L =>
      cases op with
      | true =>
        obtain ⟨m, hn, hr, ho⟩ := Flat.next_cons h
        obtain ⟨res, hres, hmatch⟩ := ih m e L hr
        exact ⟨(some s, L.length) :: res, by simp [flatRun, hn, flat_len_of_seg hr, hres],
          by simp [dequeRun, ObsMatch, ho, hmatch]⟩
      | false =>
        obtain ⟨ys, y, hy⟩ := exists_snoc t L
        rw [hy] at h ⊢
        obtain ⟨i, hn, hr, ho⟩ := Flat.nextBack_snoc h
        obtain ⟨res, hres, hmatch⟩ := ih s i _ hr
        exact ⟨(some i, ys.length) :: res, by simp [flatRun, hn, flat_len_of_seg hr, hres],
          by rw [dequeRun_snoc]; exact ⟨ho, rfl, hmatch⟩⟩

/-- pointwise: the pair at the i-th index shows the i-th tree. -/
def IdxMatch (q : List QTok) : List Nat → List Tree → Prop
  | [], [] => True
  | i :: is, t :: ts => PairObs q i t ∧ IdxMatch q is ts
  | _, _ => False

theorem FlatSeg.length_le : ∀ {L : List Tree} {s e : Nat}, FlatSeg q s e L → L.length ≤ e - s := by
  intro L
  induction L with
  | nil => intro s e _; simp
  | cons t L ih =>
    intro s e h
    obtain ⟨_, _, m, hm, _, hr⟩ := h
    have := ih hr
    have := hr.le
    simp; omega

theorem flatAll_of_seg : ∀ (L : List Tree) (s e fuel : Nat), FlatSeg q s e L → L.length ≤ fuel →
    ∃ is, flatAll q fuel ⟨s, e⟩ = some is ∧ IdxMatch q is L := by
  intro L
  induction L with
  | nil =>
    intro s e fuel h _
    cases fuel with
    | zero => exact ⟨[], rfl, trivial⟩
    | succ f => exact ⟨[], by simp [flatAll, (Flat.next_nil h).1], trivial⟩
  | cons t L ih =>
    intro s e fuel h hf
    cases fuel with
    | zero => simp at hf
    | succ f =>
      obtain ⟨m, hn, hr, ho⟩ := Flat.next_cons h
      obtain ⟨is, his, hmatch⟩ := ih m e f hr (by simpa using hf)
      exact ⟨s :: is, by simp [flatAll, hn, his], ho, hmatch⟩

theorem tagFilter_match (tag : Str) : ∀ (is : List Nat) (L : List Tree), IdxMatch q is L →
    ∃ tags, is.mapM (fun i => (pairTag q i).map fun t => (i, t)) = some tags ∧
      IdxMatch q ((tags.filter fun p => p.2 = some tag).map (·.1)) (L.filter fun t => t.tag = some tag)
  | [], [], _ => ⟨[], rfl, trivial⟩
  | [], _ :: _, h => h.elim
  | _ :: _, [], h => h.elim
  | i :: is, t :: L, h => by
    obtain ⟨ho, hr⟩ := h
    obtain ⟨tags, ht, hm⟩ := tagFilter_match tag is L hr
    have hti : pairTag q i = some t.tag := ho.2.2.1
    refine ⟨(i, t.tag) :: tags, by simp [List.mapM_cons, hti, ht], ?_⟩
    by_cases hc : t.tag = some tag
    · simp only [List.filter_cons, hc, decide_true, if_true, List.map_cons]
      exact ⟨ho, hm⟩
    · simp only [List.filter_cons, hc, decide_false, Bool.false_eq_true, if_false]
      exact hm

end PestModel.Views
