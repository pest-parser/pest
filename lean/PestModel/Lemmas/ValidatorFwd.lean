import PestModel.Lemmas.RefValid
/-! C06: positions only move forward, and a position that moved is a
character boundary of the input (so it is at most the input length). -/
namespace PestModel.Ref
open PestModel.G
open PestModel.LineCol (Str bLen cLen splitAt?)
open PestModel.Views (Tree)
open PestModel.PS (Atomicity CharSet restAt asciiLower eqIgnoreAsciiCase normalizeIndex restAt_iff)

/-- `s'` is at the same position as `s`, or strictly later and on a boundary. -/
def Fwd (c : Ctx) (s s' : St) : Prop := s'.pos = s.pos ∨ (s.pos < s'.pos ∧ Valid c s')

theorem Fwd.refl (c : Ctx) (s : St) : Fwd c s s := Or.inl rfl

theorem Fwd.of_le {c : Ctx} {s s' : St} (h : s.pos ≤ s'.pos) (hv : Valid c s') : Fwd c s s' := by
  rcases Nat.eq_or_lt_of_le h with h | h
  · exact Or.inl h.symm
  · exact Or.inr ⟨h, hv⟩

theorem Fwd.trans {c : Ctx} {s s1 s2 : St} (h1 : Fwd c s s1) (h2 : Fwd c s1 s2) : Fwd c s s2 := by
  rcases h1 with h1 | ⟨h1, v1⟩
  · rcases h2 with h2 | ⟨h2, v2⟩
    · exact Or.inl (h2.trans h1)
    · exact Or.inr ⟨by omega, v2⟩
  · rcases h2 with h2 | ⟨h2, v2⟩
    · exact Or.inr ⟨by omega, valid_of_pos v1 h2⟩
    · exact Or.inr ⟨by omega, v2⟩

theorem Fwd.le {c : Ctx} {s s' : St} (h : Fwd c s s') : s.pos ≤ s'.pos := by
  rcases h with h | ⟨h, _⟩ <;> omega

theorem valid_le {c : Ctx} {s : St} (h : Valid c s) : s.pos ≤ bLen c.input := by
  unfold Valid at h
  cases hr : restAt c.input s.pos with
  | none => simp [hr] at h
  | some rest =>
    obtain ⟨pre, h1, h2⟩ := (restAt_iff _ _ _).1 hr
    rw [h1, ← h2]; simp

/-- the termination measure: remaining input. -/
def mu (c : Ctx) (s : St) : Nat := bLen c.input - s.pos

theorem Fwd.mu_le {c : Ctx} {s s' : St} (h : Fwd c s s') : mu c s' ≤ mu c s := by
  have := h.le; unfold mu; omega

theorem Fwd.mu_lt {c : Ctx} {s s' : St} (h : Fwd c s s') (hne : s.pos < s'.pos) : mu c s' < mu c s := by
  rcases h with h | ⟨h, v⟩
  · omega
  · have := valid_le v; unfold mu; omega

/-- either nothing was consumed, or the remaining input got shorter. -/
theorem Fwd.pos_eq_or_mu_lt {c : Ctx} {s s' : St} (h : Fwd c s s') : s'.pos = s.pos ∨ mu c s' < mu c s :=
  h.imp_right fun ⟨hlt, _⟩ => h.mu_lt hlt

theorem bLen_pos_of_ne_nil {s : Str} (h : s ≠ []) : 0 < bLen s := by
  cases s with
  | nil => exact absurd rfl h
  | cons x xs =>
    have := PestModel.LineCol.cLen_pos x
    simp only [PestModel.LineCol.bLen_cons]; omega

theorem Fwd.of_at {c : Ctx} {s s' : St} {w : Str} (a : At c.input s.pos w) (p : s'.pos = s.pos + bLen w) :
    Fwd c s s' := Fwd.of_le (by omega) (a.valid_at p)

theorem lit_pos {c : Ctx} {s s1 : St} {str : Str} {f : List Tree} (h : lit c s str = .ok s1 f) :
    s1.pos = s.pos + bLen str := (lit_word h).2.1

theorem insensM_pos {c : Ctx} {s s1 : St} {str : Str} {f : List Tree} (h : insensM c s str = .ok s1 f) :
    s1.pos = s.pos + bLen str := by
  obtain ⟨w, _, _, p, hl, _⟩ := insensM_word h
  rw [p, hl]

theorem oneChar_pos_lt {c : Ctx} {s s1 : St} {p : Char → Bool} {f : List Tree} (h : oneChar c s p = .ok s1 f) :
    s.pos < s1.pos := by
  obtain ⟨ch, _, _, hp, _⟩ := oneChar_word h
  have := bLen_pos_of_ne_nil (List.cons_ne_nil ch [])
  omega

/-- every successful call of `X` moves forward. -/
def FwdFam (c : Ctx) (X : Fam) : Prop := ∀ q s' f, X.at q = .ok s' f → Fwd c q.s s'

/-- the built-in rules, by kind: the result is definite, and every built-in other than `SOI`, `EOI` and the stack
operations consumes. -/
theorem builtin_spec {c : Ctx} (m : Atomicity) (la : Bool) (nm : String) (s : St) :
    builtin c m la nm s ≠ .fuel ∧ ∀ s' f, builtin c m la nm s = .ok s' f →
      nm ≠ "SOI" → nm ≠ "EOI" → nm ∉ ["PUSH", "PEEK", "PEEK_ALL", "POP", "POP_ALL", "DROP"] → s.pos < s'.pos := by
  have lit1 : ∀ {str : Str} {s' f}, str ≠ [] → lit c s str = .ok s' f → s.pos < s'.pos :=
    fun hs h => by have := lit_pos h; have := bLen_pos_of_ne_nil hs; omega
  obtain ⟨k, hk, hn⟩ := builtin_kind c m la nm s
  rw [hk]
  cases k <;> simp only [BKind.run] <;> simp only [BKind.Names] at hn
  case char p => exact ⟨oneChar_ne_fuel c s p, fun s' f h _ _ _ => oneChar_pos_lt h⟩
  case soi => exact ⟨by split <;> simp, fun s' f _ h1 => absurd hn h1⟩
  case eoi => exact ⟨by split <;> simp, fun s' f _ _ h2 => absurd hn h2⟩
  case peek =>
    refine ⟨?_, fun s' f _ _ _ h3 => (h3 (by simp [hn])).elim⟩
    split
    · simp
    · exact lit_ne_fuel _ _ _
  case pop =>
    refine ⟨?_, fun s' f _ _ _ h3 => (h3 (by simp [hn])).elim⟩
    split
    · simp
    · exact Res.bind_ne' (lit_ne_fuel _ _ _) fun _ _ _ => nofun
  case peekAll => exact ⟨by split <;> simp, fun s' f _ _ _ h3 => (h3 (by simp [hn])).elim⟩
  case popAll => exact ⟨by split <;> simp, fun s' f _ _ _ h3 => (h3 (by simp [hn])).elim⟩
  case drop => exact ⟨by split <;> simp, fun s' f _ _ _ h3 => (h3 (by simp [hn])).elim⟩
  case newline =>
    refine ⟨Res.orElse_ne (lit_ne_fuel _ _ _) (Res.orElse_ne (lit_ne_fuel _ _ _) (lit_ne_fuel _ _ _)), fun s' f h _ _ _ => ?_⟩
    obtain h | ⟨_, h⟩ := Res.orElse_eq_ok h
    · exact lit1 (by simp) h
    · obtain h | ⟨_, h⟩ := Res.orElse_eq_ok h <;> exact lit1 (by simp) h
  case unknown => exact ⟨by simp, fun s' f h => by cases h⟩

theorem Span.fwd {c : Ctx} {s s' : St} {Φ : Nat → Str → Prop} (h : Span c s s' Φ) : Fwd c s s' := by
  obtain ⟨w, p, a, _⟩ := h
  rcases a with rfl | a
  · exact .inl (by simpa using p)
  · exact Fwd.of_at a p

/-- the limit semantics moves forward: the consumed word of the Hoare rule, forgotten. -/
theorem V_fwd (c : Ctx) : FwdFam c (V c) := fun q s' f h => (V_sound (postOK_true c) q s' f h).fwd

theorem val_fwd {c : Ctx} {m la e s s' f} (h : val c m la e s = .ok s' f) : Fwd c s s' := V_fwd c (.d ..) _ _ h
theorem valL_fwd {c : Ctx} {m la e s acc s' f} (h : valL c m la e s acc = .ok s' f) : Fwd c s s' := V_fwd c (.l ..) _ _ h
theorem valK_fwd {c : Ctx} {m la s s' f} (h : valK c m la s = .ok s' f) : Fwd c s s' := V_fwd c (.k ..) _ _ h
theorem valSt_fwd {c : Ctx} {la nm s acc s' f} (h : valSt c la nm s acc = .ok s' f) : Fwd c s s' := V_fwd c (.st ..) _ _ h
theorem valCl_fwd {c : Ctx} {la s acc s' f} (h : valCl c la s acc = .ok s' f) : Fwd c s s' := V_fwd c (.cl ..) _ _ h
theorem valCa_fwd {c : Ctx} {m la nm s s' f} (h : valCa c m la nm s = .ok s' f) : Fwd c s s' := V_fwd c (.ca ..) _ _ h

end PestModel.Ref
