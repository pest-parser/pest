import PestModel.Model.PStateSpec
import PestModel.Thm.C11
import PestModel.Lemmas.PStateInvNoPanic
/-! Consequences of the main invariant `run_rel`: what `sequence`, `restoreOnErr` and `lookahead` restore. -/
namespace PestModel.PS
open PestModel.LineCol PestModel.Stack

theorem new_wf' (input : Str) (limit : Option Nat) (detail : Bool) :
    (PState.new input limit detail).WF := by
  refine ⟨?_, C11.inv_init⟩
  simp [PState.new, isBoundary, splitAt?]

theorem state?_some_cases {o : Out} {s' : PState} (h : o.state? = some s') :
    o = .ok s' ∨ o = .err s' := by
  cases o <;> simp at h
  · exact Or.inl (by rw [h])
  · exact Or.inr (by rw [h])

theorem sequence_err_restores' (cfg : Cfg) (fuel : Nat) (p : Prog) (s s' : PState) (hwf : s.WF)
    (h : run cfg fuel (.sequence p) s = .err s') :
    s'.pos = s.pos ∧ s'.queue = s.queue ∧ stackEq s'.stack s.stack := by
  cases fuel with
  | zero => rw [run_zero] at h; cases h
  | succ fuel =>
    rw [run_sequence] at h
    rcases wrap_inv cfg fuel h rfl with ⟨-, e⟩ | ⟨s1, ns, hic, ⟨hb, e⟩ | ⟨hb, e⟩⟩
    · cases e; exact ⟨rfl, rfl, rfl⟩
    · split at e <;> cases e
    · obtain ⟨c, rfl⟩ := incCall_some hic
      split at e
      · rename_i ns' hrs
        cases e
        obtain ⟨st, hre, rfl⟩ := restoreStack_some hrs
        have rb := run_err_rel hb
        obtain ⟨-, b, c⟩ := bracket_restore (st0 := s.stack) hwf.2 rb.stk hre
        exact ⟨rfl, setLastTag_restore rb.q, stackEq_of c b⟩
      · cases e

theorem restoreOnErr_restores' (cfg : Cfg) (fuel : Nat) (p : Prog) (s s' : PState) (hwf : s.WF)
    (h : run cfg fuel (.restoreOnErr p) s = .err s') : stackEq s'.stack s.stack := by
  cases fuel with
  | zero => rw [run_zero] at h; cases h
  | succ fuel =>
    rw [run_restoreOnErr] at h
    rcases match_inv h rfl with ⟨ns, hb, e⟩ | ⟨ns, hb, e⟩
    · split at e <;> cases e
    · split at e
      · rename_i ns' hrs
        cases e
        obtain ⟨st, hre, rfl⟩ := restoreStack_some hrs
        obtain ⟨-, b, c⟩ := bracket_restore (st0 := s.stack) hwf.2 (run_err_rel hb).stk hre
        exact stackEq_of c b
      · cases e

theorem lookahead_restores' (cfg : Cfg) (fuel : Nat) (positive : Bool) (p : Prog) (s s' : PState)
    (hwf : s.WF) (h : (run cfg fuel (.lookahead positive p) s).state? = some s') :
    s'.pos = s.pos ∧ s'.queue = s.queue ∧ stackEq s'.stack s.stack ∧ s'.lookahead = s.lookahead := by
  cases fuel with
  | zero => rw [run_zero] at h; cases h
  | succ fuel =>
    rcases lookahead_inv cfg fuel h with rfl | ⟨s1, ns, hic, hla, hb⟩
    · exact ⟨rfl, rfl, rfl, rfl⟩
    · obtain ⟨c, rfl⟩ := incCall_some hic
      obtain ⟨r, h1, h2, h3⟩ := laPost_rel (run_rel cfg fuel p _ ns hb) hla
      exact ⟨h1, h2, stackEq_of (h3 hwf.2) (r.stk hwf.2).2, r.la⟩

end PestModel.PS
