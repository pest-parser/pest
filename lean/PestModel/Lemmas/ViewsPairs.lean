import PestModel.Lemmas.ViewsLayout
/-! Helper lemmas for C04: `Pairs` / `Pair` over a laid-out window. -/
namespace PestModel.Views
open PestModel.PS (QTok)
open PestModel.LineCol (Str slice?)

/-- start indices of the top-level pairs of a forest laid out from `a`. -/
def starts : Nat → List Tree → List Nat
  | _, [] => []
  | a, t :: ts => a :: starts (a + t.size) ts

@[simp] theorem starts_length (a : Nat) (ts : List Tree) : (starts a ts).length = ts.length := by
  induction ts generalizing a with
  | nil => simp [starts]
  | cons t ts ih => simp [starts, ih]

variable {q : List QTok}

theorem starts_cons_of {a e : Nat} {r p0 p1 : Nat} {tag : Option Str} {kids rest : List Tree}
    (hk : Layout q (a + 1) kids e) :
    starts a (.node r p0 p1 tag kids :: rest) = a :: starts (e + 1) rest := by
  have := hk.size
  have h : a + (2 + sizeList kids) = e + 1 := by omega
  simp [starts, h]

theorem pairEnd_of {a e p : Nat} (h : q[a]? = some (.start e p)) : pairEnd q a = some e := by
  simp [pairEnd, h]

theorem pairsList_of_layout {a b : Nat} {ts : List Tree} (h : Layout q a ts b) :
    ∀ fuel, ts.length ≤ fuel → pairsList q fuel a b = some (starts a ts) := by
  induction h with
  | nil a => intro fuel _; cases fuel <;> simp [pairsList, starts]
  | cons h1 h2 hk hr ihk ihr =>
    rename_i a e b r p0 p1 tag kids rest
    intro fuel hf
    have := hk.le; have := hr.le
    cases fuel with
    | zero => simp at hf
    | succ fuel =>
      rw [pairsList, if_pos (by omega : a < b)]
      simp only [pairEnd_of h1]
      rw [ihr fuel (by simpa using hf), starts_cons_of hk]
      rfl

theorem countPairs_eq (fuel a b : Nat) : countPairs q fuel a b = (pairsList q fuel a b).map List.length := by
  fun_induction countPairs q fuel a b <;> simp [pairsList, Function.comp_def, *]

theorem countPairs_of_layout {a b : Nat} {ts : List Tree} (h : Layout q a ts b) (fuel : Nat)
    (hf : ts.length ≤ fuel) : countPairs q fuel a b = some ts.length := by
  simp [countPairs_eq, pairsList_of_layout h fuel hf]

theorem pairsList_of_layout' {a b : Nat} {ts : List Tree} (h : Layout q a ts b) :
    pairsList q (q.length + 1) a b = some (starts a ts) := by
  refine pairsList_of_layout h _ ?_
  have := length_le_sizeList ts
  have := h.size
  have := h.size_le_length
  omega

theorem pairs_new_of_layout {a b : Nat} {ts : List Tree} (h : Layout q a ts b) :
    Pairs.new q a b = some ⟨a, b, ts.length⟩ := by
  unfold Pairs.new
  rw [countPairs_of_layout h]
  · simp
  · have := length_le_sizeList ts
    have := h.size
    omega

theorem posAt_start {a e p : Nat} (h : q[a]? = some (.start e p)) : posAt q a = some p := by
  simp [posAt, h]
theorem posAt_end {a e r p : Nat} {t : Option Str} (h : q[a]? = some (.end_ e r t p)) : posAt q a = some p := by
  simp [posAt, h]

theorem Layout.ends {a b : Nat} {t : Tree} {ts : List Tree} (h : Layout q a (t :: ts) b) :
    a < b ∧ posAt q a = some t.start ∧ posAt q (b - 1) = some ((t :: ts).getLast (by simp)).stop := by
  obtain ⟨e, h1, _, _, _, _, hlt, hlt'⟩ := h.cons_inv
  have h' := h
  rw [← List.dropLast_concat_getLast (List.cons_ne_nil t ts)] at h'
  obtain ⟨m, _, hm⟩ := h'.split
  exact ⟨by omega, posAt_start h1, posAt_end hm.single_inv.2.1⟩

theorem pairObs_of {a e : Nat} {t : Tree} (h1 : q[a]? = some (.start e t.start))
    (h2 : q[e]? = some (.end_ a t.rule t.tag t.stop)) (hk : Layout q (a + 1) t.children e) :
    PairObs q a t := by
  refine ⟨?_, ?_, ?_, e, pairEnd_of h1, encodes_iff.2 hk, encodes_iff.2 ?_⟩
  · simp [pairRule, pairEnd_of h1, h2]
  · simp [pairSpan, pairEnd_of h1, posAt_start h1, posAt_end h2]
  · simp [pairTag, pairEnd_of h1, h2]
  · cases t with
    | node r p0 p1 tag kids => exact .cons h1 h2 hk (.nil _)

theorem pairObs_of_layout {a b : Nat} {t : Tree} {ts : List Tree} (h : Layout q a (t :: ts) b) :
    PairObs q a t := by
  obtain ⟨e, h1, h2, hk, _⟩ := h.cons_inv
  exact pairObs_of h1 h2 hk

/-- What a `Pair` shows is the tree laid out at its index: the observations of rule, span and tag follow from the layout. -/
theorem pairObs_iff {i : Nat} {t : Tree} : PairObs q i t ↔ Layout q i [t] (i + t.size) := by
  constructor
  · rintro ⟨-, -, -, e, -, -, hs⟩
    have hl := encodes_iff.1 hs
    have := hl.size
    simp only [sizeList_cons, sizeList_nil, Nat.add_zero] at this
    rwa [this] at hl
  · exact pairObs_of_layout

theorem pairStr_of_obs {input : Str} {i : Nat} {t : Tree} (h : PairObs q i t) :
    pairStr q input i = strOf input t := by
  simp [pairStr, h.2.1, strOf]

theorem mapM_pairStr {input : Str} {a b : Nat} {ts : List Tree} (h : Layout q a ts b) :
    (starts a ts).mapM (pairStr q input) = ts.mapM (strOf input) := by
  induction ts generalizing a with
  | nil => simp [starts]
  | cons t ts ih =>
    obtain ⟨e, h1, h2, hk, hr, hs, _⟩ := h.cons_inv
    simp only [starts, List.mapM_cons]
    rw [pairStr_of_obs (pairObs_of h1 h2 hk), ← hs, ih hr]

end PestModel.Views
