import PestModel.Lemmas.PStateLimitTr
/-! What the continuations `K` of the bracketing combinators do to the call counter. -/
namespace PestModel.PS

/-- `K` completes only when the body completed, and keeps the body's `calls`. -/
def KCalls (K : PState → Out → Out) : Prop :=
  ∀ s1 o s', (K s1 o).state? = some s' → ∃ ns, o.state? = some ns ∧ s'.calls = ns.calls

theorem KCore.calls {K : PState → Out → Out} (h : KCore K) : KCalls K := fun s1 o s' hs =>
  let ⟨ns, hns, hc, _⟩ := h s1 o s' hs
  ⟨ns, hns, hc⟩

theorem ruleK_calls (r : Nat) : KCalls (ruleK r) := by
  intro s1 o s' h
  obtain ⟨ns, hns, x, y, hx, hy, hs⟩ := ruleK_shape h
  refine ⟨ns, hns, hs.1.trans (Eq.trans ?_ hx.1)⟩
  rcases hy with rfl | hy
  · rfl
  · exact (ruleAdd_core hy).1

end PestModel.PS
