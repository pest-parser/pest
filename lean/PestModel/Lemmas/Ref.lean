import PestModel.Model.RefSpec
import PestModel.Lemmas.RefSeq
/-!
The reference semantics as iteration of one functional. `Fam`: the six mutually recursive functions
as one record; `step c X` = one unfolding of the mutual block with the recursive calls replaced by
`X`; `lev c n` = the block at fuel `n` = `step c` iterated `n` times from the family that is `.fuel`
everywhere (`lev_induct`). A `Q` names one argument tuple of one of the six functions, so that a
statement about all six is a statement about `X.at q` for all `q`. Also here, because every walk over
the block uses them: the three shapes in which the block continues after a sub-result, and the
built-in rules classified by what they do (`builtin_kind`).
-/
namespace PestModel.Ref
open PestModel.G
open PestModel.LineCol (Str bLen cLen splitAt?)
open PestModel.Views (Tree)
open PestModel.PS (Atomicity CharSet restAt asciiLower eqIgnoreAsciiCase normalizeIndex)

/-! `Ctx.rule?` is `List.find?` together with the index. -/

theorem rule?_go_map (name : String) (rules : List Rule) (i : Nat) :
    (Ctx.rule?.go name rules i).map (·.2) = rules.find? (·.name = name) := by
  induction rules generalizing i with
  | nil => simp [Ctx.rule?.go]
  | cons x xs ih =>
    rw [Ctx.rule?.go, List.find?_cons]
    by_cases hx : x.name = name
    · simp [hx]
    · simp only [hx, if_false, decide_false]
      exact ih (i + 1)

theorem rule?_map (c : Ctx) (name : String) : (c.rule? name).map (·.2) = c.rules.find? (·.name = name) :=
  rule?_go_map name c.rules 0

theorem rule?_of_find {c : Ctx} {name : String} {r : Rule} (h : c.rules.find? (·.name = name) = some r) :
    ∃ id, c.rule? name = some (id, r) := by
  rw [← rule?_map, Option.map_eq_some_iff] at h
  obtain ⟨⟨id, _⟩, h, rfl⟩ := h
  exact ⟨id, h⟩

theorem has_eq_find (c : Ctx) (name : String) : c.has name = (c.rules.find? (·.name = name)).isSome := by
  rw [← rule?_map, Option.isSome_map]; rfl

/-! The body of an atomic or compound-atomic rule runs in that mode, whatever the caller's. -/

theorem bodyMode_atomic (n : String) (m : Atomicity) : bodyMode n .atomic m = .atomic := by
  unfold bodyMode; split <;> simp

theorem bodyMode_compound (n : String) (m : Atomicity) : bodyMode n .compound m = .compound := by
  unfold bodyMode; split <;> simp

/-- `r ⊑ r'`: `r` is `.fuel` or already the final answer. -/
def Res.le (r r' : Res) : Prop := r = .fuel ∨ r = r'

theorem Res.le_refl (r : Res) : r.le r := Or.inr rfl
theorem Res.fuel_le (r : Res) : Res.le .fuel r := Or.inl rfl
theorem Res.le_trans {a b c : Res} (h1 : a.le b) (h2 : b.le c) : a.le c := by
  rcases h1 with h1 | h1
  · exact Or.inl h1
  · subst h1; exact h2

/-! The three shapes in which the mutual block continues after a sub-result, read back from a success. -/

theorem Res.bind_eq_ok {r alt : Res} {k : St → List Tree → Res} {s' : St} {F : List Tree}
    (h : (match (generalizing := false) r with | .ok s f => k s f | .fail => alt | r => r) = .ok s' F) :
    (∃ s1 f1, r = .ok s1 f1 ∧ k s1 f1 = .ok s' F) ∨ (r = .fail ∧ alt = .ok s' F) := by
  cases r with
  | ok s1 f1 => exact .inl ⟨s1, f1, rfl, h⟩
  | fail => exact .inr ⟨rfl, h⟩
  | _ => cases h

theorem Res.bind_eq_ok' {r : Res} {k : St → List Tree → Res} {s' : St} {F : List Tree}
    (h : (match (generalizing := false) r with | .ok s f => k s f | r => r) = .ok s' F) :
    ∃ s1 f1, r = .ok s1 f1 ∧ k s1 f1 = .ok s' F := by
  cases r with
  | ok s1 f1 => exact ⟨s1, f1, rfl, h⟩
  | _ => cases h

theorem Res.orElse_eq_ok {r alt : Res} {s' : St} {F : List Tree}
    (h : (match (generalizing := false) r with | .fail => alt | r => r) = .ok s' F) :
    r = .ok s' F ∨ (r = .fail ∧ alt = .ok s' F) := by
  cases r with
  | ok s1 f1 => exact .inl h
  | fail => exact .inr ⟨rfl, h⟩
  | _ => cases h

/-! … and what they cannot return if neither the sub-result nor the continuations do (`bad` is `.stuck` or `.fuel`
where this is used). -/

theorem Res.bind_ne {bad r alt : Res} {k : St → List Tree → Res} (h : r ≠ bad)
    (hk : ∀ s f, r = .ok s f → k s f ≠ bad) (ha : alt ≠ bad) :
    (match (generalizing := false) r with | .ok s f => k s f | .fail => alt | r => r) ≠ bad := by
  cases r with
  | ok s f => exact hk s f rfl
  | fail => exact ha
  | _ => exact h

theorem Res.bind_ne' {bad r : Res} {k : St → List Tree → Res} (h : r ≠ bad) (hk : ∀ s f, r = .ok s f → k s f ≠ bad) :
    (match (generalizing := false) r with | .ok s f => k s f | r => r) ≠ bad := by
  cases r with
  | ok s f => exact hk s f rfl
  | _ => exact h

theorem Res.orElse_ne {bad r alt : Res} (h : r ≠ bad) (ha : alt ≠ bad) :
    (match (generalizing := false) r with | .fail => alt | r => r) ≠ bad := by
  cases r with
  | fail => exact ha
  | _ => exact h

structure Fam where
  d : Atomicity → Bool → Expr → St → Res
  l : Atomicity → Bool → Expr → St → List Tree → Res
  k : Atomicity → Bool → St → Res
  st : Bool → String → St → List Tree → Res
  cl : Bool → St → List Tree → Res
  ca : Atomicity → Bool → String → St → Res

/-- one call to one of the six functions. -/
inductive Q where
  | d (m : Atomicity) (la : Bool) (e : Expr) (s : St)
  | l (m : Atomicity) (la : Bool) (e : Expr) (s : St) (acc : List Tree)
  | k (m : Atomicity) (la : Bool) (s : St)
  | st (la : Bool) (n : String) (s : St) (acc : List Tree)
  | cl (la : Bool) (s : St) (acc : List Tree)
  | ca (m : Atomicity) (la : Bool) (n : String) (s : St)

/-- the state the call starts from. -/
def Q.s : Q → St
  | .d _ _ _ s | .l _ _ _ s _ | .k _ _ s | .st _ _ s _ | .cl _ s _ | .ca _ _ _ s => s

def Fam.at (X : Fam) : Q → Res
  | .d m la e s => X.d m la e s
  | .l m la e s acc => X.l m la e s acc
  | .k m la s => X.k m la s
  | .st la n s acc => X.st la n s acc
  | .cl la s acc => X.cl la s acc
  | .ca m la n s => X.ca m la n s

theorem Fam.ext_at {X Y : Fam} (h : ∀ q, X.at q = Y.at q) : X = Y := by
  cases X; cases Y
  simp only [Fam.mk.injEq]
  exact ⟨funext fun m => funext fun la => funext fun e => funext fun s => h (.d m la e s),
    funext fun m => funext fun la => funext fun e => funext fun s => funext fun acc => h (.l m la e s acc),
    funext fun m => funext fun la => funext fun s => h (.k m la s),
    funext fun la => funext fun n => funext fun s => funext fun acc => h (.st la n s acc),
    funext fun la => funext fun s => funext fun acc => h (.cl la s acc),
    funext fun m => funext fun la => funext fun n => funext fun s => h (.ca m la n s)⟩

def denoteF (c : Ctx) (X : Fam) (m : Atomicity) (la : Bool) (e : Expr) (s : St) : Res :=
  match e with
  | .str str => lit c s str
  | .insens str =>
    match restAt c.input s.pos with
    | some rest =>
      match splitAt? rest (bLen str) with
      | some (pre, _) => if eqIgnoreAsciiCase pre str then .ok { s with pos := s.pos + bLen str } [] else .fail
      | none => .fail
    | none => .fail
  | .range a b => oneChar c s (fun ch => a ≤ ch ∧ ch ≤ b)
  | .ident n => X.ca m la n s
  | .peekSlice a b =>
    let len := s.stack.length
    match normalizeIndex a len, (match b with | some e => normalizeIndex e len | none => some len) with
    | some i, some j =>
      if j ≤ i then .ok s [] else
      match matchStrs c.input ((s.stack.reverse.drop i).take (j - i)) s.pos with
      | some p => .ok { s with pos := p } []
      | none => .fail
    | _, _ => .fail
  | .posPred e =>
    match X.d m true e s with
    | .ok _ _ => .ok s []
    | r => r
  | .negPred e =>
    match X.d m true e s with
    | .ok _ _ => .fail
    | .fail => .ok s []
    | r => r
  | .seq a b =>
    match X.d m la a s with
    | .ok s1 f1 =>
      match X.k m la s1 with
      | .ok s2 f2 =>
        match X.d m la b s2 with
        | .ok s3 f3 => .ok s3 (f1 ++ f2 ++ f3)
        | r => r
      | r => r
    | r => r
  | .choice a b =>
    match X.d m la a s with
    | .fail => X.d m la b s
    | r => r
  | .opt e =>
    match X.d m la e s with
    | .fail => .ok s []
    | r => r
  | .rep e =>
    match X.d m la e s with
    | .ok s1 f1 => X.l m la e s1 f1
    | .fail => .ok s []
    | r => r
  | .repOnce e =>
    if c.extras then
      match X.d m la e s with
      | .ok s1 f1 => X.l m la e s1 f1
      | r => r
    else X.d m la (.seq e (.rep e)) s
  | .skip strs =>
    match restAt c.input s.pos with
    | some rest => .ok { s with pos := search strs rest s.pos } []
    | none => .fail
  | .push e =>
    match X.d m la e s with
    | .ok s1 f1 =>
      match PestModel.LineCol.slice? c.input s.pos s1.pos with
      | some str => .ok { s1 with stack := str :: s1.stack } f1
      | none => .stuck
    | r => r
  | .pushLiteral str => .ok { s with stack := str :: s.stack } []
  | .nodeTag e t =>
    match X.d m la e s with
    | .ok s1 f1 => .ok s1 (if la then f1 else setLastTag f1 t)
    | r => r
  | .repExact e n =>
    match seqOfList (List.replicate n e) with
    | some u => X.d m la u s
    | none => .stuck
  | .repMin e n =>
    match seqOfList (List.replicate n e ++ [.rep e]) with
    | some u => X.d m la u s
    | none => .stuck
  | .repMax e n =>
    match seqOfList (List.replicate n (.opt e)) with
    | some u => X.d m la u s
    | none => .stuck
  | .repMinMax e lo hi =>
    match seqOfList ((List.range hi).map fun i => if i + 1 ≤ lo then e else .opt e) with
    | some u => X.d m la u s
    | none => .stuck

def repLoopF (X : Fam) (m : Atomicity) (la : Bool) (e : Expr) (s : St) (acc : List Tree) : Res :=
  match X.k m la s with
  | .ok s1 f1 =>
    match X.d m la e s1 with
    | .ok s2 f2 => X.l m la e s2 (acc ++ f1 ++ f2)
    | .fail => .ok s acc
    | r => r
  | .fail => .ok s acc
  | r => r

def skipWsF (c : Ctx) (X : Fam) (m : Atomicity) (la : Bool) (s : St) : Res :=
  if m ≠ .nonAtomic then .ok s [] else
  match c.has "WHITESPACE", c.has "COMMENT" with
  | false, false => .ok s []
  | true, false => X.st la "WHITESPACE" s []
  | false, true => X.st la "COMMENT" s []
  | true, true =>
    match X.st la "WHITESPACE" s [] with
    | .ok s1 f1 => X.cl la s1 f1
    | r => r

def starF (X : Fam) (la : Bool) (name : String) (s : St) (acc : List Tree) : Res :=
  match X.ca .nonAtomic la name s with
  | .ok s1 f1 => X.st la name s1 (acc ++ f1)
  | .fail => .ok s acc
  | r => r

def commentLoopF (X : Fam) (la : Bool) (s : St) (acc : List Tree) : Res :=
  match X.ca .nonAtomic la "COMMENT" s with
  | .ok s1 f1 =>
    match X.st la "WHITESPACE" s1 [] with
    | .ok s2 f2 => X.cl la s2 (acc ++ f1 ++ f2)
    | r => r
  | .fail => .ok s acc
  | r => r

/-- the built-in rules (no recursion). -/
def builtin (c : Ctx) (m : Atomicity) (la : Bool) (name : String) (s : St) : Res :=
  let rng := fun (a b : Char) => oneChar c s (fun ch => a ≤ ch ∧ ch ≤ b)
  match name with
  | "ANY" => oneChar c s (fun _ => true)
  | "SOI" => if s.pos = 0 then .ok s [] else .fail
  | "EOI" =>
    if s.pos = bLen c.input then
      .ok s (if emitsFor .normal m la then [.node c.rules.length s.pos s.pos none []] else [])
    else .fail
  | "PEEK" =>
    match s.stack with
    | [] => .stuck
    | top :: _ => lit c s top
  | "POP" =>
    match s.stack with
    | [] => .stuck
    | top :: rest =>
      match lit c s top with
      | .ok s1 f => .ok { s1 with stack := rest } f
      | r => r
  | "PEEK_ALL" =>
    match matchStrs c.input s.stack s.pos with
    | some p => .ok { s with pos := p } []
    | none => .fail
  | "POP_ALL" =>
    match matchStrs c.input s.stack s.pos with
    | some p => .ok { pos := p, stack := [] } []
    | none => .fail
  | "DROP" =>
    match s.stack with
    | [] => .fail
    | _ :: rest => .ok { s with stack := rest } []
  | "ASCII_DIGIT" => rng '0' '9'
  | "ASCII_NONZERO_DIGIT" => rng '1' '9'
  | "ASCII_BIN_DIGIT" => rng '0' '1'
  | "ASCII_OCT_DIGIT" => rng '0' '7'
  | "ASCII_HEX_DIGIT" => oneChar c s (fun ch => ('0' ≤ ch ∧ ch ≤ '9') ∨ ('a' ≤ ch ∧ ch ≤ 'f') ∨ ('A' ≤ ch ∧ ch ≤ 'F'))
  | "ASCII_ALPHA_LOWER" => rng 'a' 'z'
  | "ASCII_ALPHA_UPPER" => rng 'A' 'Z'
  | "ASCII_ALPHA" => oneChar c s (fun ch => ('a' ≤ ch ∧ ch ≤ 'z') ∨ ('A' ≤ ch ∧ ch ≤ 'Z'))
  | "ASCII_ALPHANUMERIC" => oneChar c s (fun ch => ('a' ≤ ch ∧ ch ≤ 'z') ∨ ('A' ≤ ch ∧ ch ≤ 'Z') ∨ ('0' ≤ ch ∧ ch ≤ '9'))
  | "ASCII" => rng '\x00' '\x7f'
  | "NEWLINE" =>
    match lit c s ['\n'] with
    | .fail => (match lit c s ['\r', '\n'] with | .fail => lit c s ['\r'] | r => r)
    | r => r
  | _ =>
    match c.uni name with
    | some cs => oneChar c s cs.mem
    | none => .stuck

/-- the built-in rule names that never get stuck (everything `call` knows except the stack readers). -/
def plainBuiltins : List String :=
  ["ANY", "SOI", "EOI", "PEEK_ALL", "POP_ALL", "DROP", "ASCII_DIGIT", "ASCII_NONZERO_DIGIT", "ASCII_BIN_DIGIT", "ASCII_OCT_DIGIT",
   "ASCII_HEX_DIGIT", "ASCII_ALPHA_LOWER", "ASCII_ALPHA_UPPER", "ASCII_ALPHA", "ASCII_ALPHANUMERIC", "ASCII", "NEWLINE"]

/-- what a built-in rule does, apart from its name: the table of `builtin` has twenty rows but ten behaviours. -/
inductive BKind where
  | char (p : Char → Bool) | soi | eoi | peek | pop | peekAll | popAll | drop | newline | unknown

def BKind.run (c : Ctx) (m : Atomicity) (la : Bool) (s : St) : BKind → Res
  | .char p => oneChar c s p
  | .soi => if s.pos = 0 then .ok s [] else .fail
  | .eoi =>
    if s.pos = bLen c.input then
      .ok s (if emitsFor .normal m la then [.node c.rules.length s.pos s.pos none []] else [])
    else .fail
  | .peek =>
    match s.stack with
    | [] => .stuck
    | top :: _ => lit c s top
  | .pop =>
    match s.stack with
    | [] => .stuck
    | top :: rest =>
      match lit c s top with
      | .ok s1 f => .ok { s1 with stack := rest } f
      | r => r
  | .peekAll =>
    match matchStrs c.input s.stack s.pos with
    | some p => .ok { s with pos := p } []
    | none => .fail
  | .popAll =>
    match matchStrs c.input s.stack s.pos with
    | some p => .ok { pos := p, stack := [] } []
    | none => .fail
  | .drop =>
    match s.stack with
    | [] => .fail
    | _ :: rest => .ok { s with stack := rest } []
  | .newline =>
    match lit c s ['\n'] with
    | .fail => (match lit c s ['\r', '\n'] with | .fail => lit c s ['\r'] | r => r)
    | r => r
  | .unknown => .stuck

/-- what the name of a built-in of a given kind can be (as much as the lemmas about `builtin` need). -/
def BKind.Names (uni : String → Option CharSet) (nm : String) : BKind → Prop
  | .char _ => nm ≠ "SOI" ∧ nm ≠ "EOI"
  | .soi => nm = "SOI"
  | .eoi => nm = "EOI"
  | .peek => nm = "PEEK"
  | .pop => nm = "POP"
  | .peekAll => nm = "PEEK_ALL"
  | .popAll => nm = "POP_ALL"
  | .drop => nm = "DROP"
  | .newline => nm = "NEWLINE"
  | .unknown => nm ∉ plainBuiltins ∧ nm ≠ "PEEK" ∧ nm ≠ "POP" ∧ uni nm = none

/-- the one pass over the table of `builtin`: facts about built-ins are proved by cases on the kind. -/
theorem builtin_kind (c : Ctx) (m : Atomicity) (la : Bool) (nm : String) (s : St) :
    ∃ k : BKind, builtin c m la nm s = k.run c m la s ∧ k.Names c.uni nm := by
  unfold builtin
  split
  case h_2 => exact ⟨.soi, rfl, rfl⟩
  case h_3 => exact ⟨.eoi, rfl, rfl⟩
  case h_4 => exact ⟨.peek, rfl, rfl⟩
  case h_5 => exact ⟨.pop, rfl, rfl⟩
  case h_6 => exact ⟨.peekAll, rfl, rfl⟩
  case h_7 => exact ⟨.popAll, rfl, rfl⟩
  case h_8 => exact ⟨.drop, rfl, rfl⟩
  case h_19 => exact ⟨.newline, rfl, rfl⟩
  case h_20 =>
    split
    · exact ⟨.char _, rfl, by assumption, by assumption⟩
    · refine ⟨.unknown, rfl, ?_, by assumption, by assumption, by assumption⟩
      simp only [plainBuiltins, List.mem_cons, List.not_mem_nil, or_false, not_or]
      and_intros <;> assumption
  all_goals exact ⟨.char _, rfl, by decide, by decide⟩

def callF (c : Ctx) (X : Fam) (m : Atomicity) (la : Bool) (name : String) (s : St) : Res :=
  match c.rule? name with
  | some (id, r) =>
    match X.d (bodyMode r.name r.ty m) la r.expr s with
    | .ok s1 f1 =>
      if emitsFor r.ty m la then .ok s1 [.node id s.pos s1.pos none f1] else .ok s1 f1
    | res => res
  | none => builtin c m la name s

def step (c : Ctx) (X : Fam) : Fam where
  d := denoteF c X
  l := repLoopF X
  k := skipWsF c X
  st := starF X
  cl := commentLoopF X
  ca := callF c X

def lev (c : Ctx) (n : Nat) : Fam where
  d := denote c n
  l := repLoop c n
  k := skipWs c n
  st := star c n
  cl := commentLoop c n
  ca := call c n

theorem lev_succ (c : Ctx) (n : Nat) : lev c (n + 1) = step c (lev c n) :=
  Fam.ext_at fun q => by cases q <;> rfl

section
variable (c : Ctx) (m : Atomicity) (la : Bool) (n : Nat)

theorem denote_succ (e : Expr) : denote c (n + 1) m la e = denoteF c (lev c n) m la e :=
  congrArg (fun X : Fam => X.d m la e) (lev_succ c n)
theorem repLoop_succ (e : Expr) : repLoop c (n + 1) m la e = repLoopF (lev c n) m la e :=
  congrArg (fun X : Fam => X.l m la e) (lev_succ c n)
theorem skipWs_succ : skipWs c (n + 1) m la = skipWsF c (lev c n) m la :=
  congrArg (fun X : Fam => X.k m la) (lev_succ c n)
theorem star_succ (nm : String) : star c (n + 1) la nm = starF (lev c n) la nm :=
  congrArg (fun X : Fam => X.st la nm) (lev_succ c n)
theorem commentLoop_succ : commentLoop c (n + 1) la = commentLoopF (lev c n) la :=
  congrArg (fun X : Fam => X.cl la) (lev_succ c n)
theorem call_succ (nm : String) : call c (n + 1) m la nm = callF c (lev c n) m la nm :=
  congrArg (fun X : Fam => X.ca m la nm) (lev_succ c n)

end

theorem lev_zero (c : Ctx) (q : Q) : (lev c 0).at q = .fuel := by cases q <;> rfl

theorem lev_zero_l (c : Ctx) m la e s acc : (lev c 0).l m la e s acc = .fuel := rfl
theorem lev_zero_st (c : Ctx) la n s acc : (lev c 0).st la n s acc = .fuel := rfl
theorem lev_zero_cl (c : Ctx) la s acc : (lev c 0).cl la s acc = .fuel := rfl

/-- Induction along the fuel: what holds of every family that is `.fuel` everywhere and is kept by
`step c` holds of every `lev c n`. -/
theorem lev_induct (c : Ctx) {P : Fam → Prop} (h0 : ∀ X : Fam, (∀ q, X.at q = .fuel) → P X)
    (hs : ∀ X, P X → P (step c X)) : ∀ n, P (lev c n)
  | 0 => h0 _ (lev_zero c)
  | n + 1 => lev_succ c n ▸ hs _ (lev_induct c h0 hs n)

end PestModel.Ref
