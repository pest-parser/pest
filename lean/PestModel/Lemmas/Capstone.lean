import PestModel.Model.RefSpec
import PestModel.Lemmas.RefVal
/-! Glue for the capstones (`PestModel/Thm/Capstone.lean`): the documented semantics assign at most one
definite result; rule names compared as numbers. -/
namespace PestModel.Capstone
open PestModel.G PestModel.PS PestModel.Ref
open PestModel.LineCol (Str)

/-- `Means` is deterministic. -/
theorem means_det {rules : List Rule} {extras : Bool} {uni : String → Option CharSet} {name : String}
    {input : Str} {r r' : Res} (h : Means rules extras uni name input r)
    (h' : Means rules extras uni name input r') : r = r' := by
  rw [means_iff] at h h'
  exact h.2.symm.trans h'.2

/-- a definite value of `meaning` is what the grammar `Means`. -/
theorem means_of_meaning {rules : List Rule} {extras : Bool} {uni : String → Option CharSet} {name : String}
    {input : Str} {fuel : Nat} {r : Res} (h : meaning rules extras uni fuel name input = r) (hr : r ≠ .fuel) :
    Means rules extras uni name input r := ⟨hr, fuel, h⟩

/-- the UTF-8 bytes of a string as one number. -/
def byteCode (s : String) : Nat := s.toByteArray.data.toList.foldl (fun n b => n * 256 + b.toNat) 0

/-- Strings are distinct as soon as their `byteCode`s are.  For the kernel this is the cheap way to see
that the sixty-odd rule names of a grammar are distinct: it encodes each string literal once and then
compares numbers, where comparing two strings encodes both, two thousand times. -/
theorem nodup_of_byteCode {l : List String} (h : (l.map byteCode).Nodup) : l.Nodup :=
  List.Pairwise.of_map byteCode (fun _ _ h e => h (congrArg byteCode e)) h

end PestModel.Capstone
