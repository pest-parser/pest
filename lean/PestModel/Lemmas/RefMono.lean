import PestModel.Lemmas.Ref
/-! `step` respects every relation between an indexed family of results and one result that passes through the shape
in which the block continues after a sub-result (`step_rel`), also when the relation is only asked of calls that start in
a state satisfying some `P` that successful calls keep. Monotonicity for the flat order is the instance at index `Unit`
(continuity, in `RefLim`, the one at index `Nat`); the levels form a chain. -/
namespace PestModel.Ref
open PestModel.G
open PestModel.LineCol (Str bLen cLen splitAt?)
open PestModel.Views (Tree)
open PestModel.PS (Atomicity CharSet restAt asciiLower eqIgnoreAsciiCase normalizeIndex)

/-- `X ⊑ Y` at every call that starts in a state satisfying `P`. -/
def Fam.leOn (P : St → Prop) (X Y : Fam) : Prop := ∀ q, P q.s → (X.at q).le (Y.at q)

/-- a successful call of `X` from a state satisfying `P` ends in one. -/
def Fam.Keeps (P : St → Prop) (X : Fam) : Prop := ∀ q s' f, P q.s → X.at q = .ok s' f → P s'

def Fam.le (X Y : Fam) : Prop := ∀ q, (X.at q).le (Y.at q)

section
variable {P : St → Prop} {X Y : Fam}

theorem Fam.le.d (h : X.le Y) m la e s : (X.d m la e s).le (Y.d m la e s) := h (.d m la e s)
theorem Fam.le.l (h : X.le Y) m la e s acc : (X.l m la e s acc).le (Y.l m la e s acc) := h (.l m la e s acc)
theorem Fam.le.k (h : X.le Y) m la s : (X.k m la s).le (Y.k m la s) := h (.k m la s)
theorem Fam.le.st (h : X.le Y) la n s acc : (X.st la n s acc).le (Y.st la n s acc) := h (.st la n s acc)
theorem Fam.le.cl (h : X.le Y) la s acc : (X.cl la s acc).le (Y.cl la s acc) := h (.cl la s acc)
theorem Fam.le.ca (h : X.le Y) m la n s : (X.ca m la n s).le (Y.ca m la n s) := h (.ca m la n s)

end

/-- a relation between `ι`-indexed results and one result that the mutual block respects: it holds between a constant
and itself and passes through the shape in which the block continues after a sub-result. -/
structure Res.Rel {ι : Type} (R : (ι → Res) → Res → Prop) : Prop where
  const : ∀ r, R (fun _ => r) r
  bind : ∀ {f alt : ι → Res} {r alt' : Res} {k : ι → St → List Tree → Res} {k' : St → List Tree → Res},
    R f r → (∀ s fo, r = .ok s fo → R (fun i => k i s fo) (k' s fo)) → R alt alt' →
    R (fun i => match f i with | .ok s fo => k i s fo | .fail => alt i | r => r)
      (match (generalizing := false) r with | .ok s fo => k' s fo | .fail => alt' | r => r)

section
variable {ι : Type} {R : (ι → Res) → Res → Prop} (hR : Res.Rel R)
include hR

/-- the shape without an alternative is the general one with `.fail` for it … -/
theorem Res.Rel.bind' {f : ι → Res} {r : Res} {k : ι → St → List Tree → Res} {k' : St → List Tree → Res}
    (h : R f r) (hk : ∀ s fo, r = .ok s fo → R (fun i => k i s fo) (k' s fo)) :
    R (fun i => match f i with | .ok s fo => k i s fo | r => r)
      (match (generalizing := false) r with | .ok s fo => k' s fo | r => r) := by
  have e1 : (fun i => match f i with | .ok s fo => k i s fo | r => r) =
      fun i => match f i with | .ok s fo => k i s fo | .fail => .fail | r => r := funext fun i => by cases f i <;> rfl
  have e2 : (match (generalizing := false) r with | .ok s fo => k' s fo | r => r) =
      match (generalizing := false) r with | .ok s fo => k' s fo | .fail => .fail | r => r := by cases r <;> rfl
  rw [e1, e2]
  exact hR.bind h hk (hR.const _)

/-- … and the shape that only replaces a failure is the general one with `.ok` for the continuation. -/
theorem Res.Rel.orElse {f alt : ι → Res} {r alt' : Res} (h : R f r) (ha : R alt alt') :
    R (fun i => match f i with | .fail => alt i | r => r)
      (match (generalizing := false) r with | .fail => alt' | r => r) := by
  have e1 : (fun i => match f i with | .fail => alt i | r => r) =
      fun i => match f i with | .ok s fo => .ok s fo | .fail => alt i | r => r := funext fun i => by cases f i <;> rfl
  have e2 : (match (generalizing := false) r with | .fail => alt' | r => r) =
      match (generalizing := false) r with | .ok s fo => .ok s fo | .fail => alt' | r => r := by cases r <;> rfl
  rw [e1, e2]
  exact hR.bind h (fun _ _ _ => hR.const _) ha

variable (c : Ctx) {P : St → Prop} {X : ι → Fam} {Y : Fam} (hY : Y.Keeps P)
  (h : ∀ q, P q.s → R (fun i => (X i).at q) (Y.at q))
include hY h

theorem denoteF_rel m la e s (hs : P s) : R (fun i => denoteF c (X i) m la e s) (denoteF c Y m la e s) := by
  cases e <;> simp only [denoteF] <;> try exact hR.const _
  case ident n => exact h (.ca m la n s) hs
  case posPred e => exact hR.bind' (h (.d m true e s) hs) fun _ _ _ => hR.const _
  case negPred e => exact hR.bind (h (.d m true e s) hs) (fun _ _ _ => hR.const _) (hR.const _)
  case seq a b =>
    refine hR.bind' (h (.d m la a s) hs) fun s1 _ h1 => ?_
    have v1 := hY (.d ..) _ _ hs h1
    refine hR.bind' (h (.k m la s1) v1) fun s2 _ h2 => ?_
    exact hR.bind' (h (.d m la b s2) (hY (.k ..) _ _ v1 h2)) fun _ _ _ => hR.const _
  case choice a b => exact hR.orElse (h (.d m la a s) hs) (h (.d m la b s) hs)
  case opt e => exact hR.orElse (h (.d m la e s) hs) (hR.const _)
  case rep e =>
    exact hR.bind (h (.d m la e s) hs) (fun _ _ h1 => h (.l ..) (hY (.d ..) _ _ hs h1)) (hR.const _)
  case repOnce e =>
    split
    · exact hR.bind' (h (.d m la e s) hs) fun _ _ h1 => h (.l ..) (hY (.d ..) _ _ hs h1)
    · exact h (.d ..) hs
  case push e => exact hR.bind' (h (.d m la e s) hs) fun _ _ _ => hR.const _
  case nodeTag e t => exact hR.bind' (h (.d m la e s) hs) fun _ _ _ => hR.const _
  all_goals (split <;> first | exact h (.d ..) hs | exact hR.const _)

/-- **`step` respects every such relation**, also when it is only asked of calls that start in a state satisfying a
`P` that successful calls of `Y` keep. -/
theorem step_rel : ∀ q, P q.s → R (fun i => (step c (X i)).at q) ((step c Y).at q) := fun q hs => by
  cases q with
  | d m la e s => exact denoteF_rel hR c hY h m la e s hs
  | l m la e s acc =>
    refine hR.bind (h (.k m la s) hs) (fun s1 _ h1 => ?_) (hR.const _)
    have v1 := hY (.k ..) _ _ hs h1
    exact hR.bind (h (.d m la e s1) v1) (fun _ _ h2 => h (.l ..) (hY (.d ..) _ _ v1 h2)) (hR.const _)
  | k m la s =>
    simp only [Fam.at, step, skipWsF]
    split
    · exact hR.const _
    · split
      · exact hR.const _
      · exact h (.st ..) hs
      · exact h (.st ..) hs
      · exact hR.bind' (h (.st la "WHITESPACE" s []) hs) fun _ _ h1 => h (.cl ..) (hY (.st ..) _ _ hs h1)
  | st la n s acc =>
    exact hR.bind (h (.ca .nonAtomic la n s) hs) (fun _ _ h1 => h (.st ..) (hY (.ca ..) _ _ hs h1)) (hR.const _)
  | cl la s acc =>
    refine hR.bind (h (.ca .nonAtomic la "COMMENT" s) hs) (fun s1 _ h1 => ?_) (hR.const _)
    have v1 := hY (.ca ..) _ _ hs h1
    exact hR.bind' (h (.st la "WHITESPACE" s1 []) v1) fun _ _ h2 => h (.cl ..) (hY (.st ..) _ _ v1 h2)
  | ca m la n s =>
    simp only [Fam.at, step, callF]
    split
    · rename_i id r _
      exact hR.bind' (h (.d (bodyMode r.name r.ty m) la r.expr s) hs) fun _ _ _ => hR.const _
    · exact hR.const _

end

theorem Res.rel_le : Res.Rel (ι := Unit) fun f r => (f ()).le r where
  const r := Res.le_refl r
  bind := fun {f _ r _ _ _} h hk ha => by
    rcases h with h | h
    · simp only [h]; exact Res.fuel_le _
    · simp only [h]
      cases r with
      | ok s fo => exact hk s fo rfl
      | fail => exact ha
      | _ => exact Res.le_refl _

/-- the flat order through the general shape, for use outside the walk. -/
theorem Res.bind_le {r r' alt alt' : Res} {k k' : St → List Tree → Res} (h : r.le r')
    (hk : ∀ s f, r' = .ok s f → (k s f).le (k' s f)) (ha : alt.le alt') :
    (match (generalizing := false) r with | .ok s f => k s f | .fail => alt | r => r).le
      (match (generalizing := false) r' with | .ok s f => k' s f | .fail => alt' | r => r) :=
  Res.rel_le.bind (f := fun _ => r) (k := fun _ => k) (alt := fun _ => alt) h hk ha

theorem step_monoOn (c : Ctx) {P : St → Prop} {X Y : Fam} (h : X.leOn P Y) (hY : Y.Keeps P) :
    (step c X).leOn P (step c Y) :=
  step_rel Res.rel_le c (X := fun _ => X) hY h

theorem Fam.keeps_true (X : Fam) : X.Keeps fun _ => True := fun _ _ _ _ _ => trivial

theorem step_mono (c : Ctx) {X Y : Fam} (h : X.le Y) : (step c X).le (step c Y) :=
  fun q => step_monoOn c (fun q _ => h q) Y.keeps_true q trivial

theorem lev_mono1 (c : Ctx) (n : Nat) : (lev c n).le (lev c (n + 1)) :=
  lev_succ c n ▸ lev_induct c (P := fun X => X.le (step c X)) (fun _ h q => h q ▸ Res.fuel_le _)
    (fun _ h => step_mono c h) n

theorem Fam.le_refl (X : Fam) : X.le X := fun _ => Res.le_refl _

theorem Fam.le_trans {X Y Z : Fam} (h1 : X.le Y) (h2 : Y.le Z) : X.le Z := fun q => Res.le_trans (h1 q) (h2 q)

theorem lev_mono (c : Ctx) {n n' : Nat} (h : n ≤ n') : (lev c n).le (lev c n') := by
  induction h with
  | refl => exact Fam.le_refl _
  | step _ ih => exact Fam.le_trans ih (lev_mono1 c _)

end PestModel.Ref
