import PestModel.Lemmas.RefVal
import PestModel.Lemmas.ListRel
/-! Equivalence of expressions from all states of a set that successful evaluation keeps
(`(V c).Keeps P`) is a congruence. -/
namespace PestModel.Ref
open PestModel.G
open PestModel.LineCol (Str bLen cLen splitAt?)
open PestModel.Views (Tree)
open PestModel.PS (Atomicity CharSet restAt asciiLower eqIgnoreAsciiCase normalizeIndex)

theorem Res.le_antisymm {a b : Res} (h1 : a.le b) (h2 : b.le a) : a = b := by
  rcases h1 with h1 | h1
  · rcases h2 with h2 | h2
    · rw [h1, h2]
    · exact h2.symm
  · exact h1

/-- equal meaning from all states satisfying `P`. -/
def EqOn (P : St → Prop) (c : Ctx) (m : Atomicity) (e e' : Expr) : Prop :=
  ∀ la s, P s → val c m la e s = val c m la e' s

theorem equiv_iff_eqOn (c : Ctx) m e e' : Equiv c m e e' ↔ EqOn (fun _ => True) c m e e' := by
  rw [equiv_iff]
  exact ⟨fun h la s _ => h la s, fun h la s => h la s trivial⟩

section
variable {P : St → Prop} {c : Ctx} {m : Atomicity}

theorem EqOn.refl (e : Expr) : EqOn P c m e e := fun _ _ _ => rfl
theorem EqOn.symm {e e' : Expr} (h : EqOn P c m e e') : EqOn P c m e' e := fun la s hs => (h la s hs).symm
theorem EqOn.trans {e e' e'' : Expr} (h : EqOn P c m e e') (h' : EqOn P c m e' e'') : EqOn P c m e e'' :=
  fun la s hs => (h la s hs).trans (h' la s hs)
theorem EqOn.of_eq {e e' : Expr} (h : e = e') : EqOn P c m e e' := h ▸ EqOn.refl e
theorem EqOn.mono {Q : St → Prop} {e e' : Expr} (h : EqOn P c m e e') (hq : ∀ s, Q s → P s) : EqOn Q c m e e' :=
  fun la s hs => h la s (hq s hs)

/-- equivalent bodies give the same loop: every level of the loop over `e` is below the loop over `e'`
(by induction on the level, unfolding the latter once), and conversely. -/
theorem valL_congr (hP : (V c).Keeps P) {e e' : Expr} (h : EqOn P c m e e') (la : Bool) :
    ∀ s acc, P s → valL c m la e s acc = valL c m la e' s acc := by
  have one : ∀ {e e' : Expr}, EqOn P c m e e' → ∀ n s acc, P s →
      ((lev c n).l m la e s acc).le (valL c m la e' s acc) := by
    intro e e' h n
    induction n with
    | zero => intro s acc _; exact Res.fuel_le _
    | succ n ih =>
      intro s acc hs
      rw [lev_succ, valL_unfold]
      refine Res.bind_le ((lev_le_V c n).k m la s) (fun s1 f1 h1 => ?_) (Res.le_refl _)
      have hs1 := hP (.k m la s) s1 f1 hs h1
      rw [← h la s1 hs1]
      exact Res.bind_le ((lev_le_V c n).d m la e s1) (fun s2 f2 h2 => ih s2 _ (hP (.d m la e s1) s2 f2 hs1 h2)) (Res.le_refl _)
  have le : ∀ {e e' : Expr}, EqOn P c m e e' → ∀ s acc, P s → (valL c m la e s acc).le (valL c m la e' s acc) := by
    intro e e' h s acc hs
    obtain ⟨n, hn⟩ := exists_lev c (.l m la e s acc)
    have := one h n s acc hs
    rwa [show (lev c n).l m la e s acc = valL c m la e s acc from hn] at this
  intro s acc hs
  exact Res.le_antisymm (le h s acc hs) (le h.symm s acc hs)

theorem EqOn.posPred {e e' : Expr} (h : EqOn P c m e e') : EqOn P c m (.posPred e) (.posPred e') := by
  intro la s hs; rw [val_posPred, val_posPred, h true s hs]
theorem EqOn.negPred {e e' : Expr} (h : EqOn P c m e e') : EqOn P c m (.negPred e) (.negPred e') := by
  intro la s hs; rw [val_negPred, val_negPred, h true s hs]
theorem EqOn.opt {e e' : Expr} (h : EqOn P c m e e') : EqOn P c m (.opt e) (.opt e') := by
  intro la s hs; rw [val_opt, val_opt, h la s hs]
theorem EqOn.push {e e' : Expr} (h : EqOn P c m e e') : EqOn P c m (.push e) (.push e') := by
  intro la s hs; rw [val_push, val_push, h la s hs]
theorem EqOn.nodeTag {e e' : Expr} (h : EqOn P c m e e') (t : Str) : EqOn P c m (.nodeTag e t) (.nodeTag e' t) := by
  intro la s hs; rw [val_nodeTag, val_nodeTag, h la s hs]
theorem EqOn.choice {a a' b b' : Expr} (ha : EqOn P c m a a') (hb : EqOn P c m b b') :
    EqOn P c m (.choice a b) (.choice a' b') := by
  intro la s hs; rw [val_choice, val_choice, ha la s hs, hb la s hs]
theorem EqOn.seq (hP : (V c).Keeps P) {a a' b b' : Expr} (ha : EqOn P c m a a') (hb : EqOn P c m b b') :
    EqOn P c m (.seq a b) (.seq a' b') := by
  intro la s hs
  rw [val_seq, val_seq, ← ha la s hs]
  cases h1 : val c m la a s <;> simp only []
  rename_i s1 f1
  have hs1 := hP (.d m la a s) s1 f1 hs h1
  cases h2 : valK c m la s1 <;> simp only []
  rename_i s2 f2
  rw [hb la s2 (hP (.k m la s1) s2 f2 hs1 h2)]
theorem EqOn.rep (hP : (V c).Keeps P) {e e' : Expr} (h : EqOn P c m e e') : EqOn P c m (.rep e) (.rep e') := by
  intro la s hs
  rw [val_rep, val_rep, ← h la s hs]
  cases h1 : val c m la e s <;> simp only []
  rename_i s1 f1
  exact valL_congr hP h la s1 f1 (hP (.d m la e s) s1 f1 hs h1)
theorem EqOn.repOnce (hP : (V c).Keeps P) {e e' : Expr} (h : EqOn P c m e e') : EqOn P c m (.repOnce e) (.repOnce e') := by
  intro la s hs
  rw [val_repOnce, val_repOnce]
  split
  · rw [← h la s hs]
    cases h1 : val c m la e s <;> simp only []
    rename_i s1 f1
    exact valL_congr hP h la s1 f1 (hP (.d m la e s) s1 f1 hs h1)
  · exact (EqOn.seq hP h (EqOn.rep hP h)) la s hs

/-- pointwise equivalent lists have equivalent `seqOfList`s. -/
theorem seqOfList_congr (hP : (V c).Keeps P) {l l' : List Expr} (h : F2 (EqOn P c m) l l') :
    (seqOfList l = none ∧ seqOfList l' = none) ∨
      ∃ u u', seqOfList l = some u ∧ seqOfList l' = some u' ∧ EqOn P c m u u' := by
  induction h with
  | nil => exact Or.inl ⟨rfl, rfl⟩
  | cons hx _ ih =>
    right
    rw [seqOfList_cons, seqOfList_cons]
    rcases ih with ⟨h1, h2⟩ | ⟨u, u', h1, h2, h3⟩
    · exact ⟨_, _, rfl, rfl, by rw [h1, h2]; exact hx⟩
    · exact ⟨_, _, rfl, rfl, by rw [h1, h2]; exact EqOn.seq hP hx h3⟩

theorem val_seqOfList_congr (hP : (V c).Keeps P) {l l' : List Expr} (h : F2 (EqOn P c m) l l') (la s) (hs : P s) :
    (match seqOfList l with | some u => val c m la u s | none => Res.stuck) =
    (match seqOfList l' with | some u => val c m la u s | none => Res.stuck) := by
  rcases seqOfList_congr hP h with ⟨h1, h2⟩ | ⟨u, u', h1, h2, h3⟩
  · rw [h1, h2]
  · rw [h1, h2]; exact h3 la s hs

theorem EqOn.repExact (hP : (V c).Keeps P) {e e' : Expr} (h : EqOn P c m e e') (n : Nat) :
    EqOn P c m (.repExact e n) (.repExact e' n) := by
  intro la s hs
  rw [val_repExact, val_repExact]
  exact val_seqOfList_congr hP (F2.replicate h n) la s hs
theorem EqOn.repMin (hP : (V c).Keeps P) {e e' : Expr} (h : EqOn P c m e e') (n : Nat) :
    EqOn P c m (.repMin e n) (.repMin e' n) := by
  intro la s hs
  rw [val_repMin, val_repMin]
  exact val_seqOfList_congr hP (F2.append (F2.replicate h n) (.cons (EqOn.rep hP h) .nil)) la s hs
theorem EqOn.repMax (hP : (V c).Keeps P) {e e' : Expr} (h : EqOn P c m e e') (n : Nat) :
    EqOn P c m (.repMax e n) (.repMax e' n) := by
  intro la s hs
  rw [val_repMax, val_repMax]
  exact val_seqOfList_congr hP (F2.replicate (EqOn.opt h) n) la s hs
theorem EqOn.repMinMax (hP : (V c).Keeps P) {e e' : Expr} (h : EqOn P c m e e') (lo hi : Nat) :
    EqOn P c m (.repMinMax e lo hi) (.repMinMax e' lo hi) := by
  intro la s hs
  rw [val_repMinMax, val_repMinMax]
  refine val_seqOfList_congr hP (F2.map (f := fun i => if i + 1 ≤ lo then e else .opt e) (g := fun i => if i + 1 ≤ lo then e' else .opt e') _ fun i => ?_) la s hs
  split
  · exact h
  · exact EqOn.opt h

theorem mapBottomUp_eqOn (hP : (V c).Keeps P) (f : Expr → Expr) (hf : ∀ x, EqOn P c m x (f x)) (e : Expr) :
    EqOn P c m e (mapBottomUp f e) := by
  induction e <;> simp only [mapBottomUp] <;> try exact hf _
  case posPred e ih => exact (EqOn.posPred ih).trans (hf _)
  case negPred e ih => exact (EqOn.negPred ih).trans (hf _)
  case seq a b iha ihb => exact (EqOn.seq hP iha ihb).trans (hf _)
  case choice a b iha ihb => exact (EqOn.choice iha ihb).trans (hf _)
  case opt e ih => exact (EqOn.opt ih).trans (hf _)
  case rep e ih => exact (EqOn.rep hP ih).trans (hf _)
  case repOnce e ih => exact (EqOn.repOnce hP ih).trans (hf _)
  case repExact e n ih => exact (EqOn.repExact hP ih n).trans (hf _)
  case repMin e n ih => exact (EqOn.repMin hP ih n).trans (hf _)
  case repMax e n ih => exact (EqOn.repMax hP ih n).trans (hf _)
  case repMinMax e lo hi ih => exact (EqOn.repMinMax hP ih lo hi).trans (hf _)
  case push e ih => exact (EqOn.push ih).trans (hf _)
  case nodeTag e t ih => exact (EqOn.nodeTag ih t).trans (hf _)

theorem mapTopDown_eqOn (hP : (V c).Keeps P) (f : Expr → Expr) (hf : ∀ x, EqOn P c m x (f x)) (n : Nat) (e : Expr) :
    EqOn P c m e (mapTopDown f n e) := by
  induction n generalizing e with
  | zero => exact EqOn.refl e
  | succ n ih =>
    refine (hf e).trans ?_
    rw [mapTopDown]
    cases f e <;> simp only [] <;> try exact EqOn.refl _
    case posPred e => exact EqOn.posPred (ih e)
    case negPred e => exact EqOn.negPred (ih e)
    case seq a b => exact EqOn.seq hP (ih a) (ih b)
    case choice a b => exact EqOn.choice (ih a) (ih b)
    case opt e => exact EqOn.opt (ih e)
    case rep e => exact EqOn.rep hP (ih e)
    case repOnce e => exact EqOn.repOnce hP (ih e)
    case repExact e k => exact EqOn.repExact hP (ih e) k
    case repMin e k => exact EqOn.repMin hP (ih e) k
    case repMax e k => exact EqOn.repMax hP (ih e) k
    case repMinMax e lo hi => exact EqOn.repMinMax hP (ih e) lo hi
    case push e => exact EqOn.push (ih e)
    case nodeTag e t => exact EqOn.nodeTag (ih e) t

end
end PestModel.Ref
