import PestModel.Lemmas.ReaderValue
import PestModel.Lemmas.ReaderTrees
/-!
C01 / C09: every rule name an expression read from pairs mentions is the text of an `identifier` pair under those pairs
(`exprV_ids`, by recursion on what the pairs denote).
-/
namespace PestModel.ReaderValue
open PestModel.G PestModel.Reader PestModel.ReaderFull PestModel.ReaderShape
open PestModel.Views (Tree sizeList preorderList mem_preorder_self under_mem preorderList_mono)
open PestModel.LineCol (Str)
open PestModel.C07Full

/-- the rule names an expression mentions. -/
def idents : Expr → List String
  | .ident n => [n]
  | .posPred e | .negPred e | .opt e | .rep e | .repOnce e | .push e | .nodeTag e _ => idents e
  | .repExact e _ | .repMin e _ | .repMax e _ | .repMinMax e _ _ => idents e
  | .seq a b | .choice a b => idents a ++ idents b
  | _ => []

/-- the name is the text of an `identifier` pair somewhere in the pairs. -/
def IdIn (text : Str) (P : List Tree) (n : String) : Prop :=
  ∃ t ∈ preorderList P, kind t = "identifier" ∧ (strOf text t).map String.ofList = some n

def AllIn (text : Str) (P : List Tree) (e : Expr) : Prop := ∀ n ∈ idents e, IdIn text P n

theorem IdIn.mono {text : Str} {P Q : List Tree} {n : String} (h : ∀ t ∈ preorderList P, t ∈ preorderList Q)
    (hn : IdIn text P n) : IdIn text Q n := by
  obtain ⟨t, ht, hk, hs⟩ := hn
  exact ⟨t, h t ht, hk, hs⟩

theorem AllIn.mono {text : Str} {P Q : List Tree} {e : Expr} (h : ∀ t ∈ preorderList P, t ∈ preorderList Q)
    (he : AllIn text P e) : AllIn text Q e := fun n hn => (he n hn).mono h

theorem AllIn.congr {text : Str} {P : List Tree} {e e' : Expr} (h : idents e' = idents e) (he : AllIn text P e) :
    AllIn text P e' := fun n hn => he n (h ▸ hn)

theorem AllIn.sub {text : Str} {P Q : List Tree} {e : Expr} (h : ∀ t ∈ P, t ∈ Q) (he : AllIn text P e) : AllIn text Q e :=
  he.mono (preorderList_mono h)

theorem postV_idents {text : Str} {p : Tree} {x y : Expr} (h : PostV text p x y) : idents y = idents x := by
  rcases h with ⟨_, rfl⟩ | ⟨_, rfl⟩ | ⟨_, rfl⟩ | ⟨_, _, _, _, _, _, _, _, _, rfl⟩ | ⟨_, _, _, _, _, _, _, rfl⟩ |
    ⟨_, _, _, _, _, _, _, _, _, rfl⟩ | ⟨_, _, _, _, _, _, _, _, _, _, _, _, rfl⟩ <;> rfl

theorem postsV_idents {text : Str} {ps : List Tree} {x z : Expr} (h : PostsV text ps x z) : idents z = idents x := by
  induction h with
  | nil x => rfl
  | cons hp _ ih => rw [ih, postV_idents hp]

theorem foldGo_idents (P : String → Prop) (xs : List (Bool × Expr)) (acc : Option Expr) (cur : Expr)
    (ha : ∀ a, acc = some a → ∀ n ∈ idents a, P n) (hc : ∀ n ∈ idents cur, P n) (hx : ∀ p ∈ xs, ∀ n ∈ idents p.2, P n) :
    ∀ n ∈ idents (foldGo acc cur xs), P n := by
  have step : ∀ a b : Expr, (∀ n ∈ idents a, P n) → (∀ n ∈ idents b, P n) → ∀ n ∈ idents a ++ idents b, P n :=
    fun a b h1 h2 n hn => (List.mem_append.1 hn).elim (h1 n) (h2 n)
  exact foldGo_closed (fun e => ∀ n ∈ idents e, P n) step step xs acc cur ha hc hx

theorem leafV_idents {extras : Bool} {text : Str} {t : Tree} {x : Expr} (h : LeafV extras text t x) :
    idents x = [] ∨ (kind t = "identifier" ∧ ∃ s, strOf text t = some s ∧ x = .ident (String.ofList s)) := by
  rcases leafNode_some h.2 with ⟨_, s, rfl⟩ | ⟨a, b, rfl⟩ | h | ⟨s, rfl⟩ | ⟨s, rfl⟩ | ⟨c, d, rfl⟩
  all_goals first | exact .inr h | exact .inl rfl

mutual
  theorem exprV_ids {extras : Bool} {text : Str} : ∀ {ps : List Tree} {e : Expr}, ExprV extras text ps e → AllIn text ps e
    | _, _, .mk lead t0 rest x0 xs _ _ hu hr => by
      have h0 : AllIn text (lead ++ t0 :: rest) x0 :=
        (unArgsV_ids hu).mono (under_mem (by simp))
      have hx := restV_ids hr
      intro n hn
      refine foldGo_idents (IdIn text (lead ++ t0 :: rest)) xs none x0 (by simp) h0 ?_ n hn
      intro p hp m hm
      exact (hx p hp m hm).mono (preorderList_mono fun t ht => by simp [ht])
  theorem restV_ids {extras : Bool} {text : Str} : ∀ {ps : List Tree} {xs : List (Bool × Expr)}, RestV extras text ps xs →
      ∀ p ∈ xs, AllIn text ps p.2
    | _, _, .nil => by simp
    | _, _, @RestV.cons _ _ p t ps' o x xs' _ _ hu hr => by
      intro q hq
      rcases List.mem_cons.1 hq with rfl | hq
      · exact (unArgsV_ids hu).mono (under_mem (by simp))
      · exact (restV_ids hr q hq).sub fun u hu => by simp [hu]
  theorem unArgsV_ids {extras : Bool} {text : Str} : ∀ {ps : List Tree} {e : Expr}, UnArgsV extras text ps e → AllIn text ps e
    | _, _, @UnArgsV.tagged _ _ g asg rest name x _ _ hb => by
      have h := (unBodyV_ids hb).sub (Q := g :: asg :: rest) fun u hu => by simp [hu]
      by_cases hx : extras = true
      · simp only [hx, if_true]; exact h.congr rfl
      · simp only [hx]; exact h
    | _, _, .plain hb => unBodyV_ids hb
    | _, _, @UnArgsV.parenRest _ _ e c post x y _ he _ hp => by
      exact ((exprV_ids he).mono (under_mem (by simp))).congr (postsV_idents hp)
  theorem unBodyV_ids {extras : Bool} {text : Str} : ∀ {ps : List Tree} {e : Expr}, UnBodyV extras text ps e → AllIn text ps e
    | _, _, @UnBodyV.pos _ _ p rest x _ hb => ((unBodyV_ids hb).sub fun u hu => List.mem_cons_of_mem _ hu).congr rfl
    | _, _, @UnBodyV.neg _ _ p rest x _ hb => ((unBodyV_ids hb).sub fun u hu => List.mem_cons_of_mem _ hu).congr rfl
    | _, _, @UnBodyV.paren _ _ o e c post x y _ _ he _ hp =>
      ((exprV_ids he).mono (under_mem (by simp))).congr (postsV_idents hp)
    | _, _, @UnBodyV.push _ _ t o e cs post x y _ hc _ he hp => by
      have h1 : AllIn text t.children x := (exprV_ids he).mono (under_mem (by rw [hc]; simp))
      have h2 : AllIn text (t :: post) x := h1.mono (under_mem (by simp))
      exact h2.congr (by rw [postsV_idents hp]; rfl)
    | _, _, @UnBodyV.leaf _ _ t post x y hl hp => by
      intro n hn
      rw [postsV_idents hp] at hn
      rcases leafV_idents hl with h0 | ⟨hk, s, hs, rfl⟩
      · rw [h0] at hn; simp at hn
      · simp only [idents, List.mem_singleton] at hn
        subst hn
        exact ⟨t, by simp only [preorderList, List.mem_append]; exact .inl (mem_preorder_self t), hk, by simp [hs]⟩
end
end PestModel.ReaderValue
