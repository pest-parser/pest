import PestModel.Model.Reader
/-! The skeletons and token sequences C07's `pratt_rebuilds` speaks of. -/
namespace PestModel.C07
open PestModel.Reader

/-- canonical (minimally parenthesised) binary skeletons: `~` and `|` associate to the left, the
right operand of `~` is a term, no `|` occurs directly under `~`. -/
def Canon : Bin → Prop
  | .leaf _ => True
  | .seq a b => Canon a ∧ 2 ≤ a.level ∧ b.level = 3
  | .alt a b => Canon a ∧ Canon b ∧ 2 ≤ b.level

/-- the token sequence of one parenthesis level. -/
def toks : Bin → List Nat
  | .leaf i => [100 + i]
  | .seq a b => toks a ++ [seqTok] ++ toks b
  | .alt a b => toks a ++ [altTok] ++ toks b

end PestModel.C07
