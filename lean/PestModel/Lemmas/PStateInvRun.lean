import PestModel.Lemmas.PStateInvRunEq
/-! The cases of the main invariant for every combinator but `rule`: a completed call relates its start and end state by `RelX`
(`run_relx` itself is in `PStateInvRule`, after the `rule` case). -/
namespace PestModel.PS
open PestModel.LineCol PestModel.Stack PestModel.Views

@[simp] theorem state?_ok (s : PState) : (Out.ok s).state? = some s := rfl
@[simp] theorem state?_err (s : PState) : (Out.err s).state? = some s := rfl
@[simp] theorem state?_panic : Out.panic.state? = none := rfl
@[simp] theorem state?_fuel : Out.fuel.state? = none := rfl

abbrev IH (cfg : Cfg) (fuel : Nat) : Prop :=
  ∀ p s s', (run cfg fuel p s).state? = some s' → RelX s s'

theorem IH.ok {cfg fuel} (ih : IH cfg fuel) {p s s'} (h : run cfg fuel p s = .ok s') : RelX s s' :=
  ih p s s' (by rw [h]; rfl)
theorem IH.err {cfg fuel} (ih : IH cfg fuel) {p s s'} (h : run cfg fuel p s = .err s') : RelX s s' :=
  ih p s s' (by rw [h]; rfl)

theorem terminal_rel (s s' : PState) (r : Option (Bool × Nat)) (tok : Option PTok)
    (hg : PosGood s.input s.pos r) (h : (terminal s r tok).state? = some s') : RelX s s' := by
  obtain _ | ⟨b, pos'⟩ := r
  · cases h
  · obtain ⟨hle, hb⟩ := hg b pos' rfl
    obtain ⟨pa', e, hen⟩ := terminal_some s b pos' tok
    rw [e] at h
    cases b <;> cases h <;>
      exact Rel.of_len ⟨rfl, rfl, rfl, hen, hle, QLe.refl _, fun _ => rfl, fun _ => hb, fun h => ⟨h, rfl⟩⟩ rfl

theorem matchPopLoop_spec (input : Str) (n : Nat) (st : Stk Str) (pos : Nat) (st' : Stk Str) (b : Bool)
    (pos' : Nat) (h : matchPopLoop input n st pos = some (st', b, pos')) :
    pos ≤ pos' ∧ (isBoundary input pos = true → isBoundary input pos' = true) ∧
    (StkInv st → StkInv st' ∧ (abs st').saved = (abs st).saved) := by
  induction n generalizing st pos with
  | zero =>
    simp [matchPopLoop] at h; obtain ⟨rfl, -, rfl⟩ := h
    exact ⟨Nat.le_refl _, id, fun h => ⟨h, rfl⟩⟩
  | succ n ih =>
    unfold matchPopLoop at h
    split at h
    · cases h
    · rename_i st1 hp
      simp at h; obtain ⟨rfl, -, rfl⟩ := h
      exact ⟨Nat.le_refl _, id, pop_rel hp⟩
    · rename_i st1 x hp
      have hst := pop_rel hp
      split at h
      · cases h
      · rename_i p1 hm
        have h1 := posMatchString_good input pos x _ _ hm
        obtain ⟨i1, i2, i3⟩ := ih st1 p1 h
        exact ⟨Nat.le_trans h1.1 i1, fun _ => i2 h1.2, fun h0 => by
          obtain ⟨a, d⟩ := hst h0
          obtain ⟨a', d'⟩ := i3 a
          exact ⟨a', d'.trans d⟩⟩
      · simp at h; obtain ⟨rfl, -, rfl⟩ := h
        exact ⟨Nat.le_refl _, id, hst⟩

/-- a state differing from `s` only in position (moved forward to a boundary). -/
theorem RelX.of_pos (s : PState) (pos' : Nat) (hle : s.pos ≤ pos')
    (hb : isBoundary s.input s.pos = true → isBoundary s.input pos' = true) :
    RelX s { s with pos := pos' } :=
  Rel.of_len ⟨rfl, rfl, rfl, rfl, hle, QLe.refl _, fun _ => rfl, hb, fun h => ⟨h, rfl⟩⟩ rfl

theorem RelX.of_stack (s : PState) (st : Stk Str)
    (hst : StkInv s.stack → StkInv st ∧ (abs st).saved = (abs s.stack).saved) :
    RelX s { s with stack := st } :=
  Rel.of_len ⟨rfl, rfl, rfl, rfl, Nat.le_refl _, QLe.refl _, fun _ => rfl, id, hst⟩ rfl

section cases
variable (cfg : Cfg) (fuel : Nat)

/-- Inversion of the `match` in which the one-step equations of `run` end, for an outcome `r` that
carries a state (`h` may be `rfl`, or `r` an explicit `.ok s'` / `.err s'`). -/
theorem match_inv {o r : Out} {fOk fErr : PState → Out} {s' : PState}
    (h : (match o with | .ok ns => fOk ns | .err ns => fErr ns | o => o) = r) (hr : r.state? = some s') :
    (∃ ns, o = .ok ns ∧ fOk ns = r) ∨ (∃ ns, o = .err ns ∧ fErr ns = r) := by
  cases o with
  | ok ns => exact .inl ⟨ns, rfl, h⟩
  | err ns => exact .inr ⟨ns, rfl, h⟩
  | panic => subst h; cases hr
  | fuel => subst h; cases hr

theorem state?_match {o : Out} {fOk fErr : PState → Out} {s' : PState}
    (h : (match o with | .ok ns => fOk ns | .err ns => fErr ns | o => o).state? = some s') :
    (∃ ns, o = .ok ns ∧ (fOk ns).state? = some s') ∨
      (∃ ns, o = .err ns ∧ (fErr ns).state? = some s') := by
  rcases match_inv rfl h with ⟨ns, hb, e⟩ | ⟨ns, hb, e⟩
  · exact .inl ⟨ns, hb, e ▸ h⟩
  · exact .inr ⟨ns, hb, e ▸ h⟩

theorem wrap_inv {p : Prog} {pre : PState → PState} {fOk fErr : PState → PState → Out} {s s' : PState}
    {r : Out}
    (h : (match incCall s with
      | none => Out.err s
      | some s1 => match run cfg fuel p (pre s1) with
        | .ok ns => fOk s1 ns | .err ns => fErr s1 ns | o => o) = r) (hr : r.state? = some s') :
    (incCall s = none ∧ r = .err s) ∨ ∃ s1 ns, incCall s = some s1 ∧
      ((run cfg fuel p (pre s1) = .ok ns ∧ fOk s1 ns = r) ∨
        (run cfg fuel p (pre s1) = .err ns ∧ fErr s1 ns = r)) := by
  cases hic : incCall s with
  | none => rw [hic] at h; exact .inl ⟨rfl, h.symm⟩
  | some s1 =>
    rw [hic] at h
    rcases match_inv h hr with ⟨ns, hb, h⟩ | ⟨ns, hb, h⟩
    · exact .inr ⟨s1, ns, rfl, .inl ⟨hb, h⟩⟩
    · exact .inr ⟨s1, ns, rfl, .inr ⟨hb, h⟩⟩

theorem wrap_state? {p : Prog} {pre : PState → PState} {fOk fErr : PState → PState → Out} {s s' : PState}
    (h : (match incCall s with
      | none => Out.err s
      | some s1 => match run cfg fuel p (pre s1) with
        | .ok ns => fOk s1 ns | .err ns => fErr s1 ns | o => o).state? = some s') :
    (incCall s = none ∧ s' = s) ∨ ∃ s1 ns, incCall s = some s1 ∧
      ((run cfg fuel p (pre s1) = .ok ns ∧ (fOk s1 ns).state? = some s') ∨
        (run cfg fuel p (pre s1) = .err ns ∧ (fErr s1 ns).state? = some s')) := by
  rcases wrap_inv cfg fuel rfl h with ⟨a, e⟩ | ⟨s1, ns, hic, ⟨hb, e⟩ | ⟨hb, e⟩⟩
  · rw [e] at h; cases h; exact .inl ⟨a, rfl⟩
  · exact .inr ⟨s1, ns, hic, .inl ⟨hb, e ▸ h⟩⟩
  · exact .inr ⟨s1, ns, hic, .inr ⟨hb, e ▸ h⟩⟩

/-- The shape shared by `sequence`, `optional`, `atomic` and `rule`: count the call,
run the body from `pre s1`, hand a completed body to `fOk` / `fErr`. What is left to show for each of
them is that the post-processing brings a state related to `pre s1` back into relation with `s1`. -/
theorem wrap_rel (ih : IH cfg fuel) {p : Prog} {pre : PState → PState} {fOk fErr : PState → PState → Out}
    {s s' : PState}
    (hOk : ∀ s1 ns, RelX (pre s1) ns → (fOk s1 ns).state? = some s' → RelX s1 s')
    (hErr : ∀ s1 ns, RelX (pre s1) ns → (fErr s1 ns).state? = some s' → RelX s1 s')
    (h : (match incCall s with
      | none => Out.err s
      | some s1 => match run cfg fuel p (pre s1) with
        | .ok ns => fOk s1 ns | .err ns => fErr s1 ns | o => o).state? = some s') : RelX s s' := by
  rcases wrap_state? cfg fuel h with ⟨-, rfl⟩ | ⟨s1, ns, hic, ⟨hb, h⟩ | ⟨hb, h⟩⟩
  · exact RelX.refl _
  · exact (incCall_relx hic).trans (hOk s1 ns (ih.ok hb) h)
  · exact (incCall_relx hic).trans (hErr s1 ns (ih.err hb) h)

/-- A body run from `checkpoint s1` whose snapshot is then cleared. -/
theorem checkpointOk_rel {s1 ns s' : PState} (rb : RelX (checkpoint s1) ns)
    (h : (match checkpointOk ns with | some ns => Out.ok ns | none => .panic).state? = some s') :
    RelX s1 s' := by
  split at h
  · rename_i ns' hck
    cases h
    obtain ⟨st, hcl, rfl⟩ := checkpointOk_some hck
    exact { rb with stk := fun h0 => by obtain ⟨a, b, -⟩ := bracket_ok h0 rb.stk hcl; exact ⟨a, b⟩ }
  · cases h

theorem laPost_rel {positive : Bool} {s1 ns ns' : PState}
    (rb : Rel (checkpoint { s1 with lookahead := laMode positive s1.lookahead }) ns)
    (hla : laPost s1 ns = some ns') :
    Rel s1 ns' ∧ ns'.pos = s1.pos ∧ ns'.queue = s1.queue ∧
      (StkInv s1.stack → ns'.stack.cache = s1.stack.cache) := by
  obtain ⟨st, hre, rfl⟩ := restoreStack_some hla
  have hq : ns.queue = s1.queue := rb.qla (laMode_ne_none _ _)
  exact ⟨⟨rb.input, rfl, rb.atom, rb.en, Nat.le_refl _, QLe.of_eq hq, fun _ => hq, id,
    fun h0 => by obtain ⟨a, b, -⟩ := bracket_restore h0 rb.stk hre; exact ⟨a, b⟩⟩, rfl, hq,
    fun h0 => (bracket_restore h0 rb.stk hre).2.2⟩

/-- Whichever way the body and the look-ahead go, the state afterwards is what `laPost` returns. -/
theorem lookahead_inv {positive : Bool} {p : Prog} {s s' : PState}
    (h : (run cfg (fuel+1) (.lookahead positive p) s).state? = some s') :
    s' = s ∨ ∃ s1 ns, incCall s = some s1 ∧ laPost s1 ns = some s' ∧
      (run cfg fuel p (checkpoint { s1 with lookahead := laMode positive s1.lookahead })).state? = some ns := by
  rw [run_lookahead] at h
  cases hic : incCall s with
  | none => rw [hic] at h; cases h; exact .inl rfl
  | some s1 =>
    rw [hic] at h
    rcases state?_match h with ⟨ns, hb, h⟩ | ⟨ns, hb, h⟩ <;>
    · refine .inr ⟨s1, ns, rfl, ?_, by rw [hb]; rfl⟩
      split at h
      · rename_i ns' hla
        split at h <;> cases h <;> exact hla
      · cases h

theorem atomPost_rel {a : Atomicity} {s1 ns : PState} (rb : RelX (atomPre a s1) ns) :
    RelX s1 (atomPost a s1 ns) := by
  unfold atomPre at rb
  unfold atomPost
  by_cases ht : s1.atomicity ≠ a
  · rw [if_pos ht] at rb; rw [if_pos ht]
    exact { rb with atom := rfl }
  · rw [if_neg ht] at rb; rw [if_neg ht]; exact rb

theorem pushSpan_rel {s1 ns s' : PState} (h : (pushSpan s1 ns).state? = some s') : RelX ns s' := by
  unfold pushSpan at h
  split at h
  · cases h
    exact RelX.of_stack ns _ (push_spec ns.stack _)
  · cases h

end cases
end PestModel.PS
