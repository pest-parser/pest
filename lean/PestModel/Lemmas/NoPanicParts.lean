import PestModel.Thm.C06
import PestModel.Lemmas.OptTotal
import PestModel.Lemmas.ReaderIdents
import PestModel.Lemmas.RefClosed
/-! C01 / C09: the "no `stuck` outcome" condition from what the pipeline establishes (names, stack-freedom, counts). -/
namespace PestModel.Ref
open PestModel.G
open PestModel.ReaderValue (idents)

theorem ns_of_parts (c : Ctx) : ∀ (e : Expr), PestModel.C06.StackFree e = true → PestModel.OptTotal.posCounts e = true →
    (∀ n ∈ idents e, nameOK c n = true) → NS c e = true
  | .ident n, _, _, h => by simp only [NS]; exact h n (by simp [idents])
  | .push _, h, _, _ => by simp [PestModel.C06.StackFree] at h
  | .peekSlice _ _, h, _, _ => by simp [PestModel.C06.StackFree] at h
  | .pushLiteral _, h, _, _ => by simp [PestModel.C06.StackFree] at h
  | .posPred e, h, hp, hi | .negPred e, h, hp, hi | .opt e, h, hp, hi | .rep e, h, hp, hi | .repOnce e, h, hp, hi
  | .nodeTag e _, h, hp, hi | .repMin e _, h, hp, hi => by
    simp only [PestModel.C06.StackFree] at h; simp only [PestModel.OptTotal.posCounts] at hp; simp only [idents] at hi
    simp only [NS]; exact ns_of_parts c e h hp hi
  | .repExact e n, h, hp, hi | .repMax e n, h, hp, hi | .repMinMax e _ n, h, hp, hi => by
    simp only [PestModel.C06.StackFree] at h
    simp only [PestModel.OptTotal.posCounts, Bool.and_eq_true, decide_eq_true_eq] at hp; simp only [idents] at hi
    simp only [NS, Bool.and_eq_true, decide_eq_true_eq]; exact ⟨ns_of_parts c e h hp.2 hi, by omega⟩
  | .seq a b, h, hp, hi | .choice a b, h, hp, hi => by
    simp only [PestModel.C06.StackFree, Bool.and_eq_true] at h
    simp only [PestModel.OptTotal.posCounts, Bool.and_eq_true] at hp
    simp only [idents, List.mem_append] at hi
    simp only [NS, Bool.and_eq_true]
    exact ⟨ns_of_parts c a h.1 hp.1 (fun n hn => hi n (.inl hn)), ns_of_parts c b h.2 hp.2 (fun n hn => hi n (.inr hn))⟩
  | .str _, _, _, _ | .insens _, _, _, _ | .range _ _, _, _, _ | .skip _, _, _, _ => rfl
end PestModel.Ref

namespace PestModel.E2E
open PestModel.G PestModel.Ref
open PestModel.ReaderValue (idents)

theorem stackFree_idents : ∀ (e : Expr), PestModel.C06.StackFree e = true → ∀ n ∈ idents e, PestModel.C06.stackBuiltins.contains n = false
  | .ident m, h, n, hn => by
    simp only [idents, List.mem_singleton] at hn; subst hn
    simpa [PestModel.C06.StackFree] using h
  | .push _, h, _, _ => by simp [PestModel.C06.StackFree] at h
  | .peekSlice _ _, _, _, hn => by simp [idents] at hn
  | .pushLiteral _, _, _, hn => by simp [idents] at hn
  | .posPred e, h, n, hn | .negPred e, h, n, hn | .opt e, h, n, hn | .rep e, h, n, hn | .repOnce e, h, n, hn
  | .nodeTag e _, h, n, hn | .repMin e _, h, n, hn | .repExact e _, h, n, hn | .repMax e _, h, n, hn
  | .repMinMax e _ _, h, n, hn => by
    simp only [PestModel.C06.StackFree] at h; simp only [idents] at hn; exact stackFree_idents e h n hn
  | .seq a b, h, n, hn | .choice a b, h, n, hn => by
    simp only [PestModel.C06.StackFree, Bool.and_eq_true] at h
    simp only [idents, List.mem_append] at hn
    rcases hn with hn | hn
    · exact stackFree_idents a h.1 n hn
    · exact stackFree_idents b h.2 n hn
  | .str _, _, _, hn | .insens _, _, _, hn | .range _ _, _, _, hn | .skip _, _, _, hn => by simp [idents] at hn

/-- the validator's explicit built-ins other than the stack operations cannot get stuck. -/
theorem explicit_plain : ∀ n ∈ PestModel.Gen.Unicode.builtinsExplicit, PestModel.C06.stackBuiltins.contains n = false →
    plainBuiltins.contains n = true := by decide

end PestModel.E2E
