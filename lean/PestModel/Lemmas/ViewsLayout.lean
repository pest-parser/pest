import PestModel.Model.ViewsSpec
/-! Helper lemmas for C04: the structural layout of an encoded forest in the token queue. -/
namespace PestModel.Views
open PestModel.PS (QTok)
open PestModel.LineCol (Str slice? isBoundary)

/-- `Layout q a trees b`: the window `[a, b)` of `q` is laid out as the encoding of `trees`. -/
inductive Layout (q : List QTok) : Nat → List Tree → Nat → Prop
  | nil (a : Nat) : Layout q a [] a
  | cons {a e b r p0 p1 : Nat} {tag : Option Str} {kids rest : List Tree} :
      q[a]? = some (.start e p0) → q[e]? = some (.end_ a r tag p1) →
      Layout q (a + 1) kids e → Layout q (e + 1) rest b →
      Layout q a (.node r p0 p1 tag kids :: rest) b

@[simp] theorem Tree.size_node (r a b : Nat) (t : Option Str) (cs : List Tree) :
    (Tree.node r a b t cs).size = 2 + sizeList cs := by simp [Tree.size]
@[simp] theorem sizeList_nil : sizeList [] = 0 := by simp [sizeList]
@[simp] theorem sizeList_cons (t : Tree) (ts : List Tree) : sizeList (t :: ts) = t.size + sizeList ts := by
  simp [sizeList]

theorem Tree.size_ge (t : Tree) : 2 ≤ t.size := by
  cases t; simp

theorem length_le_sizeList (ts : List Tree) : ts.length ≤ sizeList ts := by
  induction ts with
  | nil => simp
  | cons t ts ih => have := t.size_ge; simp; omega

@[simp] theorem sizeList_append (xs ys : List Tree) : sizeList (xs ++ ys) = sizeList xs + sizeList ys := by
  induction xs with
  | nil => simp
  | cons t ts ih => simp [ih]; omega

namespace Layout
variable {q : List QTok}

theorem size {a b : Nat} {ts : List Tree} (h : Layout q a ts b) : b = a + sizeList ts := by
  induction h with
  | nil => simp
  | cons h1 h2 hk hr ihk ihr => simp; omega

theorem le {a b : Nat} {ts : List Tree} (h : Layout q a ts b) : a ≤ b := by
  have := h.size; omega

theorem nil_eq {a b : Nat} (h : Layout q a [] b) : a = b := by
  have := h.size; simp at this; omega

theorem lt_of_ne_nil {a b : Nat} {ts : List Tree} (h : Layout q a ts b) (hne : ts ≠ []) : a < b := by
  cases ts with
  | nil => exact absurd rfl hne
  | cons t ts => have h1 := h.size; have := t.size_ge; simp at h1; omega

theorem eq_nil_of_not_lt {a b : Nat} {ts : List Tree} (h : Layout q a ts b) (hlt : ¬ a < b) : ts = [] := by
  cases ts with
  | nil => rfl
  | cons t ts => exact absurd (h.lt_of_ne_nil (by simp)) hlt

theorem cons_inv {a b : Nat} {t : Tree} {ts : List Tree} (h : Layout q a (t :: ts) b) :
    ∃ e, q[a]? = some (.start e t.start) ∧ q[e]? = some (.end_ a t.rule t.tag t.stop) ∧
      Layout q (a + 1) t.children e ∧ Layout q (e + 1) ts b ∧ e + 1 = a + t.size ∧ a < e ∧ e < b := by
  cases h with
  | cons h1 h2 hk hr =>
    rename_i e r p0 p1 tag kids
    refine ⟨e, h1, h2, hk, hr, ?_, ?_, ?_⟩
    · have := hk.size; simp; omega
    · have := hk.le; omega
    · have := hr.le; omega

theorem stop_le_length {a b : Nat} {ts : List Tree} (h : Layout q a ts b) (hne : ts ≠ []) :
    b ≤ q.length := by
  induction h with
  | nil => exact absurd rfl hne
  | cons h1 h2 hk hr ihk ihr =>
    rename_i a e b r p0 p1 tag kids rest
    cases rest with
    | nil =>
      have := hr.nil_eq
      have : e < q.length := by
        rcases Nat.lt_or_ge e q.length with h | h
        · exact h
        · rw [List.getElem?_eq_none h] at h2; cases h2
      omega
    | cons t ts => exact ihr (by simp)

theorem size_le_length {a b : Nat} {ts : List Tree} (h : Layout q a ts b) : b - a ≤ q.length := by
  cases ts with
  | nil => have := h.nil_eq; omega
  | cons t ts => have := h.stop_le_length (by simp); omega

theorem congr {q' : List QTok} {a b : Nat} {ts : List Tree} (h : Layout q a ts b)
    (hq : ∀ i, a ≤ i → i < b → q'[i]? = q[i]?) : Layout q' a ts b := by
  induction h with
  | nil => exact .nil _
  | cons h1 h2 hk hr ihk ihr =>
    rename_i a e b r p0 p1 tag kids rest
    have := hk.le; have := hr.le
    refine .cons ?_ ?_ (ihk fun i h1 h2 => hq i (by omega) (by omega))
      (ihr fun i h1 h2 => hq i (by omega) (by omega))
    · rw [hq a (by omega) (by omega)]; exact h1
    · rw [hq e (by omega) (by omega)]; exact h2

theorem append {a m b : Nat} {ts ts' : List Tree} (h : Layout q a ts m) (h' : Layout q m ts' b) :
    Layout q a (ts ++ ts') b := by
  induction h with
  | nil => exact h'
  | cons h1 h2 hk hr ihk ihr => exact .cons h1 h2 hk (ihr h')

theorem split {ts ts' : List Tree} : ∀ {a b : Nat}, Layout q a (ts ++ ts') b →
    ∃ m, Layout q a ts m ∧ Layout q m ts' b := by
  induction ts with
  | nil => intro a b h; exact ⟨a, .nil a, h⟩
  | cons t ts ih =>
    intro a b h
    cases h with
    | cons h1 h2 hk hr =>
      obtain ⟨m, hm1, hm2⟩ := ih hr
      exact ⟨m, .cons h1 h2 hk hm1, hm2⟩

theorem single_inv {a b : Nat} {t : Tree} (h : Layout q a [t] b) :
    q[a]? = some (.start (b - 1) t.start) ∧ q[b - 1]? = some (.end_ a t.rule t.tag t.stop) ∧
      Layout q (a + 1) t.children (b - 1) ∧ a < b - 1 ∧ b = a + t.size := by
  obtain ⟨e, h1, h2, hk, hr, hs, hlt, _⟩ := h.cons_inv
  have := hr.nil_eq
  have he : e = b - 1 := by omega
  subst he
  exact ⟨h1, h2, hk, hlt, by omega⟩

end Layout

theorem layout_of_forestOf {q : List QTok} (fuel a b : Nat) (ts : List Tree)
    (h : forestOf q fuel a b = some ts) : Layout q a ts b := by
  -- every branch of `forestOf` returns `none`, `some []` or the node it has just read
  fun_induction forestOf q fuel a b generalizing ts <;> cases h
  · exact .nil _
  · exact .nil _
  · rename_i hqa _ si _ _ _ hqe hsi _ _ hr hk ihk ihr
    obtain rfl : si = _ := Decidable.not_not.1 hsi
    exact .cons hqa hqe (ihk _ hk) (ihr _ hr)

theorem forestOf_of_layout {q : List QTok} {a b : Nat} {ts : List Tree} (h : Layout q a ts b) :
    ∀ fuel, b - a ≤ fuel → forestOf q fuel a b = some ts := by
  induction h with
  | nil a => intro fuel _; cases fuel <;> simp [forestOf]
  | cons h1 h2 hk hr ihk ihr =>
    rename_i a e b r p0 p1 tag kids rest
    intro fuel hf
    have := hk.le; have := hr.le
    cases fuel with
    | zero => omega
    | succ fuel =>
      rw [forestOf]
      have h1' : ¬ a ≥ b := by omega
      have h2' : ¬ (e ≤ a ∨ e ≥ b) := by omega
      simp only [h1', h2', if_false, h1, h2]
      simp [ihk fuel (by omega), ihr fuel (by omega)]

theorem encodes_iff {q : List QTok} {a b : Nat} {ts : List Tree} :
    Encodes q a b ts ↔ Layout q a ts b :=
  ⟨layout_of_forestOf _ _ _ _, fun h => forestOf_of_layout h _ h.size_le_length⟩

theorem nestedTree_node {input : Str} {lo hi r a b : Nat} {tag : Option Str} {ks : List Tree} :
    nestedTree input lo hi (.node r a b tag ks) = true ↔
      lo ≤ a ∧ a ≤ b ∧ b ≤ hi ∧ isBoundary input a = true ∧ isBoundary input b = true ∧
        nestedForest input a b ks = true := by
  simp [nestedTree, and_assoc]

theorem nestedForest_cons {input : Str} {lo hi : Nat} {t : Tree} {ts : List Tree} :
    nestedForest input lo hi (t :: ts) = true ↔
      nestedTree input lo hi t = true ∧ nestedForest input t.stop hi ts = true := by
  simp [nestedForest]

end PestModel.Views
