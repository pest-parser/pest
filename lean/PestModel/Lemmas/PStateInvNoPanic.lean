import PestModel.Lemmas.PStateInvRule
/-! No panic on well-formed states (error detail off, no `stack_peek`/`stack_pop`). -/
namespace PestModel.PS
open PestModel.LineCol PestModel.Stack

def Good (cfg : Cfg) (p : Prog) : Prop :=
  p.callsBelow cfg.env.length = true ∧ p.noPeekPop = true

def StOK (s : PState) : Prop := s.WF ∧ s.pa.enabled = false

theorem Rel.stok {s s' : PState} (r : Rel s s') (h : StOK s) : StOK s' :=
  ⟨r.wf h.1, r.en.trans h.2⟩

theorem checkpoint_stok {s : PState} (h : StOK s) : StOK (checkpoint s) :=
  ⟨⟨h.1.1, (snapshot_spec s.stack h.1.2).1⟩, h.2⟩

theorem terminal_no_panic (s : PState) (r : Option (Bool × Nat)) (tok : Option PTok)
    (h : ∃ x, r = some x) : terminal s r tok ≠ .panic := by
  obtain ⟨⟨b, pos'⟩, rfl⟩ := h
  obtain ⟨pa', e, -⟩ := terminal_some s b pos' tok
  rw [e]
  cases b <;> nofun

theorem matchPopLoop_isSome (input : Str) (n : Nat) (st : Stk Str) (pos : Nat)
    (hb : isBoundary input pos = true) : ∃ r, matchPopLoop input n st pos = some r := by
  induction n generalizing st pos with
  | zero => exact ⟨_, rfl⟩
  | succ n ih =>
    unfold matchPopLoop
    obtain ⟨st', v, hp⟩ := pop_total st
    rw [hp]
    cases v with
    | none => exact ⟨_, rfl⟩
    | some x =>
      simp only []
      obtain ⟨⟨b, p1⟩, hm⟩ := (posMatchString_prim input pos x).isSome hb
      rw [hm]
      cases b with
      | true => exact ih st' p1 (posMatchString_good input pos x _ _ hm).2
      | false => exact ⟨_, rfl⟩

abbrev NPIH (cfg : Cfg) (fuel : Nat) : Prop :=
  ∀ p s, Good cfg p → StOK s → run cfg fuel p s ≠ .panic

section cases
variable (cfg : Cfg) (fuel : Nat)

theorem np_leaf_terminal (s : PState) (hs : StOK s) (str : Str) :
    terminal s (posMatchString s.input s.pos str) (some (.sens str)) ≠ .panic :=
  terminal_no_panic _ _ _ ((posMatchString_prim _ _ str).isSome hs.1.1)

theorem np_ruleOkPost {s1 ns : PState} {r : Nat} (rb : Rel (rulePre s1) ns)
    (hen : ns.pa.enabled = false) : ruleOkPost s1 r ns ≠ .panic := by
  unfold ruleOkPost
  obtain ⟨a, b, c, q', he, -⟩ := ruleEmit_spec (r := r) rb
  rw [he]
  simp only []
  rw [ruleFinish_no_panic (by exact hen)]
  nofun

theorem np_ruleErrPost {s1 ns : PState} {r : Nat} (hen : ns.pa.enabled = false) :
    ruleErrPost s1 r ns ≠ .panic := by
  unfold ruleErrPost
  obtain ⟨ns', h⟩ := ruleErrAdd_no_panic (s1 := s1) (r := r) hen
  rw [h]; simp

theorem np_pushSpan {s1 ns : PState} (rb : Rel s1 ns) (h1 : s1.WF) : pushSpan s1 ns ≠ .panic := by
  unfold pushSpan
  have hw := rb.wf h1
  have : spanNew ns.input s1.pos ns.pos = true := by
    rw [spanNew_iff]
    refine ⟨rb.pos, ?_, hw.1⟩
    rw [rb.input]; exact h1.1
  unfold spanNew at this
  obtain ⟨str, hs⟩ := Option.isSome_iff_exists.mp this
  rw [hs]; simp

theorem Good.of_and {p q : Prog}
    (h1 : (p.callsBelow cfg.env.length && q.callsBelow cfg.env.length) = true)
    (h2 : (p.noPeekPop && q.noPeekPop) = true) : Good cfg p ∧ Good cfg q := by
  rw [Bool.and_eq_true] at h1 h2
  exact ⟨⟨h1.1, h2.1⟩, h1.2, h2.2⟩

variable (henv : ∀ q ∈ cfg.env, Good cfg q) (ih : NPIH cfg fuel)
include ih

/-- The companion of `wrap_rel`: the body does not panic by induction, and ends in a good state. What
is left for each combinator is that its post-processing of such a state does not panic. -/
theorem wrap_np {p : Prog} {pre : PState → PState} {fOk fErr : PState → PState → Out} {s : PState}
    (hp : Good cfg p) (hs : StOK s) (hpre : ∀ s1, StOK s1 → StOK (pre s1))
    (hOk : ∀ s1 ns, StOK s1 → Rel (pre s1) ns → StOK ns → fOk s1 ns ≠ .panic)
    (hErr : ∀ s1 ns, StOK s1 → Rel (pre s1) ns → StOK ns → fErr s1 ns ≠ .panic) :
    (match incCall s with
      | none => Out.err s
      | some s1 => match run cfg fuel p (pre s1) with
        | .ok ns => fOk s1 ns | .err ns => fErr s1 ns | o => o) ≠ .panic := by
  cases hic : incCall s with
  | none => nofun
  | some s1 =>
    have hs1 := (incCall_rel hic).stok hs
    have hc := hpre s1 hs1
    simp only []
    cases hb : run cfg fuel p (pre s1) with
    | ok ns => exact hOk s1 ns hs1 (run_ok_rel hb) ((run_ok_rel hb).stok hc)
    | err ns => exact hErr s1 ns hs1 (run_err_rel hb) ((run_err_rel hb).stok hc)
    | panic => exact absurd hb (ih _ _ hp hc)
    | fuel => nofun

include henv

theorem np_step (p : Prog) (s : PState) (hg : Good cfg p) (hs : StOK s) :
    run cfg (fuel+1) p s ≠ .panic := by
  cases p with
  | ok => rw [run]; simp
  | fail => rw [run]; simp
  | call i =>
    rw [run_call]
    have hi : i < cfg.env.length := of_decide_eq_true hg.1
    rw [List.getElem?_eq_getElem hi]
    exact ih _ _ (henv _ (List.getElem_mem hi)) hs
  | andThen p q =>
    rw [run_andThen]
    cases hb : run cfg fuel p s with
    | ok s1 => exact ih _ _ (Good.of_and cfg hg.1 hg.2).2 ((run_ok_rel hb).stok hs)
    | err s1 => nofun
    | panic => exact absurd hb (ih _ _ (Good.of_and cfg hg.1 hg.2).1 hs)
    | fuel => nofun
  | orElse p q =>
    rw [run_orElse]
    cases hb : run cfg fuel p s with
    | ok s1 => nofun
    | err s1 => exact ih _ _ (Good.of_and cfg hg.1 hg.2).2 ((run_err_rel hb).stok hs)
    | panic => exact absurd hb (ih _ _ (Good.of_and cfg hg.1 hg.2).1 hs)
    | fuel => nofun
  | sequence p =>
    rw [run_sequence]
    refine wrap_np cfg fuel ih (p := p) hg hs (fun _ => checkpoint_stok) (fun s1 ns _ _ hns => ?_)
      (fun s1 ns _ _ hns => ?_)
    · obtain ⟨ns', h⟩ := checkpointOk_isSome hns.1.2
      rw [h]; nofun
    · obtain ⟨ns', h⟩ := restoreStack_isSome (ns := seqErrState s1 ns) hns.1.2
      rw [h]; nofun
  | restoreOnErr p =>
    rw [run_restoreOnErr]
    have hc := checkpoint_stok hs
    cases hb : run cfg fuel p (checkpoint s) with
    | ok ns =>
      obtain ⟨ns', h⟩ := checkpointOk_isSome ((run_ok_rel hb).stok hc).1.2
      simp [h]
    | err ns =>
      obtain ⟨ns', h⟩ := restoreStack_isSome ((run_err_rel hb).stok hc).1.2
      simp [h]
    | panic => exact absurd hb (ih p _ hg hc)
    | fuel => nofun
  | optional p =>
    rw [run_optional]
    exact wrap_np cfg fuel ih (p := p) hg hs (fun _ h => h) (fun _ _ _ _ _ => nofun) (fun _ _ _ _ _ => nofun)
  | repeat_ p =>
    rw [run_repeat]
    cases hic : incCall s with
    | none => nofun
    | some s1 => exact ih (.repLoop p) _ hg ((incCall_rel hic).stok hs)
  | repLoop p =>
    rw [run_repLoop]
    cases hb : run cfg fuel p s with
    | ok s1 => exact ih _ _ hg ((run_ok_rel hb).stok hs)
    | err s1 => nofun
    | panic => exact absurd hb (ih p _ hg hs)
    | fuel => nofun
  | lookahead positive p =>
    rw [run_lookahead]
    refine wrap_np cfg fuel ih (p := p) hg hs (fun s1 hs1 => checkpoint_stok (s := { s1 with lookahead := _ }) hs1)
      (fun s1 ns _ _ hns => ?_) (fun s1 ns _ _ hns => ?_) <;>
    · obtain ⟨ns', h⟩ := restoreStack_isSome
        (ns := { ns with pos := s1.pos, lookahead := s1.lookahead }) hns.1.2
      simp only [laPost, h]
      split <;> nofun
  | atomic a p =>
    rw [run_atomic]
    refine wrap_np cfg fuel ih (p := p) hg hs (fun s1 hs1 => ?_) (fun _ _ _ _ _ => nofun)
      (fun _ _ _ _ _ => nofun)
    unfold atomPre; split <;> exact hs1
  | rule r p =>
    rw [run_rule]
    exact wrap_np cfg fuel ih (p := p) hg hs (fun s1 => (rulePre_rel s1).stok)
      (fun _ _ _ rb hns => np_ruleOkPost rb hns.2) (fun _ _ _ _ hns => np_ruleErrPost hns.2)
  | stackPush p =>
    rw [run_stackPush]
    cases hic : incCall s with
    | none => nofun
    | some s1 =>
      have hs1 := (incCall_rel hic).stok hs
      simp only []
      cases hb : run cfg fuel p s1 with
      | ok ns => exact np_pushSpan (run_ok_rel hb) hs1.1
      | err ns => nofun
      | panic => exact absurd hb (ih p _ hg hs1)
      | fuel => nofun
  | matchString str => rw [run]; exact np_leaf_terminal s hs str
  | matchInsensitive str =>
    rw [run]; exact terminal_no_panic _ _ _ ((posMatchInsensitive_prim _ _ str).isSome hs.1.1)
  | matchRange a b => rw [run]; exact terminal_no_panic _ _ _ ((posMatchRange_prim _ _ a b).isSome hs.1.1)
  | matchCharBy cs => rw [run]; exact terminal_no_panic _ _ _ ((posMatchCharBy_prim _ _ cs).isSome hs.1.1)
  | skip n => rw [run]; exact terminal_no_panic _ _ _ ((posSkip_prim _ _ n).isSome hs.1.1)
  | skipUntil strs =>
    rw [run]
    obtain ⟨r, h⟩ := posSkipUntil_isSome cfg.memchr strs hs.1.1
    rw [h]; simp
  | startOfInput => rw [run]; split <;> simp
  | endOfInput => rw [run]; split <;> simp
  | stackPeek => cases hg.2
  | stackPop => cases hg.2
  | stackMatchPeek =>
    rw [run]
    split
    · simp
    · obtain ⟨⟨b, p1⟩, h⟩ := matchAll_isSome s.input s.stack.cache s.pos hs.1.1
      rw [h]
      cases b <;> simp
  | stackMatchPop =>
    rw [run]
    obtain ⟨⟨st, b, p1⟩, h⟩ := matchPopLoop_isSome s.input (s.stack.cache.length + 1) s.stack s.pos hs.1.1
    rw [h]
    cases b <;> simp
  | stackDrop =>
    rw [run]
    obtain ⟨st', v, hp⟩ := pop_total s.stack
    rw [hp]
    cases v <;> simp
  | stackMatchPeekSlice start stop dir =>
    rw [run]
    split
    · simp
    · split
      · simp
      · simp only []
        split
        · rename_i hm
          obtain ⟨r, h⟩ := matchAll_isSome s.input _ s.pos hs.1.1
          rw [h] at hm; cases hm
        · simp
        · simp
  | stackPushLiteral str => rw [run]; simp
  | tagNode tag =>
    rw [run]
    split
    · simp
    · split <;> simp

end cases

theorem run_np (cfg : Cfg) (henv : ∀ q ∈ cfg.env, Good cfg q) :
    ∀ fuel p s, Good cfg p → StOK s → run cfg fuel p s ≠ .panic
  | 0, p, s, _, _ => by rw [run_zero]; simp
  | fuel + 1, p, s, hg, hs => np_step cfg fuel henv (run_np cfg henv fuel) p s hg hs

end PestModel.PS
