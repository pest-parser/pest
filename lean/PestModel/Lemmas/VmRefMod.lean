import PestModel.Lemmas.VmRefDefs
/-! C01: soundness of the restorer's analysis `modifies` (a memoised, fuel-bounded depth-first
search): if it answers `false`, no state-modifying item is reachable (`Mod`). -/
namespace PestModel.VmRef
open PestModel.G

theorem Cache.get_cons (c : Cache) (p : String × Option Bool) (m : String) :
    Cache.get (p :: c) m = if p.1 = m then some p.2 else Cache.get c m := by
  unfold Cache.get
  by_cases h : p.1 = m <;> simp [h]

theorem Cache.get_filter_ne (c : Cache) (n m : String) (h : m ≠ n) :
    Cache.get (c.filter (·.1 ≠ n)) m = Cache.get c m := by
  induction c with
  | nil => rfl
  | cons p c ih =>
    rw [List.filter_cons]
    by_cases hp : p.1 = n
    · have hpm : ¬ p.1 = m := fun e => h (e ▸ hp)
      have hd : decide (p.1 ≠ n) = false := by simp [hp]
      rw [hd, Cache.get_cons, if_neg hpm]
      simpa using ih
    · have hd : decide (p.1 ≠ n) = true := by simp [hp]
      rw [hd, if_pos rfl, Cache.get_cons, Cache.get_cons, ih]

theorem Cache.get_set (c : Cache) (n m : String) (v : Option Bool) :
    (c.set n v).get m = if m = n then some v else c.get m := by
  unfold Cache.set
  rw [Cache.get_cons]
  by_cases h : m = n
  · simp [h]
  · have h' : ¬ n = m := fun e => h e.symm
    simp only [h, h', if_false]
    exact Cache.get_filter_ne c n m h

theorem Cache.get_nil (m : String) : Cache.get [] m = none := rfl

/-- names whose memo entry is "in progress" or "does not modify". -/
def InF (c : Cache) (n : String) : Prop := c.get n = some none ∨ c.get n = some (some false)

/-- an item of `iter_top_down` that is not itself modifying and, if a reference, refers to a name
in `InF` (or to no rule at all). -/
def GoodItem (rules : List ORule) (c : Cache) (x : OExpr) : Prop :=
  isModItem x = false ∧ ∀ m, x = .ident m → (InF c m ∨ lookupO rules m = none)

/-- every name of `InF` that is not in progress (`P`) has a body all of whose items are good. -/
def Inv (extras : Bool) (rules : List ORule) (c : Cache) (P : String → Prop) : Prop :=
  ∀ n, InF c n → ¬ P n → ∀ body, lookupO rules n = some body →
    ∀ x ∈ body.topDown extras, GoodItem rules c x

/-- the cache only grows: `InF` and the domain. -/
def Sub (c c' : Cache) : Prop :=
  (∀ n, InF c n → InF c' n) ∧ (∀ n, c.get n ≠ none → c'.get n ≠ none)

theorem Sub.refl (c : Cache) : Sub c c := ⟨fun _ h => h, fun _ h => h⟩

theorem Sub.trans {a b c : Cache} (h1 : Sub a b) (h2 : Sub b c) : Sub a c :=
  ⟨fun n h => h2.1 n (h1.1 n h), fun n h => h2.2 n (h1.2 n h)⟩

theorem GoodItem.mono {rules : List ORule} {c c' : Cache} {x : OExpr}
    (h : GoodItem rules c x) (hs : ∀ n, InF c n → InF c' n) : GoodItem rules c' x :=
  ⟨h.1, fun m hm => (h.2 m hm).imp (hs m) id⟩

/-! ### the fuel measure -/

/-- total size of the bodies of the rules not yet in the memo table. -/
def Phi (extras : Bool) (c : Cache) (rules : List ORule) : Nat :=
  (rules.map fun r => if (c.get r.name).isSome then 0 else (r.expr.topDown extras).length + 2).sum

theorem Phi_mono (extras : Bool) (c c' : Cache) (h : ∀ n, c.get n ≠ none → c'.get n ≠ none)
    (rules : List ORule) : Phi extras c' rules ≤ Phi extras c rules := by
  induction rules with
  | nil => simp [Phi]
  | cons r rs ih =>
    simp only [Phi, List.map_cons, List.sum_cons] at ih ⊢
    have : (if (c'.get r.name).isSome then 0 else (r.expr.topDown extras).length + 2) ≤
        (if (c.get r.name).isSome then 0 else (r.expr.topDown extras).length + 2) := by
      by_cases hc : (c.get r.name).isSome
      · have : (c'.get r.name).isSome := by
          have := h r.name (by intro e; simp [e] at hc)
          cases h' : c'.get r.name <;> simp_all
        simp [hc, this]
      · simp only [hc]; split <;> simp
    omega

theorem Phi_set (extras : Bool) (c : Cache) (name : String) (v : Option Bool)
    (hc : c.get name = none) (rules : List ORule) (body : OExpr)
    (hl : lookupO rules name = some body) :
    Phi extras (c.set name v) rules + (body.topDown extras).length + 2 ≤ Phi extras c rules := by
  have hdom : ∀ n, c.get n ≠ none → (c.set name v).get n ≠ none := by
    intro n hn; rw [Cache.get_set]; split <;> simp_all
  induction rules with
  | nil => simp [lookupO] at hl
  | cons r rs ih =>
    by_cases hr : r.name = name
    · have hb : body = r.expr := by
        simp [lookupO, hr] at hl; exact hl.symm
      have hm := Phi_mono extras c (c.set name v) hdom rs
      simp only [Phi, List.map_cons, List.sum_cons] at hm ⊢
      have h1 : ((c.set name v).get r.name).isSome = true := by simp [Cache.get_set, hr]
      have h2 : ¬ (c.get r.name).isSome = true := by simp [hr, hc]
      rw [if_pos h1, if_neg h2, hb]
      omega
    · have hl' : lookupO rs name = some body := by
        simpa [lookupO, List.find?_cons, hr] using hl
      have ih := ih hl'
      simp only [Phi, List.map_cons, List.sum_cons] at ih ⊢
      have : (if ((c.set name v).get r.name).isSome then 0 else (r.expr.topDown extras).length + 2) ≤
          (if (c.get r.name).isSome then 0 else (r.expr.topDown extras).length + 2) := by
        rw [Cache.get_set]; simp [hr]
      omega

theorem InF_set_none (c : Cache) (name : String) : InF (c.set name none) name := by
  left; simp [Cache.get_set]

theorem InF_set_false (c : Cache) (name : String) : InF (c.set name (some false)) name := by
  right; simp [Cache.get_set]

theorem InF_set_of_ne (c : Cache) (name n : String) (v : Option Bool) (h : n ≠ name) :
    InF (c.set name v) n ↔ InF c n := by
  simp [InF, Cache.get_set, h]

theorem Sub_set_none (c : Cache) (name : String) (h : c.get name = none) :
    Sub c (c.set name none) := by
  constructor
  · intro n hn
    by_cases e : n = name
    · subst e; exact InF_set_none c n
    · exact (InF_set_of_ne c name n none e).2 hn
  · intro n hn; rw [Cache.get_set]; split <;> simp_all

theorem Sub_set_false (c : Cache) (name : String) (h : InF c name ∨ c.get name = none) :
    Sub c (c.set name (some false)) := by
  constructor
  · intro n hn
    by_cases e : n = name
    · subst e; exact InF_set_false c n
    · exact (InF_set_of_ne c name n _ e).2 hn
  · intro n hn; rw [Cache.get_set]; split <;> simp_all

/-- setting an `InF` name to `some false` does not change `InF`. -/
theorem InF_set_false_iff (c : Cache) (name n : String) (h : InF c name) :
    InF (c.set name (some false)) n ↔ InF c n := by
  by_cases e : n = name
  · subst e; exact ⟨fun _ => h, fun _ => InF_set_false c n⟩
  · exact InF_set_of_ne c name n _ e

theorem any_sound (extras : Bool) (rules : List ORule) :
    ∀ fuel xs c c' (P : String → Prop), xs.length + Phi extras c rules ≤ fuel →
      Inv extras rules c P → anyModifies extras rules fuel xs c = (false, c') →
      Inv extras rules c' P ∧ Sub c c' ∧ ∀ x ∈ xs, GoodItem rules c' x := by
  intro fuel
  induction fuel using Nat.strongRecOn with
  | _ fuel ih =>
    intro xs c c' P hfuel hinv hres
    cases xs with
    | nil =>
      rw [anyModifies.eq_1] at hres
      cases hres
      exact ⟨hinv, Sub.refl c, by simp⟩
    | cons x xs =>
      cases fuel with
      | zero => simp at hfuel
      | succ f =>
        have hlen : xs.length + 1 + Phi extras c rules ≤ f + 1 := by simpa using hfuel
        -- the common tail: after the step for `x` ended in cache `c1`
        have tail : ∀ c1, Inv extras rules c1 P → Sub c c1 → GoodItem rules c1 x →
            anyModifies extras rules f xs c1 = (false, c') →
            Inv extras rules c' P ∧ Sub c c' ∧ ∀ y ∈ x :: xs, GoodItem rules c' y := by
          intro c1 hinv1 hsub1 hgood1 hres1
          have hphi := Phi_mono extras c c1 hsub1.2 rules
          obtain ⟨hi, hs, hg⟩ := ih f (Nat.lt_succ_self f) xs c1 c' P (by omega) hinv1 hres1
          refine ⟨hi, hsub1.trans hs, ?_⟩
          intro y hy
          rcases List.mem_cons.1 hy with e | hy
          · subst e; exact hgood1.mono hs.1
          · exact hg y hy
        -- items that are neither `push` nor `ident`
        have other : (∀ e, x = OExpr.push e → False) → (∀ n, x = OExpr.ident n → False) →
            Inv extras rules c' P ∧ Sub c c' ∧ ∀ y ∈ x :: xs, GoodItem rules c' y := by
          intro h1 h2
          rw [anyModifies.eq_5 _ _ _ _ _ _ h1 h2] at hres
          simp only [Bool.false_eq_true, if_false] at hres
          refine tail c hinv (Sub.refl c) ⟨?_, fun m hm => (h2 m hm).elim⟩ hres
          cases x <;> first | rfl | exact (h1 _ rfl).elim | exact (h2 _ rfl).elim
        cases x with
        | push e => rw [anyModifies.eq_3] at hres; simp at hres
        | ident name =>
          rw [anyModifies.eq_4] at hres
          by_cases hmod : name = "DROP" ∨ name = "POP" ∨ name = "POP_ALL"
          · simp [hmod] at hres
          · have hnm : isModItem (.ident name) = false := by simp [isModItem, hmod]
            rw [if_neg hmod] at hres
            cases hget : c.get name with
            | none =>
              rw [hget] at hres
              cases hlook : lookupO rules name with
              | none =>
                rw [hlook] at hres
                simp only [Bool.false_eq_true, if_false] at hres
                have hs0 := Sub_set_none c name hget
                have hs1 : Sub (c.set name none) ((c.set name none).set name (some false)) :=
                  Sub_set_false _ _ (Or.inl (InF_set_none c name))
                refine tail _ ?_ (hs0.trans hs1) ⟨hnm, fun m hm => Or.inr ?_⟩ hres
                · intro n hn hP body hb y hy
                  rw [InF_set_false_iff _ _ _ (InF_set_none c name)] at hn
                  by_cases e : n = name
                  · subst e; rw [hlook] at hb; cases hb
                  · rw [InF_set_of_ne _ _ _ _ e] at hn
                    exact (hinv n hn hP body hb y hy).mono (hs0.trans hs1).1
                · cases hm; exact hlook
              | some body =>
                rw [hlook] at hres
                dsimp only at hres
                have hphi := Phi_set extras c name none hget rules body hlook
                cases f with
                | zero => omega
                | succ g =>
                  rw [childModifies.eq_2] at hres
                  cases hsub : anyModifies extras rules g (body.topDown extras) (c.set name none) with
                  | mk r c2 =>
                    rw [hsub] at hres
                    cases r with
                    | true => simp at hres
                    | false =>
                      simp only [Bool.false_eq_true, if_false] at hres
                      have hs0 := Sub_set_none c name hget
                      have hinv0 : Inv extras rules (c.set name none) (fun n => P n ∨ n = name) := by
                        intro n hn hP bd hb y hy
                        have e : n ≠ name := fun e => hP (Or.inr e)
                        rw [InF_set_of_ne _ _ _ _ e] at hn
                        exact (hinv n hn (fun h => hP (Or.inl h)) bd hb y hy).mono hs0.1
                      obtain ⟨hi2, hs2, hg2⟩ := ih g (by omega) _ _ c2 _ (by omega) hinv0 hsub
                      have hin2 : InF c2 name := hs2.1 _ (InF_set_none c name)
                      have hs3 : Sub c2 (c2.set name (some false)) := Sub_set_false _ _ (Or.inl hin2)
                      refine tail _ ?_ (hs0.trans (hs2.trans hs3))
                        ⟨hnm, fun m hm => Or.inl ?_⟩ hres
                      · intro n hn hP bd hb y hy
                        rw [InF_set_false_iff _ _ _ hin2] at hn
                        by_cases e : n = name
                        · subst e; rw [hlook] at hb; cases hb
                          exact (hg2 y hy).mono hs3.1
                        · exact (hi2 n hn (fun h => h.elim hP e) bd hb y hy).mono hs3.1
                      · cases hm; exact InF_set_false c2 name
            | some v =>
              rw [hget] at hres
              cases v with
              | none =>
                simp only [Bool.false_eq_true, if_false] at hres
                have hin : InF c name := Or.inl hget
                have hs1 : Sub c (c.set name (some false)) := Sub_set_false _ _ (Or.inl hin)
                refine tail _ ?_ hs1 ⟨hnm, fun m hm => Or.inl ?_⟩ hres
                · intro n hn hP bd hb y hy
                  rw [InF_set_false_iff _ _ _ hin] at hn
                  exact (hinv n hn hP bd hb y hy).mono hs1.1
                · cases hm; exact InF_set_false c name
              | some b =>
                cases b with
                | true => simp at hres
                | false =>
                  simp only [Bool.false_eq_true, if_false] at hres
                  exact tail c hinv (Sub.refl c)
                    ⟨hnm, fun m hm => Or.inl (by cases hm; exact Or.inr hget)⟩ hres
        | _ => exact other (by intro _ h; cases h) (by intro _ h; cases h)

/-! ### the initial fuel suffices -/

theorem topDown_length_le (extras : Bool) (e : OExpr) :
    (e.topDown extras).length ≤ (e.topDown true).length := by
  induction e with
  | seq a b iha ihb => simp only [OExpr.topDown, List.length_cons, List.length_append]; omega
  | choice a b iha ihb => simp only [OExpr.topDown, List.length_cons, List.length_append]; omega
  | posPred e ih | negPred e ih | rep e ih | opt e ih | push e ih =>
    simp only [OExpr.topDown, List.length_cons]; omega
  | repOnce e ih | nodeTag e t ih =>
    cases extras <;> simp [OExpr.topDown]
  | _ => simp [OExpr.topDown]

theorem orulesSize_foldl (rules : List ORule) (acc : Nat) :
    rules.foldl (fun n r => n + (r.expr.topDown true).length + 1) acc =
      acc + (rules.map fun r => (r.expr.topDown true).length + 1).sum := by
  induction rules generalizing acc with
  | nil => simp
  | cons r rs ih => simp only [List.foldl_cons, ih, List.map_cons, List.sum_cons]; omega

theorem Phi_nil_le (extras : Bool) (rules : List ORule) :
    Phi extras [] rules + 2 ≤ 2 * orulesSize rules := by
  have h : Phi extras [] rules ≤ 2 * (rules.map fun r => (r.expr.topDown true).length + 1).sum := by
    induction rules with
    | nil => simp [Phi]
    | cons r rs ih =>
      have := topDown_length_le extras r.expr
      simp only [Phi, List.map_cons, List.sum_cons, Cache.get_nil] at ih ⊢
      simp only [Option.isSome_none, Bool.false_eq_true, if_false] at ih ⊢
      omega
  rw [orulesSize, orulesSize_foldl]
  omega

theorem not_mod_of_good (extras : Bool) (rules : List ORule) (c : Cache)
    (hinv : Inv extras rules c (fun _ => False)) (e : OExpr) (hm : Mod extras rules e) :
    ¬ ∀ x ∈ e.topDown extras, GoodItem rules c x := by
  induction hm with
  | here hx hmod =>
    intro h
    have := (h _ hx).1
    rw [hmod] at this; cases this
  | there hx hl _ ih =>
    intro h
    rcases (h _ hx).2 _ rfl with hin | hnone
    · exact ih (fun y hy => hinv _ hin (fun f => f) _ hl y hy)
    · rw [hl] at hnone; cases hnone

/-- The restorer's analysis is sound: if the memoised, fuel-bounded search answers `false`, no
state-modifying item is reachable. -/
theorem modifies_sound (extras : Bool) (rules : List ORule) (e : OExpr)
    (h : modifies extras rules e = false) : ¬ Mod extras rules e := by
  intro hm
  unfold modifies at h
  have h2 : 2 * (orulesSize rules + (e.topDown true).length) + 2 =
      (2 * (orulesSize rules + (e.topDown true).length) + 1) + 1 := rfl
  rw [h2, childModifies.eq_2] at h
  cases hres : anyModifies extras rules (2 * (orulesSize rules + (e.topDown true).length) + 1)
      (e.topDown extras) [] with
  | mk r c' =>
    rw [hres] at h
    cases h
    have hlen := topDown_length_le extras e
    have hphi := Phi_nil_le extras rules
    have hinv0 : Inv extras rules [] (fun _ => False) := by
      intro n hn
      rcases hn with hn | hn <;> simp [Cache.get_nil] at hn
    obtain ⟨hi, _, hg⟩ := any_sound extras rules _ _ [] c' (fun _ => False) (by omega) hinv0 hres
    exact not_mod_of_good extras rules c' hi e hm hg

end PestModel.VmRef
