import PestModel.Model.Reader
/-! helper lemmas for C07: the decimal parsers on a string of digits (core `Nat.ofDigitChars`), then on the strings
`natDigits` writes. -/
namespace PestModel.Reader
open PestModel.LineCol (Str)

abbrev decStep : Nat → Char → Option Nat :=
  fun acc c => if '0' ≤ c ∧ c ≤ '9' then some (acc * 10 + (c.toNat - '0'.toNat)) else none

theorem isDigit_iff (c : Char) : c.isDigit = true ↔ '0' ≤ c ∧ c ≤ '9' := by
  simp [Char.isDigit, Char.le_def, UInt32.le_iff_toNat_le]

theorem foldlM_digits : ∀ (l : Str) (acc : Nat), (∀ c ∈ l, c.isDigit = true) →
    l.foldlM decStep acc = some (Nat.ofDigitChars 10 l acc)
  | [], acc, _ => by simp
  | c :: l, acc, h => by
    have hc := (isDigit_iff c).1 (h c (by simp))
    rw [List.foldlM_cons, Nat.ofDigitChars_cons]
    simp only [decStep, hc, and_self, if_true]
    rw [Nat.mul_comm 10 acc]
    exact foldlM_digits l _ (fun c hc => h c (by simp [hc]))

section digits
variable {l : Str} (hne : l ≠ []) (hd : ∀ c ∈ l, c.isDigit = true)
include hne hd

/-- a non-empty string of digits does not start with a sign. -/
theorem head_ne_of_digits {d : Char} (h : d.isDigit = false) : l.head? ≠ some d ∧ l.isEmpty = false := by
  cases l with
  | nil => exact absurd rfl hne
  | cons c r => exact ⟨by intro e; cases e; simp [hd d (by simp)] at h, rfl⟩

theorem parseU32_digits :
    parseU32 l = if Nat.ofDigitChars 10 l 0 < 2 ^ 32 then some (Nat.ofDigitChars 10 l 0) else none := by
  have h := foldlM_digits l 0 hd
  unfold parseU32
  split
  · exact absurd rfl (head_ne_of_digits hne hd (d := '+') (by decide)).1
  · simp only [(head_ne_of_digits hne hd (d := '+') (by decide)).2] at h ⊢
    rw [h]; rfl

theorem parseI32_digits :
    parseI32 l = if Nat.ofDigitChars 10 l 0 < 2 ^ 31 then some (Nat.ofDigitChars 10 l 0 : Int) else none := by
  have h := foldlM_digits l 0 hd
  unfold parseI32
  split
  · exact absurd rfl (head_ne_of_digits hne hd (d := '-') (by decide)).1
  · split
    · exact absurd rfl (head_ne_of_digits hne hd (d := '+') (by decide)).1
    · simp only [(head_ne_of_digits hne hd (d := '+') (by decide)).2] at h ⊢
      rw [h]; rfl

theorem parseI32_neg_digits :
    parseI32 ('-' :: l) = if Nat.ofDigitChars 10 l 0 ≤ 2 ^ 31 then some (-(Nat.ofDigitChars 10 l 0 : Int)) else none := by
  have h := foldlM_digits l 0 hd
  obtain ⟨h1, h2⟩ := head_ne_of_digits hne hd (d := '+') (by decide)
  rw [parseI32]
  simp only [h1, h2, or_self, Bool.false_eq_true, if_false] at h ⊢
  rw [h]

end digits

/-- what `natDigits` writes, after any number of zeros: digits, at least one, with value `n`. -/
theorem zeros_digits (z n : Nat) :
    List.replicate z '0' ++ natDigits n ≠ [] ∧ (∀ c ∈ List.replicate z '0' ++ natDigits n, c.isDigit = true) ∧
      Nat.ofDigitChars 10 (List.replicate z '0' ++ natDigits n) 0 = n := by
  have he : natDigits n = Nat.toDigits 10 n := by simp [natDigits]
  refine ⟨by simp [he, Nat.toDigits_ne_nil], ?_, by simp [he, Nat.ofDigitChars_append]⟩
  intro c hc
  rcases List.mem_append.1 hc with hc | hc
  · rw [(List.mem_replicate.1 hc).2]; rfl
  · exact Nat.isDigit_of_mem_toDigits (by decide) (by decide) (he ▸ hc)

end PestModel.Reader
