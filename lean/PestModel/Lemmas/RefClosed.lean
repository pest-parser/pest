import PestModel.Lemmas.RefNoStuck
/-! C01 / C09: a decidable closedness check on rule sets that implies `RulesNS`, and `meaning_never_stuck`. -/
namespace PestModel.Ref
open PestModel.G
open PestModel.LineCol (Str)
open PestModel.PS (Atomicity CharSet)

/-- `NS` with the names taken from a list (decidable for a concrete rule set, independent of the Unicode table). -/
def closedExpr (names : List String) : Expr → Bool
  | .ident n => names.contains n || plainBuiltins.contains n
  | .push _ => false
  | .posPred e | .negPred e | .opt e | .rep e | .repOnce e | .nodeTag e _ => closedExpr names e
  | .repExact e n => closedExpr names e && decide (0 < n)
  | .repMin e _ => closedExpr names e
  | .repMax e n => closedExpr names e && decide (0 < n)
  | .repMinMax e _ hi => closedExpr names e && decide (0 < hi)
  | .seq a b | .choice a b => closedExpr names a && closedExpr names b
  | _ => true

/-- every rule body only mentions rules of the grammar and built-ins that cannot get stuck. -/
def closedRules (rules : List Rule) : Bool := rules.all fun r => closedExpr (rules.map (·.name)) r.expr

theorem has_of_mem_names {c : Ctx} {n : String} (h : (c.rules.map (·.name)).contains n = true) : c.has n = true := by
  obtain ⟨r, hr, rfl⟩ := List.mem_map.1 (List.contains_iff_mem.1 h)
  rw [has_eq_find, List.find?_isSome]
  exact ⟨r, hr, by simp⟩

theorem ns_of_closed (c : Ctx) : ∀ (e : Expr), closedExpr (c.rules.map (·.name)) e = true → NS c e = true
  | .ident n, h => by
    simp only [closedExpr, Bool.or_eq_true] at h
    simp only [NS, nameOK, Bool.or_eq_true]
    rcases h with h | h
    · exact .inl (.inl (has_of_mem_names h))
    · exact .inl (.inr h)
  | .push _, h => absurd h Bool.false_ne_true
  | .posPred e, h | .negPred e, h | .opt e, h | .rep e, h | .repOnce e, h | .nodeTag e _, h | .repMin e _, h =>
    ns_of_closed c e h
  | .repExact e _, h | .repMax e _, h | .repMinMax e _ _, h =>
    Bool.and_eq_true_iff.2 (And.imp_left (ns_of_closed c e) (Bool.and_eq_true_iff.1 h))
  | .seq a b, h | .choice a b, h =>
    Bool.and_eq_true_iff.2 (And.imp (ns_of_closed c a) (ns_of_closed c b) (Bool.and_eq_true_iff.1 h))
  | .str _, _ | .insens _, _ | .range _ _, _ | .peekSlice _ _, _ | .skip _, _ | .pushLiteral _, _ => rfl

theorem rulesNS_of_closed (c : Ctx) (h : closedRules c.rules = true) : RulesNS c := by
  intro name id r hr
  have hm := rule?_map c name
  rw [hr] at hm
  simp only [Option.map_some] at hm
  have hmem := List.mem_of_find?_eq_some hm.symm
  unfold closedRules at h
  exact ns_of_closed c r.expr (List.all_eq_true.1 h r hmem)

/-- **The documented meaning of a closed grammar is never "no meaning"**: from any defined start rule, on any input. -/
theorem meaning_never_stuck (rules : List Rule) (extras : Bool) (uni : String → Option CharSet) (fuel : Nat) (name : String)
    (input : Str) (hc : closedRules rules = true) (hn : (rules.map (·.name)).contains name = true) :
    meaning rules extras uni fuel name input ≠ .stuck := by
  unfold meaning
  refine call_never_stuck _ (rulesNS_of_closed _ hc) fuel .nonAtomic false name _ ?_
  simp only [nameOK, Bool.or_eq_true]
  exact .inl (.inl (has_of_mem_names hn))
end PestModel.Ref
