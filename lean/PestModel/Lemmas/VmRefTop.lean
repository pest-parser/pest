import PestModel.Lemmas.VmRefMain
import PestModel.Lemmas.VmRefRestorer
import PestModel.Lemmas.PStateDetail
import PestModel.Lemmas.VmRefTermStep
/-! C01 and C08: the whole parse (`Vm::parse`) against `Ref.meaning` and against the calls of the
instrumented reference. -/
namespace PestModel.VmRef
open PestModel.G PestModel.PS PestModel.Lower PestModel.Ref PestModel.Views PestModel.RefTrace PestModel.Track
open PestModel.LineCol (Str isBoundary bLen cLen splitAt? slice?)

theorem sim_init (input : Str) : Sim input .nonAtomic false (PState.new input none false) ⟨0, []⟩ where
  inp := rfl
  pos := rfl
  stk := rfl
  inv := (new_wf' input none false).2
  bnd := (new_wf' input none false).1
  atom := rfl
  la := by simp [PState.new]
  calls := rfl
  en := rfl

theorem new_eraseDetail (input : Str) (detail : Bool) :
    (PState.new input none detail).eraseDetail = PState.new input none false := rfl

/-- the outcome of a whole parse reflects a reference result of which `P` holds; `F` is what is said of a run
out of fuel. The statements of C01 are this match with `Means … ·` or `r = ·` for `P`. -/
def Reflects (o : Out) (P : Res → Prop) (F : Prop) : Prop :=
  match o with
  | .ok st => ∃ forest, build forest = st.queue ∧ P (.ok ⟨st.pos, st.stack.cache⟩ forest)
  | .err _ => P .fail
  | .panic => P .stuck
  | .fuel => F

theorem Reflects.imp {o : Out} {P Q : Res → Prop} {F G : Prop} (h : Reflects o P F)
    (hPQ : ∀ r, r ≠ .fuel → P r → Q r) (hFG : o = .fuel → F → G) : Reflects o Q G := by
  cases o with
  | ok st => exact h.elim fun f hf => ⟨f, hf.1, hPQ _ nofun hf.2⟩
  | err st => exact hPQ _ nofun h
  | panic => exact hPQ _ nofun h
  | fuel => exact hFG rfl h

theorem _root_.PestModel.Track.eraseDetail_att (s : PState) : att s.eraseDetail = att s := rfl

section
variable (env : Env) (extras memchr detail : Bool) (input : Str)
  (hsize : env.rules.length ≤ 333333333) (hgood : GoodRules extras env.rules) (htr : TagRules extras env.rules)
include hsize hgood htr

/-- the whole parse, with error detail on or off, satisfies the specification of its entry call from the fresh
states: error detail changes `pa` only (`run_eraseDetail`), which the specification does not read. -/
theorem top_spec (fuel : Nat) (name : String) :
    OutSpecT ((run (mkCfg env memchr) fuel (entry env name) (PState.new input none detail)).mapState
        PState.eraseDetail) (PState.new input none false)
      (valCa (mkCtx env extras input) .nonAtomic false name ⟨0, []⟩)
      (EvCa (mkCtx env extras input) .nonAtomic .none name ⟨0, []⟩) := by
  rw [run_eraseDetail, new_eraseDetail]
  exact (spec_callRule hsize hgood htr (PE_all hsize hgood htr fuel) name .nonAtomic .none
    (Reach.entry name)).anti (Nat.le_succ fuel) _ _ ⟨sim_init input, rfl⟩

/-- whatever definite outcome the VM reaches reflects what the grammar means. -/
theorem refines_top (fuel : Nat) (name : String) :
    Reflects (run (mkCfg env memchr) fuel (entry env name) (PState.new input none detail))
      (Means (ofOptimizedRules env.rules) extras env.uni name input) True := by
  have h := top_spec env extras memchr detail input hsize hgood htr fuel name
  cases hr : run (mkCfg env memchr) fuel (entry env name) (PState.new input none detail) with
  | ok st =>
    rw [hr] at h
    obtain ⟨σ', f, -, hd, -, hp, hk, hq, -⟩ := h
    exact ⟨f, hq.symm, (means_iff ..).2 ⟨nofun, hd.trans (by cases σ'; cases hp; cases hk; rfl)⟩⟩
  | err st => rw [hr] at h; exact (means_iff ..).2 ⟨nofun, h.1⟩
  | panic => rw [hr] at h; exact (means_iff ..).2 ⟨nofun, h⟩
  | fuel => trivial

/-- the VM reaches a definite outcome whenever the reference does. -/
theorem terminates_top (name : String) (r : Res)
    (h : Means (ofOptimizedRules env.rules) extras env.uni name input r) :
    ∃ fuel, run (mkCfg env memchr) fuel (entry env name) (PState.new input none detail) ≠ .fuel := by
  obtain ⟨hr, n, hn⟩ := h
  have hc : call (mkCtx env extras input) n .nonAtomic false name ⟨0, []⟩ ≠ .fuel := by
    have : call (mkCtx env extras input) n .nonAtomic false name ⟨0, []⟩ = r := hn
    rw [this]; exact hr
  obtain ⟨F, hF⟩ := (TF_all (memchr := memchr) hsize hgood htr n).ca name .nonAtomic .none (Reach.entry name) _ _
    ⟨sim_init input, rfl⟩ hc
  refine ⟨F, fun hfuel => hF ?_⟩
  have e := run_eraseDetail (mkCfg env memchr) F (entry env name) (PState.new input none detail)
  rw [new_eraseDetail, hfuel] at e
  exact e.symm

/-- … and it is the outcome that reflects what the grammar means. -/
theorem agrees_top (name : String) (r : Res) (h : Means (ofOptimizedRules env.rules) extras env.uni name input r) :
    ∃ fuel, Reflects (run (mkCfg env memchr) fuel (entry env name) (PState.new input none detail)) (r = ·) False := by
  obtain ⟨fuel, hf⟩ := terminates_top env extras memchr detail input hsize hgood htr name r h
  exact ⟨fuel, (refines_top env extras memchr detail input hsize hgood htr fuel name).imp
    (fun r' _ h' => ((means_iff ..).1 h).2.symm.trans ((means_iff ..).1 h').2) fun e _ => hf e⟩

/-- **the whole parse**: a failing `Vm::parse` leaves the bookkeeping the specification assigns to the
calls of the instrumented reference. -/
theorem _root_.PestModel.Track.track_top (fuel : Nat) (name : String) (st : PState)
    (h : run (mkCfg env memchr) fuel (entry env name) (PState.new input none detail) = .err st) :
    ∃ f calls, callT (mkCtx env extras input) f .nonAtomic .none name ⟨0, []⟩ = (.fail, calls) ∧
      att st = stepAtt (0, [], []) calls := by
  have T := top_spec env extras memchr detail input hsize hgood htr fuel name
  rw [h] at T
  obtain ⟨-, cs, ⟨F, hF⟩, ha⟩ := T
  exact ⟨F, cs, hF F (Nat.le_refl _), ha⟩

end
end PestModel.VmRef
