import PestModel.Lemmas.DebuggerCtrl
namespace PestModel.Dbg

/-- the parser thread, running alone, exits after finitely many non-blocking steps. -/
inductive Halts : State → Prop where
  | done {s t p} : s.cur = some t → t.pc = .exited p → Halts s
  | step {s s'} : parserStep s = some s' → Halts s' → Halts s

theorem halts_checkCancel {s : State} {t : Thread} {ok : Bool} (hc : s.cur = some t) (hd : s.isDone = true)
    (hpc : t.pc = .checkCancel ok) : Halts s :=
  .step (parserStep_of_PStep hc (.cancelled hpc hd)) (.done (p := false) rfl rfl)

theorem halts_endWith {s : State} {t : Thread} {o : Outcome} (hc : s.cur = some t) (hd : s.isDone = true)
    (hpc : t.pc = endWith o) : Halts s := by
  cases o
  · exact halts_checkCancel hc hd hpc
  · exact halts_checkCancel hc hd hpc
  · exact .done hc hpc

theorem halts_abortCheck {n : Nat} : ∀ {s : State} {t : Thread} {o : Outcome}, s.cur = some t → s.isDone = true →
    t.pc = .abortCheck n o → Halts s := by
  induction n using Nat.strongRecOn with
  | _ n ih =>
    intro s t o hc hd hpc
    by_cases hn : n ≤ 1
    · exact .step (parserStep_of_PStep hc (.abortEnd hpc hn)) (halts_endWith (o := o) rfl hd rfl)
    · exact .step (parserStep_of_PStep hc (.abortDec hpc (by omega))) (ih (n - 1) (by omega) (o := o) rfl hd rfl)

theorem halts_checkDone {s : State} {t : Thread} {k : Nat} (hc : s.cur = some t) (hd : s.isDone = true)
    (hpc : t.pc = .checkDone k) : Halts s := by
  by_cases hk : k ≥ s.entries.length
  · exact .step (parserStep_of_PStep hc (.emptyParse hpc hk)) (halts_checkCancel (ok := s.finalOk) rfl hd rfl)
  · rcases hab : s.abortInfo[k]?.getD (0, .err) with ⟨n, o⟩
    cases n with
    | zero => exact .step (parserStep_of_PStep hc (.abort0 hpc (by omega) hd hab)) (halts_endWith (o := o) rfl hd rfl)
    | succ n =>
      exact .step (parserStep_of_PStep hc (.abortN hpc (by omega) hd hab)) (halts_abortCheck (o := o) rfl hd rfl)

theorem halts_nextEntry {s : State} {t : Thread} {k : Nat} (hc : s.cur = some t) (hd : s.isDone = true)
    (hpc : t.pc = nextEntry s k) : Halts s := by
  unfold nextEntry at hpc
  split at hpc
  · exact halts_checkDone hc hd hpc
  · exact halts_checkCancel hc hd hpc

theorem halts_park {s : State} {t : Thread} {k : Nat} (hc : s.cur = some t) (hd : s.isDone = true)
    (hpc : t.pc = .park k) (ht : t.token = true) : Halts s :=
  .step (parserStep_of_PStep hc (.woken hpc ht)) (halts_nextEntry (k := k) rfl hd rfl)

theorem halts_send {s : State} {t : Thread} {k : Nat} (hc : s.cur = some t) (hd : s.isDone = true) (hcap : 0 < s.cap)
    (hpc : t.pc = .send k) (hk : k < s.entries.length) (hch : t.chan = []) (ht : t.token = true) : Halts s :=
  .step (parserStep_of_PStep hc (.sent hpc (List.getElem?_eq_getElem hk) (by simpa [hch] using hcap)))
    (halts_park (k := k) rfl hd rfl ht)

theorem halts_lockBps {s : State} {t : Thread} {k : Nat} (hc : s.cur = some t) (hd : s.isDone = true) (hcap : 0 < s.cap)
    (hpc : t.pc = .lockBps k) (hk : k < s.entries.length) (hch : t.chan = []) (ht : t.token = true) : Halts s := by
  refine .step (parserStep_of_PStep hc (.lock hpc (List.getElem?_eq_getElem hk))) ?_
  by_cases hb : s.entries[k].1 ∈ s.bps
  · exact halts_send (k := k) rfl hd hcap (by simp [hb]) hk hch ht
  · exact halts_nextEntry (k := k) rfl hd (by simp [hb, nextEntry])

theorem halts_setDone {s : State} {t : Thread} (hc : s.cur = some t) (hpc : t.pc = .setDone) : Halts s :=
  .step (parserStep_of_PStep hc (.done hpc)) (.done (p := false) rfl rfl)

theorem halts_finishSend {s : State} {t : Thread} {ok : Bool} (hc : s.cur = some t) (hcap : 0 < s.cap)
    (hpc : t.pc = .finishSend ok) (hch : t.chan = []) : Halts s :=
  .step (parserStep_of_PStep hc (.finished hpc (by simpa [hch] using hcap))) (halts_setDone rfl rfl)

/-- at `join` after a clean restart the thread exits on its own. -/
theorem halts_of_inv {s : State} (hi : Inv s) (hj : s.cpc = .runJoin) (hcl : s.cleanRestart = true) : Halts s := by
  have hd := hi.doneLate (Or.inr hj)
  have hcap := hi.cap_pos
  cases hc : s.cur with
  | none => exact absurd hc (hi.hasCur (by simp [hj]))
  | some t =>
    have hg := hi.rG t hc hcl hj
    have hp := hi.pcData t hc
    cases hpc : t.pc with
    | checkDone k => exact halts_checkDone hc hd hpc
    | lockBps k =>
      rw [hpc] at hp
      exact halts_lockBps hc hd hcap hpc hp.2.1 (hg.1 (hpc ▸ rfl)) (hg.2 (hpc ▸ rfl))
    | send k =>
      rw [hpc] at hp
      exact halts_send hc hd hcap hpc hp.2.1 (hg.1 (hpc ▸ rfl)) (hg.2 (hpc ▸ rfl))
    | park k => exact halts_park hc hd hpc (hg.2 (hpc ▸ rfl))
    | abortCheck n o => exact halts_abortCheck hc hd hpc
    | checkCancel ok => exact halts_checkCancel hc hd hpc
    | finishSend ok => exact halts_finishSend hc hcap hpc (hg.1 (hpc ▸ rfl))
    | setDone => exact halts_setDone hc hpc
    | exited p => exact .done hc hpc

end PestModel.Dbg
