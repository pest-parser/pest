import PestModel.Lemmas.ReaderValue
/-!
C07, value level: **every printable expression can be written, with parentheses only where precedence requires them, in a
form that the pairs-to-expression reading (`ReaderValue`) maps back to it.**

* `DenE` / `DenT` / `DenB` / `DenN`: the expressions that pairs can denote — `ExprV` & co. with the trees forgotten (`denE_of_exprV`);
* `Den r e`: `e` written at a position that requires binding level `r` (`|` 0, `~` 1, tagged term 2, prefix 3, postfix 4,
  atom 5), in parentheses exactly when its own level is lower;
* `den_all`: every printable expression has such a writing at every position;
* `lev_of_den` / `printable_denotable`: such a writing is among the denotable forms.
-/
namespace PestModel.ReaderValue
open PestModel.G PestModel.Reader PestModel.ReaderFull PestModel.ReaderShape
open PestModel.Views (Tree sizeList)
open PestModel.LineCol (Str)
open PestModel.C07Full

inductive Post where
  | opt | rep | repOnce
  | exact (n : Nat) | min (n : Nat) | max (n : Nat) | minmax (lo hi : Nat)

def Post.apply : Post → Expr → Expr
  | .opt, e => .opt e
  | .rep, e => .rep e
  | .repOnce, e => .repOnce e
  | .exact n, e => .repExact e n
  | .min n, e => .repMin e n
  | .max n, e => .repMax e n
  | .minmax lo hi, e => .repMinMax e lo hi

/-- the counts the reader lets through. -/
def Post.ok : Post → Prop
  | .exact n => n ≠ 0
  | .max n => n ≠ 0
  | .minmax _ hi => hi ≠ 0
  | _ => True

def applyPosts (x : Expr) (ps : List Post) : Expr := ps.foldl (fun e p => p.apply e) x

def isLeaf (extras : Bool) : Expr → Bool
  | .str _ | .insens _ | .range _ _ | .ident _ | .peekSlice _ _ => true
  | .pushLiteral _ => extras
  | _ => false

mutual
  inductive DenE (extras : Bool) : Expr → Prop
    | mk (x0 : Expr) (xs : List (Bool × Expr)) : DenT extras x0 → (∀ p ∈ xs, DenT extras p.2) → DenE extras (foldGo none x0 xs)
  inductive DenT (extras : Bool) : Expr → Prop
    | tagged {x : Expr} (name : Str) : extras = true → DenB extras x → DenT extras (.nodeTag x name)
    | plain {x : Expr} : DenB extras x → DenT extras x
  inductive DenB (extras : Bool) : Expr → Prop
    | pos {x : Expr} : DenB extras x → DenB extras (.posPred x)
    | neg {x : Expr} : DenB extras x → DenB extras (.negPred x)
    | node {x : Expr} (posts : List Post) : DenN extras x → (∀ p ∈ posts, p.ok) → DenB extras (applyPosts x posts)
  inductive DenN (extras : Bool) : Expr → Prop
    | paren {x : Expr} : DenE extras x → DenN extras x
    | push {x : Expr} : DenE extras x → DenN extras (.push x)
    | leaf {x : Expr} : isLeaf extras x = true → DenN extras x
end

/-! ### the pairs-to-expression reading lands in these forms -/

theorem postV_post {text : Str} {p : Tree} {x y : Expr} (h : PostV text p x y) : ∃ q : Post, q.ok ∧ y = q.apply x := by
  rcases h with ⟨_, rfl⟩ | ⟨_, rfl⟩ | ⟨_, rfl⟩ | ⟨_, _, _, _, _, _, k, _, hk, rfl⟩ | ⟨_, _, _, _, _, k, _, rfl⟩ |
    ⟨_, _, _, _, _, _, k, _, hk, rfl⟩ | ⟨_, _, _, _, _, _, _, lo, hi, _, _, hk, rfl⟩
  · exact ⟨.opt, trivial, rfl⟩
  · exact ⟨.rep, trivial, rfl⟩
  · exact ⟨.repOnce, trivial, rfl⟩
  · exact ⟨.exact k, hk, rfl⟩
  · exact ⟨.min k, trivial, rfl⟩
  · exact ⟨.max k, hk, rfl⟩
  · exact ⟨.minmax lo hi, hk, rfl⟩

theorem posts_of_postsV {text : Str} {ps : List Tree} {x y : Expr} (h : PostsV text ps x y) :
    ∃ posts : List Post, y = applyPosts x posts ∧ ∀ p ∈ posts, p.ok := by
  induction h with
  | nil x => exact ⟨[], rfl, by simp⟩
  | cons hp _ ih =>
    obtain ⟨posts, rfl, hok⟩ := ih
    obtain ⟨q, hq, rfl⟩ := postV_post hp
    exact ⟨q :: posts, rfl, List.forall_mem_cons.2 ⟨hq, hok⟩⟩

theorem isLeaf_of_leafNode {extras : Bool} {text : Str} {t : Tree} {x : Expr} (h : leafNode extras text t = some x) :
    isLeaf extras x = true := by
  rcases leafNode_some h with ⟨he, s, rfl⟩ | ⟨a, b, rfl⟩ | ⟨_, s, _, rfl⟩ | ⟨s, rfl⟩ | ⟨s, rfl⟩ | ⟨c, d, rfl⟩ <;> simp [isLeaf, *]

mutual
  theorem denE_of_exprV {extras : Bool} {text : Str} : ∀ {ps : List Tree} {e : Expr}, ExprV extras text ps e → DenE extras e
    | _, _, .mk _ _ _ x0 xs _ _ hu0 hr => .mk x0 xs (denT_of_unArgsV hu0) (denT_of_restV hr)
  theorem denT_of_restV {extras : Bool} {text : Str} : ∀ {ps : List Tree} {xs : List (Bool × Expr)},
      RestV extras text ps xs → ∀ p ∈ xs, DenT extras p.2
    | _, _, .nil => by intro p hp; simp at hp
    | _, _, .cons _ _ hu hr => by
      intro p hp
      rcases List.mem_cons.1 hp with rfl | hp
      · exact denT_of_unArgsV hu
      · exact denT_of_restV hr p hp
  theorem denT_of_unArgsV {extras : Bool} {text : Str} : ∀ {ps : List Tree} {e : Expr}, UnArgsV extras text ps e → DenT extras e
    | _, _, .tagged (name := name) _ _ hb => by
      by_cases h : extras = true
      · rw [if_pos h]; exact .tagged name h (denB_of_unBodyV hb)
      · rw [if_neg h]; exact .plain (denB_of_unBodyV hb)
    | _, _, .plain hb => .plain (denB_of_unBodyV hb)
    | _, _, .parenRest _ hx _ hp => by
      obtain ⟨posts, rfl, hok⟩ := posts_of_postsV hp
      exact .plain (.node posts (.paren (denE_of_exprV hx)) hok)
  theorem denB_of_unBodyV {extras : Bool} {text : Str} : ∀ {ps : List Tree} {e : Expr}, UnBodyV extras text ps e → DenB extras e
    | _, _, .pos _ hb => .pos (denB_of_unBodyV hb)
    | _, _, .neg _ hb => .neg (denB_of_unBodyV hb)
    | _, _, .paren _ _ hx _ hp => by
      obtain ⟨posts, rfl, hok⟩ := posts_of_postsV hp
      exact .node posts (.paren (denE_of_exprV hx)) hok
    | _, _, .push _ _ _ hx hp => by
      obtain ⟨posts, rfl, hok⟩ := posts_of_postsV hp
      exact .node posts (.push (denE_of_exprV hx)) hok
    | _, _, .leaf hl hp => by
      obtain ⟨posts, rfl, hok⟩ := posts_of_postsV hp
      exact .node posts (.leaf (isLeaf_of_leafNode hl.2)) hok
end


/-! ### writing an expression with the parentheses precedence requires -/

/-- binding level of the outermost construct. -/
def lvl : Expr → Nat
  | .choice _ _ => 0
  | .seq _ _ => 1
  | .nodeTag _ _ => 2
  | .posPred _ | .negPred _ => 3
  | .opt _ | .rep _ | .repOnce _ | .repExact _ _ | .repMin _ _ | .repMax _ _ | .repMinMax _ _ _ => 4
  | _ => 5

mutual
  /-- `e` written at a position that requires level `r`: as it is when its level suffices, in parentheses otherwise. -/
  inductive Den (extras : Bool) : Nat → Expr → Prop
    | here {r : Nat} {e : Expr} : r ≤ lvl e → Form extras e → Den extras r e
    | paren {r : Nat} {e : Expr} : lvl e < r → Den extras 0 e → Den extras r e
  /-- the outermost construct with its operands at the positions the grammar gives them: `|` and `~` group to the left
  (the left operand may be of the same level, the right one must bind tighter), a tag or a prefix operator is followed by
  prefix operators / a node with its postfix operators, a postfix operator follows a node or another postfix operator. -/
  inductive Form (extras : Bool) : Expr → Prop
    | choice {a b : Expr} : Den extras 0 a → Den extras 1 b → Form extras (.choice a b)
    | seq {a b : Expr} : Den extras 1 a → Den extras 2 b → Form extras (.seq a b)
    | tag {x : Expr} {t : Str} : extras = true → Den extras 3 x → Form extras (.nodeTag x t)
    | pos {x : Expr} : Den extras 3 x → Form extras (.posPred x)
    | neg {x : Expr} : Den extras 3 x → Form extras (.negPred x)
    | post {x : Expr} (p : Post) : p.ok → Den extras 4 x → Form extras (p.apply x)
    | push {x : Expr} : Den extras 0 x → Form extras (.push x)
    | leaf {x : Expr} : isLeaf extras x = true → Form extras x
end

/-- what can be written at all: no optimizer-only `Skip`, tags and `PUSH_LITERAL` only with `grammar-extras`, the counts
the reader lets through. -/
def Printable (extras : Bool) : Expr → Prop
  | .str _ | .insens _ | .range _ _ | .ident _ | .peekSlice _ _ => True
  | .pushLiteral _ => extras = true
  | .skip _ => False
  | .posPred e | .negPred e | .opt e | .rep e | .repOnce e | .push e | .repMin e _ => Printable extras e
  | .repExact e n => n ≠ 0 ∧ Printable extras e
  | .repMax e n => n ≠ 0 ∧ Printable extras e
  | .repMinMax e _ hi => hi ≠ 0 ∧ Printable extras e
  | .nodeTag e _ => extras = true ∧ Printable extras e
  | .seq a b | .choice a b => Printable extras a ∧ Printable extras b

theorem den_of_form {extras : Bool} {e : Expr} (hf : Form extras e) (r : Nat) : Den extras r e := by
  by_cases h : r ≤ lvl e
  · exact .here h hf
  · exact .paren (by omega) (.here (Nat.zero_le _) hf)

/-- **every printable expression can be written at every position** (in parentheses exactly when its level is too low). -/
theorem den_all (extras : Bool) : ∀ (e : Expr), Printable extras e → ∀ r, Den extras r e
  | .str _, _, r => den_of_form (.leaf rfl) r
  | .insens _, _, r => den_of_form (.leaf rfl) r
  | .range _ _, _, r => den_of_form (.leaf rfl) r
  | .ident _, _, r => den_of_form (.leaf rfl) r
  | .peekSlice _ _, _, r => den_of_form (.leaf rfl) r
  | .pushLiteral _, h, r => den_of_form (.leaf (by simpa [isLeaf, Printable] using h)) r
  | .skip _, h, _ => absurd h (by simp [Printable])
  | .posPred e, h, r => den_of_form (.pos (den_all extras e h 3)) r
  | .negPred e, h, r => den_of_form (.neg (den_all extras e h 3)) r
  | .opt e, h, r => den_of_form (.post .opt trivial (den_all extras e h 4)) r
  | .rep e, h, r => den_of_form (.post .rep trivial (den_all extras e h 4)) r
  | .repOnce e, h, r => den_of_form (.post .repOnce trivial (den_all extras e h 4)) r
  | .repMin e n, h, r => den_of_form (.post (.min n) trivial (den_all extras e h 4)) r
  | .repExact e n, h, r => den_of_form (.post (.exact n) h.1 (den_all extras e h.2 4)) r
  | .repMax e n, h, r => den_of_form (.post (.max n) h.1 (den_all extras e h.2 4)) r
  | .repMinMax e lo hi, h, r => den_of_form (.post (.minmax lo hi) h.1 (den_all extras e h.2 4)) r
  | .push e, h, r => den_of_form (.push (den_all extras e h 0)) r
  | .nodeTag e t, h, r => den_of_form (.tag h.1 (den_all extras e h.2 3)) r
  | .seq a b, h, r => den_of_form (.seq (den_all extras a h.1 1) (den_all extras b h.2 2)) r
  | .choice a b, h, r => den_of_form (.choice (den_all extras a h.1 0) (den_all extras b h.2 1)) r


/-! ### such a writing is among the forms pairs denote -/

def falses (ys : List Expr) : List (Bool × Expr) := ys.map fun z => (false, z)

theorem foldGo_split (y : Expr) (zs : List (Bool × Expr)) : ∀ (xs : List (Bool × Expr)) (acc : Option Expr) (cur : Expr),
    foldGo acc cur (xs ++ (true, y) :: zs) = foldGo (some (foldGo acc cur xs)) y zs
  | [], acc, cur => by simp [foldGo]
  | (false, x) :: r, acc, cur => by simp only [List.cons_append, foldGo]; exact foldGo_split y zs r acc _
  | (true, x) :: r, acc, cur => by simp only [List.cons_append, foldGo]; exact foldGo_split y zs r _ x

theorem foldGo_some_falses (A : Expr) : ∀ (ys : List Expr) (y : Expr),
    foldGo (some A) y (falses ys) = .choice A (foldGo none y (falses ys))
  | [], y => by simp [falses, foldGo, joinE]
  | z :: r, y => by simp only [falses, List.map_cons, foldGo]; exact foldGo_some_falses A r _

theorem foldGo_snoc_false (b : Expr) : ∀ (ys : List Expr) (y : Expr),
    foldGo none y (falses (ys ++ [b])) = .seq (foldGo none y (falses ys)) b
  | [], y => by simp [falses, foldGo, joinE]
  | z :: r, y => by
    simp only [falses, List.cons_append, List.map_cons, foldGo]
    exact foldGo_snoc_false b r _

/-- node with postfix operators. -/
def DenPN (extras : Bool) (e : Expr) : Prop := ∃ x posts, DenN extras x ∧ (∀ p ∈ posts, Post.ok p) ∧ e = applyPosts x posts
/-- `~`-chain of terms. -/
def DenS (extras : Bool) (e : Expr) : Prop :=
  ∃ y ys, DenT extras y ∧ (∀ z ∈ ys, DenT extras z) ∧ e = foldGo none y (falses ys)

/-- the form available at a position of level `k`. -/
def Lev (extras : Bool) : Nat → Expr → Prop
  | 0, e => DenE extras e
  | 1, e => DenS extras e
  | 2, e => DenT extras e
  | 3, e => DenB extras e
  | _, e => DenPN extras e

theorem denB_of_denPN {extras : Bool} {e : Expr} (h : DenPN extras e) : DenB extras e := by
  obtain ⟨x, posts, hn, hok, rfl⟩ := h; exact .node posts hn hok
theorem denS_of_denT {extras : Bool} {e : Expr} (h : DenT extras e) : DenS extras e := ⟨e, [], h, by simp, by simp [falses, foldGo, joinE]⟩
theorem denE_of_denS {extras : Bool} {e : Expr} (h : DenS extras e) : DenE extras e := by
  obtain ⟨y, ys, hy, hys, rfl⟩ := h
  exact .mk y (falses ys) hy (by intro p hp; obtain ⟨z, hz, rfl⟩ := List.mem_map.1 hp; exact hys z hz)

theorem lev_pred {extras : Bool} {e : Expr} : ∀ {k : Nat}, k < 4 → Lev extras (k + 1) e → Lev extras k e
  | 0, _, h => denE_of_denS h
  | 1, _, h => denS_of_denT h
  | 2, _, h => .plain h
  | 3, _, h => denB_of_denPN h

theorem lev_mono {extras : Bool} {e : Expr} {k k' : Nat} (hk : k' ≤ k) (h4 : k ≤ 4) (h : Lev extras k e) : Lev extras k' e := by
  obtain ⟨d, rfl⟩ := Nat.exists_eq_add_of_le hk
  induction d with
  | zero => exact h
  | succ d ih => exact ih (by omega) (by omega) (lev_pred (by omega) h)

theorem lvl_leaf {extras : Bool} {e : Expr} (h : isLeaf extras e = true) : lvl e = 5 := by
  cases e <;> simp [isLeaf] at h <;> rfl

theorem lvl_post (p : Post) (x : Expr) : lvl (p.apply x) = 4 := by cases p <;> rfl

theorem applyPosts_snoc (x : Expr) (posts : List Post) (p : Post) : p.apply (applyPosts x posts) = applyPosts x (posts ++ [p]) := by
  simp [applyPosts, List.foldl_append]

mutual
  theorem lev_of_den {extras : Bool} : ∀ {r : Nat} {e : Expr}, Den extras r e → Lev extras (min r 4) e
    | r, e, .here hr hf => lev_mono (by omega) (by omega) (lev_of_form hf)
    | r, e, .paren _ h0 => by
      have h : DenE extras e := lev_of_den h0
      have : Lev extras 4 e := ⟨e, [], .paren h, by simp, rfl⟩
      exact lev_mono (by omega) (by omega) this
  theorem lev_of_form {extras : Bool} : ∀ {e : Expr}, Form extras e → Lev extras (min (lvl e) 4) e
    | _, .choice (a := a) (b := b) ha hb => by
      have h1 : DenE extras a := lev_of_den ha
      have h2 : DenS extras b := lev_of_den hb
      cases h1 with
      | mk x0 xs hx0 hxs =>
        obtain ⟨y, ys, hy, hys, rfl⟩ := h2
        show DenE extras _
        rw [← foldGo_some_falses, ← foldGo_split]
        refine .mk x0 _ hx0 ?_
        intro p hp
        rcases List.mem_append.1 hp with hp | hp
        · exact hxs p hp
        · rcases List.mem_cons.1 hp with rfl | hp
          · exact hy
          · obtain ⟨z, hz, rfl⟩ := List.mem_map.1 hp; exact hys z hz
    | _, .seq (a := a) (b := b) ha hb => by
      have h1 : DenS extras a := lev_of_den ha
      have h2 : DenT extras b := lev_of_den hb
      obtain ⟨y, ys, hy, hys, rfl⟩ := h1
      show DenS extras _
      refine ⟨y, ys ++ [b], hy, ?_, (foldGo_snoc_false b ys y).symm⟩
      intro z hz
      rcases List.mem_append.1 hz with hz | hz
      · exact hys z hz
      · simp at hz; subst hz; exact h2
    | _, .tag (t := t) he hx => DenT.tagged t he (lev_of_den hx)
    | _, .pos hx => DenB.pos (lev_of_den hx)
    | _, .neg hx => DenB.neg (lev_of_den hx)
    | _, .post (x := x) p hok hx => by
      have h1 : DenPN extras x := lev_of_den hx
      obtain ⟨n, posts, hn, hoks, rfl⟩ := h1
      rw [lvl_post]
      show DenPN extras _
      refine ⟨n, posts ++ [p], hn, ?_, applyPosts_snoc n posts p⟩
      intro q hq
      rcases List.mem_append.1 hq with hq | hq
      · exact hoks q hq
      · simp at hq; subst hq; exact hok
    | _, .push (x := x) hx => ⟨.push x, [], .push (lev_of_den hx), by simp, rfl⟩
    | e, .leaf hl => by
      rw [lvl_leaf hl]
      exact ⟨e, [], .leaf hl, by simp, rfl⟩
end

/-- **Every printable expression is denotable, with parentheses only where precedence requires them.** -/
theorem printable_denotable (extras : Bool) (e : Expr) (h : Printable extras e) : DenE extras e :=
  lev_of_den (den_all extras e h 0)

end PestModel.ReaderValue
