import PestModel.Model.Grammar
/-! `optimizeWith` as a whole: it returns one rule per rule, and where the `list` pass changes no rule it agrees with
`optimize` (a hypothesis that only runs the AST passes, not the conversion and the restorer). -/
namespace PestModel.G

theorem mapM_congr {α β : Type} {f g : α → Option β} : ∀ {l : List α}, (∀ a ∈ l, f a = g a) → l.mapM f = l.mapM g
  | [], _ => rfl
  | a :: l, h => by
    rw [List.mapM_cons, List.mapM_cons, h a List.mem_cons_self, mapM_congr fun b hb => h b (List.mem_cons_of_mem a hb)]

theorem length_mapM {α β : Type} {f : α → Option β} : ∀ {l : List α} {r : List β}, l.mapM f = some r → r.length = l.length
  | [], r, h => by cases h; rfl
  | a :: l, r, h => by
    rw [List.mapM_cons] at h
    obtain ⟨b, _, h⟩ := Option.bind_eq_some_iff.1 h
    obtain ⟨bs, hl, h⟩ := Option.bind_eq_some_iff.1 h
    cases h
    rw [List.length_cons, List.length_cons, length_mapM hl]

theorem optimizeWith_length {extras withList : Bool} {rules : List Rule} {rs : List ORule}
    (h : optimizeWith extras withList rules = some rs) : rs.length = rules.length := by
  unfold optimizeWith at h
  split at h
  · cases h
  · rename_i hm
    cases h
    rw [List.length_map, length_mapM hm]

theorem optimizeWith_of_list_idle {extras : Bool} {rules : List Rule}
    (h : ∀ r ∈ rules, astPasses extras false rules r = astPasses extras true rules r) :
    optimizeWith extras false rules = optimize extras rules := by
  unfold optimize optimizeWith
  rw [mapM_congr fun r hr => by rw [h r hr]]

end PestModel.G
