import PestModel.Model.PStateSpec
import PestModel.Lemmas.PStateLimitSim
import PestModel.Lemmas.PStateDetail
/-! Everything `Thm/C12` (call limit) and `Thm/C15` (detailed attempts) need. -/
