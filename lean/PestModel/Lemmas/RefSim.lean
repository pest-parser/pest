import PestModel.Lemmas.RefSkip
/-! Changing the rule bodies to ones equivalent on valid states does not change what a grammar means. -/
namespace PestModel.Ref
open PestModel.G
open PestModel.LineCol (Str bLen cLen splitAt?)
open PestModel.Views (Tree)
open PestModel.PS (Atomicity CharSet restAt asciiLower eqIgnoreAsciiCase normalizeIndex)

/-- same name and type; bodies equivalent (on valid states) in the mode the body runs in. -/
def RuleRel (c : Ctx) (r r' : Rule) : Prop :=
  r.name = r'.name ∧ r.ty = r'.ty ∧ ∀ m, EqOn (Valid c) c (bodyMode r.name r.ty m) r.expr r'.expr

theorem rule?_go_rel {R : Rule → Rule → Prop} (hn : ∀ r r', R r r' → r.name = r'.name) {rules rules' : List Rule}
    (h : F2 R rules rules') (name : String) (k : Nat) :
    (Ctx.rule?.go name rules k = none ∧ Ctx.rule?.go name rules' k = none) ∨
      ∃ id r r', Ctx.rule?.go name rules k = some (id, r) ∧ Ctx.rule?.go name rules' k = some (id, r') ∧ R r r' := by
  induction h generalizing k with
  | nil => left; simp [Ctx.rule?.go]
  | @cons x y xs ys hx _ ih =>
    rw [Ctx.rule?.go, Ctx.rule?.go, ← hn _ _ hx]
    by_cases hxn : x.name = name
    · right
      exact ⟨k, x, y, by simp [hxn], by simp [hxn], hx⟩
    · simp only [hxn, if_false]
      exact ih (k + 1)

theorem builtin_congr {c c' : Ctx} (hi : c'.input = c.input) (hu : c'.uni = c.uni)
    (hl : c'.rules.length = c.rules.length) m la nm s : builtin c' m la nm s = builtin c m la nm s := by
  unfold builtin lit oneChar
  rw [hi, hu, hl]

theorem valid_zero (c : Ctx) (st : List Str) : Valid c ⟨0, st⟩ := by
  unfold Valid restAt
  cases c.input <;> simp [splitAt?]

/-- with the recursive calls answered by `V c`, one unfolding under `rules'` (bodies replaced by
equivalent ones) is one unfolding under the original rules. -/
theorem step_rules_V (c : Ctx) (rules' : List Rule) (hR : F2 (RuleRel c) c.rules rules') (q : Q) (hq : Valid c q.s) :
    (step { c with rules := rules' } (V c)).at q = (V c).at q := by
  have hgo := fun name => rule?_go_rel (R := RuleRel c) (fun r r' h => h.1) hR name 0
  conv => rhs; rw [V_fix]
  cases q with
  | k m la s =>
    have hhas : ∀ name, Ctx.has { c with rules := rules' } name = c.has name := by
      intro name
      unfold Ctx.has Ctx.rule?
      rcases hgo name with ⟨h1, h2⟩ | ⟨id, r, r', h1, h2, _⟩ <;> rw [h1, h2] <;> rfl
    simp only [Fam.at, step, skipWsF, hhas]
  | ca m la nm s =>
    simp only [Fam.at, step, callF]
    unfold Ctx.rule?
    rcases hgo nm with ⟨h1, h2⟩ | ⟨id, r, r', h1, h2, hn, ht, hb⟩
    · rw [h1, h2]
      exact builtin_congr (c' := { c with rules := rules' }) (c := c) rfl rfl hR.length_eq.symm m la nm s
    · rw [h1, h2]
      simp only []
      have := hb m la s hq
      unfold val at this
      rw [← hn, ← ht, ← this]
  | _ => rfl

/-- evaluation under `rules'` approximates evaluation under the original rules. -/
theorem sim_rules (c : Ctx) (rules' : List Rule) (hR : F2 (RuleRel c) c.rules rules') :
    ∀ n, (lev { c with rules := rules' } n).leOn (Valid c) (V c) :=
  lev_induct _ (P := fun X => X.leOn (Valid c) (V c)) (fun _ h q _ => h q ▸ Res.fuel_le _) fun _ ih q hq =>
    step_rules_V c rules' hR q hq ▸ step_monoOn _ ih (inv_valid c) q hq

/-- bodies replaced by ones equivalent (on boundary states) under the OLD rules: the new semantics is below the old one,
at every call of each of the six functions that starts on a boundary. -/
theorem V_le_of_rel (c : Ctx) (rules' : List Rule) (hR : F2 (RuleRel c) c.rules rules') (q : Q) (hq : Valid c q.s) :
    ((V { c with rules := rules' }).at q).le ((V c).at q) := by
  obtain ⟨n, hn⟩ := exists_lev { c with rules := rules' } q
  exact hn ▸ sim_rules c rules' hR n q hq

/-- … and equivalent under the NEW rules as well: the two semantics agree there. -/
theorem V_eq_of_rel (c : Ctx) (rules' : List Rule) (hR : F2 (RuleRel c) c.rules rules')
    (hR' : F2 (RuleRel { c with rules := rules' }) rules' c.rules) (q : Q) (hq : Valid c q.s) :
    (V { c with rules := rules' }).at q = (V c).at q :=
  Res.le_antisymm (V_le_of_rel c rules' hR q hq) (V_le_of_rel { c with rules := rules' } c.rules hR' q hq)

end PestModel.Ref
