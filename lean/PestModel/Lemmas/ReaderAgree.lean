import PestModel.Model.ReaderP
import PestModel.Lemmas.ReaderEqns
import PestModel.Lemmas.Pratt
/-! The three outcomes `R3` (inversion of `bind`/`map`, the postcondition `R3.Post`), and `ReaderFull` against `ReaderP`:
forgetting which failure it was (`R3.toOption`), the three-valued reader is the two-valued one, on every input. -/
namespace PestModel.ReaderAgree
open PestModel.G PestModel.Reader
open PestModel.Views (Tree)
open PestModel.LineCol (Str)
open PestModel.ReaderP (R3 orPanic orErr)
namespace F
export PestModel.ReaderFull (literal numberOf integerOf getNodeTag peekSlice leafNode postfixOp postfixes build infixStage nodeOf wrapTag unariesStep consumeExprStep consumeExpr unaries ruleParts consumeRule consumeRulesGo consumeRulesWithSpans consumeRules)
end F
namespace P
export PestModel.ReaderP (literal numberOf integerOf getNodeTag peekSlice leafNode postfixOp postfixes build infixStage nodeOf wrapTag unariesStep consumeExprStep consumeExpr unaries ruleParts consumeRule consumeRulesGo consumeRulesWithSpans consumeRules anyPanic)
end P
open PestModel.ReaderFull (kind strOf stripEnds dropFirstByte theChar tokens isOp dropLead modifierOf)

theorem _root_.PestModel.ReaderP.R3.bind_eq_ok {α β : Type} {x : R3 α} {f : α → R3 β} {b : β} :
    x.bind f = .ok b ↔ ∃ a, x = .ok a ∧ f a = .ok b := by
  cases x <;> simp [R3.bind]

theorem _root_.PestModel.ReaderP.R3.map_eq_ok {α β : Type} {x : R3 α} {f : α → β} {b : β} :
    x.map f = .ok b ↔ ∃ a, x = .ok a ∧ f a = b := by
  cases x <;> simp [R3.map, R3.bind]

theorem _root_.PestModel.ReaderP.orPanic_eq_ok {α : Type} {o : Option α} {a : α} : orPanic o = .ok a ↔ o = some a := by
  cases o <;> simp [orPanic]

@[simp] theorem to_ok {α : Type} (a : α) : (R3.ok a).toOption = some a := rfl
@[simp] theorem to_err {α : Type} : (R3.err : R3 α).toOption = none := rfl
@[simp] theorem to_panic {α : Type} : (R3.panic : R3 α).toOption = none := rfl
@[simp] theorem to_orPanic {α : Type} (o : Option α) : (orPanic o).toOption = o := by cases o <;> rfl
@[simp] theorem to_orErr {α : Type} (o : Option α) : (orErr o).toOption = o := by cases o <;> rfl
theorem ok_of_toOption {α : Type} {x : R3 α} {a : α} (h : x.toOption = some a) : x = .ok a := by
  cases x <;> cases h; rfl

/-- `x` is not a panic, and the value it returns (if any) satisfies `Q`. -/
def _root_.PestModel.ReaderP.R3.Post {α : Type} (x : R3 α) (Q : α → Prop) : Prop := x ≠ .panic ∧ ∀ a, x = .ok a → Q a

section Post
variable {α β : Type} {x : R3 α} {Q : α → Prop} {R : β → Prop}

theorem _root_.PestModel.ReaderP.R3.Post.pure {a : α} (h : Q a) : (R3.ok a).Post Q := ⟨nofun, fun _ hb => by cases hb; exact h⟩

theorem _root_.PestModel.ReaderP.R3.Post.err : (R3.err : R3 α).Post Q := ⟨nofun, nofun⟩

theorem _root_.PestModel.ReaderP.R3.Post.bind {f : α → R3 β} (hx : x.Post Q) (hf : ∀ a, Q a → (f a).Post R) :
    (x.bind f).Post R := by
  cases x with
  | ok a => exact hf a (hx.2 a rfl)
  | err => exact .err
  | panic => exact absurd rfl hx.1

theorem _root_.PestModel.ReaderP.R3.Post.map {f : α → β} (hx : x.Post Q) (hf : ∀ a, Q a → R (f a)) : (x.map f).Post R :=
  hx.bind fun a ha => .pure (hf a ha)

theorem _root_.PestModel.ReaderP.R3.Post.mono {Q' : α → Prop} (hx : x.Post Q) (h : ∀ a, Q a → Q' a) : x.Post Q' :=
  ⟨hx.1, fun a ha => h a (hx.2 a ha)⟩

theorem _root_.PestModel.ReaderP.R3.Post.of_toOption {a : α} (hx : x.Post Q) (h : x.toOption = some a) : Q a :=
  hx.2 a (ok_of_toOption h)
end Post

theorem to_bind {α β : Type} (x : R3 α) (f : α → R3 β) : (x.bind f).toOption = x.toOption.bind fun a => (f a).toOption := by
  cases x <;> rfl
theorem to_map {α β : Type} (x : R3 α) (f : α → β) : (x.map f).toOption = x.toOption.map f := by
  cases x <;> rfl

theorem literal_agree (text : Str) (t : Tree) : (P.literal text t).toOption = F.literal text t := by
  simp only [ReaderP.literal, ReaderFull.literal, to_bind, to_orPanic, to_orErr]
  cases h1 : strOf text t with
  | none => simp
  | some s => cases h2 : unescape s <;> simp [h2]

theorem numberOf_agree (text : Str) (t : Tree) : (P.numberOf text t).toOption = F.numberOf text t := by
  simp only [ReaderP.numberOf, ReaderFull.numberOf, to_bind, to_orPanic, to_orErr]
  cases h1 : strOf text t <;> simp

theorem integerOf_agree (text : Str) (t : Tree) : (P.integerOf text t).toOption = F.integerOf text t := by
  simp only [ReaderP.integerOf, ReaderFull.integerOf, to_bind, to_orPanic, to_orErr]
  cases h1 : strOf text t <;> simp

/-- `toOption` through an `if`: with `to_bind`/`to_map` it turns a `ReaderP` function into the `if` ladder of its
`ReaderFull` twin, so that the two can be compared branch by branch (`ite_congr`). -/
theorem to_ite {α : Type} (c : Prop) [Decidable c] (a b : R3 α) :
    (if c then a else b).toOption = if c then a.toOption else b.toOption := by split <;> rfl

/- The next five functions are the same `if` ladders over the pair kind in both models; the proofs walk the ladder
(walking it before splitting the children keeps the case split linear), then split the list of children as far as the
branch looks into it. What is left is `x.toOption.bind …` against `match x with …` for the `Option`s involved. -/

theorem getNodeTag_agree (text : Str) (ps : List Tree) : (P.getNodeTag text ps).toOption = F.getNodeTag text ps := by
  rcases ps with _ | ⟨p, _ | ⟨q, _ | ⟨r, ps⟩⟩⟩ <;> simp only [ReaderP.getNodeTag, ReaderFull.getNodeTag, to_ite] <;> try rfl
  all_goals refine ite_congr rfl (fun _ => ?_) (fun _ => rfl)
  all_goals simp only [to_bind, to_orPanic]
  all_goals (repeat' split) <;> simp_all

/-- what `peek_slice` does after the start index: the second half of `peekSlice`, in each model. -/
def P.peekEnd (text : Str) (a : Int) : List Tree → R3 Expr
  | pe :: rest' =>
    if kind pe = "closing_brack" then .ok (.peekSlice a none)
    else if kind pe = "integer" then
      match rest' with
      | _ :: _ => (P.integerOf text pe).map fun b => .peekSlice a (some b)
      | [] => .panic
    else .panic
  | [] => .panic

def F.peekEnd (text : Str) (a : Int) : List Tree → Option Expr
  | pe :: rest' =>
    if kind pe = "closing_brack" then some (.peekSlice a none)
    else if kind pe = "integer" then
      match rest' with
      | _ :: _ => (F.integerOf text pe).map fun b => .peekSlice a (some b)
      | [] => none
    else none
  | [] => none

theorem peekEnd_agree (text : Str) (a : Int) (more : List Tree) : (P.peekEnd text a more).toOption = F.peekEnd text a more := by
  rcases more with _ | ⟨pe, _ | ⟨y, ys⟩⟩ <;> simp only [P.peekEnd, F.peekEnd, to_ite, to_map, integerOf_agree] <;> rfl

theorem peekSlice_agree (text : Str) (cs : List Tree) : (P.peekSlice text cs).toOption = F.peekSlice text cs := by
  rcases cs with _ | ⟨x, _ | ⟨ps, rest⟩⟩ <;> try rfl
  simp only [ReaderP.peekSlice, ReaderFull.peekSlice, to_bind]
  by_cases h1 : kind ps = "range_operator"
  · simp only [h1, if_true, to_ok, Option.bind_some]
    cases rest with
    | nil => rfl
    | cons pe rest' => exact peekEnd_agree text 0 (pe :: rest')
  · simp only [h1, if_false]
    by_cases h2 : kind ps = "integer"
    · simp only [h2, if_true]
      rcases rest with _ | ⟨r0, more⟩
      · rfl
      · simp only [to_map, integerOf_agree]
        cases ReaderFull.integerOf text ps with
        | none => rfl
        | some a =>
          cases more with
          | nil => rfl
          | cons pe rest' => exact peekEnd_agree text a (pe :: rest')
    · simp only [h2, if_false]; rfl

theorem leafNode_agree (extras : Bool) (text : Str) (t : Tree) : (P.leafNode extras text t).toOption = F.leafNode extras text t := by
  simp only [ReaderP.leafNode, ReaderFull.leafNode, to_ite]
  generalize t.children = cs
  repeat' (first | rfl | exact peekSlice_agree text _ | refine ite_congr rfl (fun _ => ?_) (fun _ => ?_))
  all_goals (rcases cs with _ | ⟨a, _ | ⟨b, _ | ⟨c, cs⟩⟩⟩ <;> try rfl)
  all_goals simp only [to_bind, to_map, literal_agree, to_orPanic, to_orErr]
  all_goals (repeat' split) <;> simp_all

theorem postfixOp_agree (text : Str) (n : Expr) (p : Tree) : (P.postfixOp text n p).toOption = F.postfixOp text n p := by
  simp only [ReaderP.postfixOp, ReaderFull.postfixOp, to_ite]
  generalize p.children = cs
  repeat' (first | rfl | refine ite_congr rfl (fun _ => ?_) (fun _ => ?_))
  all_goals (rcases cs with _ | ⟨a, _ | ⟨b, _ | ⟨c, _ | ⟨d, cs⟩⟩⟩⟩ <;> try rfl)
  all_goals simp only [to_bind, to_map, numberOf_agree]
  all_goals (repeat' split) <;> simp_all

theorem postfixes_agree (text : Str) : ∀ (ps : List Tree) (n : Expr), (P.postfixes text n ps).toOption = F.postfixes text n ps
  | [], n => rfl
  | p :: ps, n => by
    simp only [ReaderP.postfixes, ReaderFull.postfixes, List.foldlM_cons, to_bind, postfixOp_agree]
    cases h : ReaderFull.postfixOp text n p with
    | none => rfl
    | some n' =>
      simp only [Option.bind_some, Option.bind_eq_bind]
      have := postfixes_agree text ps n'
      simpa [ReaderFull.postfixes] using this

theorem build_agree (prims : List (R3 Expr)) : ∀ b : Bin, (P.build prims b).toOption = F.build (prims.map R3.toOption) b
  | .leaf i => by
    simp only [ReaderP.build, ReaderFull.build, List.getElem?_map]
    cases prims[i]? <;> rfl
  | .seq a b => by
    simp only [ReaderP.build, ReaderFull.build, to_bind, build_agree prims a, build_agree prims b]
    cases F.build (prims.map R3.toOption) a <;> cases F.build (prims.map R3.toOption) b <;> rfl
  | .alt a b => by
    simp only [ReaderP.build, ReaderFull.build, to_bind, build_agree prims a, build_agree prims b]
    cases F.build (prims.map R3.toOption) a <;> cases F.build (prims.map R3.toOption) b <;> rfl

/-! ### the recursive part: the two models are one reader -/

/-- the leaf indices of a skeleton, left to right. -/
def _root_.PestModel.ReaderShape.leaves : Bin → List Nat
  | .leaf i => [i]
  | .seq a b => ReaderShape.leaves a ++ ReaderShape.leaves b
  | .alt a b => ReaderShape.leaves a ++ ReaderShape.leaves b

open PestModel.ReaderShape (leaves)
open PestModel.ReaderFull (build_leaf_some build_seq_some build_alt_some)

theorem build_some_leaves (prims : List (Option Expr)) : ∀ (b : Bin) (e : Expr), F.build prims b = some e →
    ∀ k ∈ leaves b, ∃ x, prims[k]? = some (some x)
  | .leaf i, e, h, k, hk => by cases List.mem_singleton.1 hk; exact ⟨e, build_leaf_some.1 h⟩
  | .seq a b, e, h, k, hk => by
    obtain ⟨x, y, ha, hb, _⟩ := build_seq_some.1 h
    exact (List.mem_append.1 hk).elim (build_some_leaves prims a x ha k) (build_some_leaves prims b y hb k)
  | .alt a b, e, h, k, hk => by
    obtain ⟨x, y, ha, hb, _⟩ := build_alt_some.1 h
    exact (List.mem_append.1 hk).elim (build_some_leaves prims a x ha k) (build_some_leaves prims b y hb k)

theorem anyPanic_eq_false : ∀ {prims : List (R3 Expr)}, P.anyPanic prims = false ↔ ∀ r ∈ prims, r ≠ .panic
  | [] => by simp [ReaderP.anyPanic]
  | .panic :: rest => by simp [ReaderP.anyPanic]
  | .ok _ :: rest | .err :: rest => by simp [ReaderP.anyPanic, anyPanic_eq_false (prims := rest)]

/-- the index of a primary token. -/
def primIx (r : Nat) : Option Nat := if r ≥ 100 then some (r - 100) else none

theorem leaves_ofTree : ∀ (T : Pratt.Tree) (b : Bin), ofTree T = some b → leaves b = T.yield.filterMap primIx
  | .prim r, b, h => by
    simp only [ofTree, Option.ite_none_right_eq_some, Option.some.injEq] at h
    obtain ⟨hr, rfl⟩ := h
    simp [leaves, Pratt.Tree.yield, primIx, hr]
  | .inf l r rt, b, h => by
    simp only [ofTree] at h
    rcases hl : ofTree l with _ | x <;> rcases hr : ofTree rt with _ | y <;> simp only [hl, hr] at h <;> try cases h
    have hb : leaves b = leaves x ++ leaves y ∧ primIx r = none := by
      repeat' split at h
      all_goals first | (cases h; done) | (cases h; rename_i hr'; exact ⟨rfl, by rw [hr']; decide⟩)
    simp [hb, Pratt.Tree.yield, leaves_ofTree l x hl, leaves_ofTree rt y hr]
  | .pre _ _, _, h => by simp [ofTree] at h
  | .post _ _, _, h => by simp [ofTree] at h

theorem tokens_prims : ∀ (ps : List Tree) (i : Nat),
    (tokens ps i).filterMap primIx = List.range' i (ps.filter fun p => !isOp p).length
  | [], _ => rfl
  | p :: ps, i => by
    by_cases h1 : kind p = "choice_operator"
    · simp [tokens, h1, isOp, tokens_prims ps i, primIx, altTok]
    · by_cases h2 : kind p = "sequence_operator"
      · simp [tokens, h2, isOp, tokens_prims ps i, primIx, seqTok]
      · simp [tokens, h1, h2, isOp, tokens_prims ps (i + 1), primIx, List.range'_succ]

theorem readerTable_pos : Pratt.Pos readerTable := Pratt.prattTable_pos' _

/-- a skeleton the reader's Pratt parser returns uses every primary, once and in order: a successful parse consumes all its
tokens (`parse_rest_nil`), in order (`parse_yield`). -/
theorem stage_leaves {ps : List Tree} {T : Pratt.Tree} {rest : List Nat} {b : Bin}
    (hp : Pratt.parse readerTable (tokens ps 0) = .ok (T, rest)) (ho : ofTree T = some b) :
    leaves b = List.range (ps.filter fun p => !isOp p).length := by
  have hy := Pratt.parse_yield hp
  rw [Pratt.parse_rest_nil readerTable_pos hp, List.append_nil] at hy
  rw [leaves_ofTree T b ho, hy, tokens_prims, List.range_eq_range']

/-- **the two infix stages agree on every input**: a panic among the primaries is a `none` on the other side, and every
primary is used (`stage_leaves`), so both stages fail. -/
theorem infixStage_agree (ps : List Tree) (prims : List (R3 Expr))
    (hl : prims.length = (ps.filter fun p => !isOp p).length) :
    (ReaderP.infixStage ps prims).toOption = ReaderFull.infixStage ps (prims.map R3.toOption) := by
  simp only [ReaderP.infixStage, ReaderFull.infixStage]
  rcases hp : Pratt.parse readerTable (tokens ps 0) with ⟨T, rest⟩ | _ | _ <;> try rfl
  rcases ho : ofTree T with _ | b <;> simp only [ho] <;> try rfl
  by_cases ha : ∀ r ∈ prims, r ≠ .panic
  · simpa [anyPanic_eq_false.2 ha] using build_agree prims b
  · rw [if_pos (by rw [← Bool.not_eq_false, anyPanic_eq_false]; exact ha)]
    refine (Option.eq_none_iff_forall_ne_some.2 fun e hb => ha fun r hr hpn => ?_).symm
    obtain ⟨k, hk, rfl⟩ := List.getElem_of_mem hr
    obtain ⟨x, hx⟩ := build_some_leaves _ _ _ hb k (by rw [stage_leaves hp ho, ← hl]; exact List.mem_range.2 hk)
    simp [List.getElem?_eq_getElem hk, hpn] at hx

/-- the form in which `consumeExprStep` calls the stage. -/
theorem infixStage_map (ps : List Tree) (rd : Tree → R3 Expr) :
    (ReaderP.infixStage ps ((ps.filter fun p => !isOp p).map rd)).toOption =
      ReaderFull.infixStage ps ((ps.filter fun p => !isOp p).map fun p => (rd p).toOption) := by
  rw [infixStage_agree _ _ (List.length_map _), List.map_map]; rfl

section rec
variable (extras : Bool) (text : Str) {ceP unP : List Tree → R3 Expr} {ceF unF : List Tree → Option Expr}
  (hce : ∀ ps, (ceP ps).toOption = ceF ps) (hun : ∀ ps, (unP ps).toOption = unF ps)
include hun

theorem consumeExprStep_agree (pairs : List Tree) :
    (ReaderP.consumeExprStep unP pairs).toOption = ReaderFull.consumeExprStep unF pairs := by
  simp only [ReaderP.consumeExprStep, ReaderFull.consumeExprStep]
  rw [infixStage_map]
  exact congrArg _ (List.map_congr_left fun p _ => hun _)

include hce

theorem nodeOf_agree (pair : Tree) (rest : List Tree) :
    (ReaderP.nodeOf extras text ceP unP pair rest).toOption = ReaderFull.nodeOf extras text ceF unF pair rest := by
  simp only [ReaderP.nodeOf, ReaderFull.nodeOf, to_ite, to_map, to_bind, hun, hce, leafNode_agree, postfixes_agree]
  refine ite_congr rfl (fun _ => rfl) fun _ => ite_congr rfl (fun _ => rfl) fun _ => ite_congr rfl (fun _ => rfl) fun _ => ?_
  rcases pair.children with _ | ⟨a, _ | ⟨e, r⟩⟩ <;> simp only [to_map, to_panic, hce] <;>
    (generalize (ite (kind pair = "expression") _ _ : Option Expr) = o; cases o <;> rfl)

theorem unariesStep_agree (pairs : List Tree) :
    (ReaderP.unariesStep extras text ceP unP pairs).toOption = ReaderFull.unariesStep extras text ceF unF pairs := by
  simp only [ReaderP.unariesStep, ReaderFull.unariesStep, to_bind, getNodeTag_agree]
  rcases ReaderFull.getNodeTag text pairs with _ | ⟨pair, rest, _ | tag⟩ <;> try rfl
  all_goals simp only [Option.bind_some, ReaderP.wrapTag, ReaderFull.wrapTag, to_ite, to_map, nodeOf_agree extras text hce hun]
  all_goals cases ReaderFull.nodeOf extras text ceF unF pair rest <;> cases extras <;> rfl

end rec

theorem rec_agree (extras : Bool) (text : Str) : ∀ f : Nat,
    (∀ ps, (ReaderP.consumeExpr extras text f ps).toOption = ReaderFull.consumeExpr extras text f ps) ∧
    (∀ ps, (ReaderP.unaries extras text f ps).toOption = ReaderFull.unaries extras text f ps)
  | 0 => ⟨fun _ => rfl, fun _ => rfl⟩
  | f + 1 => by
    obtain ⟨ih1, ih2⟩ := rec_agree extras text f
    exact ⟨consumeExprStep_agree ih2, unariesStep_agree extras text ih1 ih2⟩

theorem ruleParts_agree (text : Str) (t : Tree) : (P.ruleParts text t).toOption = F.ruleParts text t := by
  simp only [ReaderP.ruleParts, ReaderFull.ruleParts]
  rcases t.children with _ | ⟨id, _ | ⟨asg, _ | ⟨m, rest⟩⟩⟩ <;> try rfl
  simp only [to_bind, to_ite, to_map, to_orPanic, to_ok]
  split
  · rcases modifierOf (kind m) with _ | ty
    · cases strOf text id <;> rfl
    · rcases rest with _ | ⟨ob, _ | ⟨e, r⟩⟩ <;> cases strOf text id <;> try rfl
      simp only [to_bind, to_orPanic, Option.map_some, Option.bind_some]; cases e.children <;> rfl
  · rcases rest with _ | ⟨e, r⟩ <;> cases strOf text id <;> try rfl
    simp only [to_bind, to_orPanic, Option.bind_some]; cases e.children <;> rfl

theorem consumeRule_agree (extras : Bool) (text : Str) (fuel : Nat) (t : Tree) :
    (ReaderP.consumeRule extras text fuel t).toOption = ReaderFull.consumeRule extras text fuel t := by
  simp only [ReaderP.consumeRule, ReaderFull.consumeRule, to_bind, ruleParts_agree]
  rcases ReaderFull.ruleParts text t with _ | ⟨name, ty, inner⟩ <;> simp [to_map, (rec_agree extras text fuel).1]

theorem consumeRulesGo_agree (extras : Bool) (text : Str) (fuel : Nat) : ∀ ts : List Tree,
    (ReaderP.consumeRulesGo extras text fuel ts).toOption = ReaderFull.consumeRulesGo extras text fuel ts
  | [] => rfl
  | t :: ts => by
    have ih := consumeRulesGo_agree extras text fuel ts
    simp only [ReaderP.consumeRulesGo, ReaderFull.consumeRulesGo, to_ite]
    refine ite_congr rfl (fun _ => ?_) (fun _ => ih)
    rcases t.children with _ | ⟨c, _⟩
    · rfl
    · simp only [to_ite, to_bind, to_map, ih, consumeRule_agree]
      refine ite_congr rfl (fun _ => rfl) fun _ => ?_
      cases ReaderFull.consumeRule extras text fuel t <;> cases ReaderFull.consumeRulesGo extras text fuel ts <;> rfl

theorem consumeRules_agree (extras : Bool) (text : Str) (forest : List Tree) :
    (ReaderP.consumeRules extras text forest).toOption = ReaderFull.consumeRules extras text forest := by
  simp only [ReaderP.consumeRules, ReaderFull.consumeRules, ReaderP.consumeRulesWithSpans, ReaderFull.consumeRulesWithSpans,
    to_bind, consumeRulesGo_agree]
  cases ReaderFull.consumeRulesGo extras text _ forest <;> simp [to_ite]

/-- `x` agrees with `o` unless `x` is a panic. -/
def Ag {α : Type} (x : R3 α) (o : Option α) : Prop := x ≠ .panic → x.toOption = o

/-- wherever the three-valued reader does not panic, the two-valued reader returns the same rules (or nothing, for a
located error). -/
theorem consumeRules_ag (extras : Bool) (text : Str) (forest : List Tree) :
    Ag (P.consumeRules extras text forest) (F.consumeRules extras text forest) :=
  fun _ => consumeRules_agree extras text forest

end PestModel.ReaderAgree
