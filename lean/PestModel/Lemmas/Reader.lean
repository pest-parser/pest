import PestModel.Lemmas.ReaderEsc
import PestModel.Lemmas.ReaderNum
import PestModel.Lemmas.ReaderPratt
/-! Helper lemmas for C07 (`PestModel/Thm/C07.lean`):
* `ReaderEsc`   — `unescape` against `spell`/`spellAll` (one `unescapeGo` step per spelling form);
* `ReaderNum`   — `natDigits` against the decimal parsers (via core `Nat.ofDigitChars`);
* `ReaderPratt` — the shunting-yard machine on the tokens of a canonical skeleton. -/
