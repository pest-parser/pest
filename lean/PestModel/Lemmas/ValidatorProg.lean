import PestModel.Lemmas.Validator
import PestModel.Lemmas.ValidatorFwd
/-! C06: the inductive reading `Prog` of "`is_non_progressing` = false"
(no fuel, no trace cut-off) and its meaning: a `Prog` expression that matches has consumed input. -/
namespace PestModel.V
open PestModel.G PestModel.Ref
open PestModel.LineCol (Str bLen cLen)
open PestModel.Views (Tree)
open PestModel.PS (Atomicity CharSet)

def stackNames : List String := ["PUSH", "PEEK", "PEEK_ALL", "POP", "POP_ALL", "DROP"]

def SF : Expr → Bool
  | .ident n => !stackNames.contains n
  | .peekSlice _ _ | .push _ | .pushLiteral _ => false
  | .posPred e | .negPred e | .opt e | .rep e | .repOnce e | .nodeTag e _ => SF e
  | .repExact e _ | .repMin e _ | .repMax e _ | .repMinMax e _ _ => SF e
  | .seq a b | .choice a b => SF a && SF b
  | _ => true

/-- `e` consumes at least one byte whenever it matches: the least-fixed-point reading of
`isNonProgressing … = false`. -/
inductive Prog (rules : List Rule) : Expr → Prop
  | str {s : Str} : s ≠ [] → Prog rules (.str s)
  | insens {s : Str} : s ≠ [] → Prog rules (.insens s)
  | range (a b : Char) : Prog rules (.range a b)
  | builtin {n : String} : lookup rules n = none → n ≠ "SOI" → n ≠ "EOI" → n ∉ stackNames → Prog rules (.ident n)
  | rule {n : String} {body : Expr} : lookup rules n = some body → Prog rules body → Prog rules (.ident n)
  | seqL {a b : Expr} : Prog rules a → Prog rules (.seq a b)
  | seqR {a b : Expr} : Prog rules b → Prog rules (.seq a b)
  | choice {a b : Expr} : Prog rules a → Prog rules b → Prog rules (.choice a b)
  | repOnce {e : Expr} : Prog rules e → Prog rules (.repOnce e)
  | nodeTag {e : Expr} {t : Str} : Prog rules e → Prog rules (.nodeTag e t)
  | repExact {e : Expr} {n : Nat} : n ≠ 0 → Prog rules e → Prog rules (.repExact e n)
  | repMin {e : Expr} {n : Nat} : n ≠ 0 → Prog rules e → Prog rules (.repMin e n)
  | repMinMax {e : Expr} {lo hi : Nat} : lo ≠ 0 → Prog rules e → Prog rules (.repMinMax e lo hi)

theorem lookup_eq_rule? (c : Ctx) (name : String) : lookup c.rules name = (c.rule? name).map (·.2.expr) := by
  unfold lookup
  rw [← rule?_map, Option.map_map]
  rfl

theorem lookup_of_rule? {c : Ctx} {name : String} {id : Nat} {r : Rule} (h : c.rule? name = some (id, r)) :
    lookup c.rules name = some r.expr ∧ r ∈ c.rules ∧ r.name = name := by
  have hf : c.rules.find? (·.name = name) = some r := by rw [← rule?_map, h]; rfl
  exact ⟨by rw [lookup_eq_rule?, h]; rfl, List.mem_of_find?_eq_some hf, by simpa using List.find?_some hf⟩

theorem rule?_none_iff {c : Ctx} {name : String} : c.rule? name = none ↔ lookup c.rules name = none := by
  rw [lookup_eq_rule?, Option.map_eq_none_iff]

theorem rule?_of_lookup' {c : Ctx} {name : String} {body : Expr} (h : lookup c.rules name = some body) :
    ∃ id r, c.rule? name = some (id, r) ∧ r.expr = body ∧ r ∈ c.rules ∧ r.name = name := by
  rw [lookup_eq_rule?, Option.map_eq_some_iff] at h
  obtain ⟨⟨id, r⟩, hr, hb⟩ := h
  exact ⟨id, r, hr, hb, (lookup_of_rule? hr).2⟩

theorem builtin_progress {c : Ctx} {m la nm s s' f} (h1 : nm ≠ "SOI") (h2 : nm ≠ "EOI") (h3 : nm ∉ stackNames)
    (h : builtin c m la nm s = .ok s' f) : s.pos < s'.pos :=
  (builtin_spec m la nm s).2 s' f h h1 h2 h3

section
variable {c : Ctx} {m : Atomicity} {la : Bool} {s : St}

/-- a sequence consumes if one of its parts does. -/
theorem val_seq_progress {a b : Expr} {s' : St} {f : List Tree}
    (hp : (∀ s s' f, val c m la a s = .ok s' f → s.pos < s'.pos) ∨ (∀ s s' f, val c m la b s = .ok s' f → s.pos < s'.pos))
    (h : val c m la (.seq a b) s = .ok s' f) : s.pos < s'.pos := by
  obtain ⟨s1, f1, s2, f2, f3, h1, h2, h3⟩ := val_seq_ok h
  have := (val_fwd h1).le
  have := (valK_fwd h2).le
  have := (val_fwd h3).le
  rcases hp with hp | hp
  · have := hp _ _ _ h1; omega
  · have := hp _ _ _ h3; omega

end

/-- an unrolled repetition whose first copy consumes, consumes. -/
theorem unrolled_progress {c : Ctx} {m la} {e : Expr} {rest : List Expr} {s s' : St} {f : List Tree}
    (he : ∀ s s' f, val c m la e s = .ok s' f → s.pos < s'.pos)
    (h : (match seqOfList (e :: rest) with | some u => val c m la u s | none => .stuck) = .ok s' f) :
    s.pos < s'.pos := by
  cases rest with
  | nil => exact he _ _ _ h
  | cons y ys =>
    split at h
    · rename_i u hu
      obtain ⟨u', _, rfl⟩ := seqOfList_cons_cons.1 hu
      exact val_seq_progress (Or.inl he) h
    · cases h

/-- a call of a rule whose body consumes, consumes. -/
theorem valCa_rule_progress {c : Ctx} {nm : String} {id : Nat} {r : Rule} (hr : c.rule? nm = some (id, r))
    (hp : ∀ m la s s' f, val c m la r.expr s = .ok s' f → s.pos < s'.pos) {m la s s' f}
    (h : valCa c m la nm s = .ok s' f) : s.pos < s'.pos := by
  rw [valCa_unfold, hr] at h
  obtain ⟨s1, f1, h1, h⟩ := Res.bind_eq_ok' h
  have := hp _ _ _ _ _ h1
  split at h <;> cases h <;> exact this

theorem prog_progress {c : Ctx} {e : Expr} (hp : Prog c.rules e) :
    ∀ m la s s' f, val c m la e s = .ok s' f → s.pos < s'.pos := by
  induction hp with
  | str hs =>
    intro m la s s' f h
    rw [val_str] at h
    have := lit_pos h; have := bLen_pos_of_ne_nil hs; omega
  | insens hs =>
    intro m la s s' f h
    rw [val_insens] at h
    have := insensM_pos h; have := bLen_pos_of_ne_nil hs; omega
  | range a b =>
    intro m la s s' f h
    rw [val_range] at h
    exact oneChar_pos_lt h
  | builtin hl h1 h2 h3 =>
    intro m la s s' f h
    rw [val_ident, valCa_unfold, rule?_none_iff.2 hl] at h
    exact builtin_progress h1 h2 h3 h
  | @rule n body hl _ ih =>
    intro m la s s' f h
    obtain ⟨id, r, hr, rfl, _, _⟩ := rule?_of_lookup' hl
    rw [val_ident] at h
    exact valCa_rule_progress hr ih h
  | seqL _ ih => exact fun m la s s' f h => val_seq_progress (Or.inl (ih m la)) h
  | seqR _ ih => exact fun m la s s' f h => val_seq_progress (Or.inr (ih m la)) h
  | @choice a b _ _ iha ihb =>
    intro m la s s' f h
    rw [val_choice] at h
    obtain h | ⟨_, h⟩ := Res.orElse_eq_ok h
    · exact iha _ _ _ _ _ h
    · exact ihb _ _ _ _ _ h
  | @repOnce e _ ih =>
    intro m la s s' f h
    rw [val_repOnce] at h
    split at h
    · obtain ⟨s1, f1, h1, h⟩ := Res.bind_eq_ok' h
      have := ih _ _ _ _ _ h1
      have := (valL_fwd h).le
      omega
    · exact val_seq_progress (Or.inl (ih m la)) h
  | @nodeTag e t _ ih =>
    intro m la s s' f h
    rw [val_nodeTag] at h
    obtain ⟨s1, f1, h1, h⟩ := Res.bind_eq_ok' h
    cases h; exact ih _ _ _ _ _ h1
  | @repExact e n hn _ ih =>
    intro m la s s' f h
    obtain ⟨k, rfl⟩ := Nat.exists_eq_succ_of_ne_zero hn
    rw [val_repExact, List.replicate_succ] at h
    exact unrolled_progress (ih m la) h
  | @repMin e n hn _ ih =>
    intro m la s s' f h
    obtain ⟨k, rfl⟩ := Nat.exists_eq_succ_of_ne_zero hn
    rw [val_repMin, List.replicate_succ, List.cons_append] at h
    exact unrolled_progress (ih m la) h
  | @repMinMax e lo hi hn _ ih =>
    intro m la s s' f h
    rw [val_repMinMax] at h
    cases hi with
    | zero => cases h
    | succ k =>
      rw [List.range_succ_eq_map, List.map_cons, if_pos (by omega : 0 + 1 ≤ lo)] at h
      exact unrolled_progress (ih m la) h

end PestModel.V
