import PestModel.Lemmas.GenVmBase
/-! C02: the continuations `K` of the bracketing combinators respect `SEq` (`KFrame`); for those
that do not look at the stack because they commute with replacing it (`ws st`, which unfolds to
`rew id id fun _ => st`). -/
namespace PestModel.GenVm
open PestModel.PS PestModel.Stack
open PestModel.LineCol (Str isBoundary slice?)

theorem SEq0.exists {s1 s2 : PState} (h : SEq0 s1 s2) : ∃ st, s2 = ws st s1 ∧ s1.stack.cache = st.cache :=
  ⟨s2.stack, h.1, h.2⟩

theorem checkpoint_eq (s : PState) :
    checkpoint s = ws { s.stack with lengths := (s.stack.cache.length, s.stack.cache.length) :: s.stack.lengths } s :=
  rfl

theorem checkpoint_saved {s : PState} (h : Good s) :
    (abs (checkpoint s).stack).saved = s.stack.cache :: (abs s.stack).saved :=
  (snapshot_spec s.stack h.wf.2).2

theorem seq_checkpoint {s1 s2 : PState} (h : SEq s1 s2) : SEq (checkpoint s1) (checkpoint s2) := by
  obtain ⟨st, rfl, hc⟩ := h.core.exists
  refine ⟨⟨rfl, ?_⟩, good_checkpoint h.g1, good_checkpoint h.g2⟩
  exact hc

theorem seq_checkpoint_left {s : PState} (h : Good s) : SEq (checkpoint s) s :=
  ⟨⟨rfl, rfl⟩, good_checkpoint h, h⟩

theorem checkpointOk_good {ns : PState} (h : StkInv ns.stack) :
    ∃ st, checkpointOk ns = some (ws st ns) ∧ st.cache = ns.stack.cache ∧ StkInv st ∧
      (abs st).saved = (abs ns.stack).saved.tail := by
  obtain ⟨st, h1, h2, h3, h4⟩ := clearSnapshot_spec ns.stack h
  exact ⟨st, by simp [checkpointOk, h1, ws], h3, h2, h4⟩

theorem restoreStack_top {ns : PState} (h : StkInv ns.stack) {c : List Str} {cs : List (List Str)}
    (hs : (abs ns.stack).saved = c :: cs) :
    ∃ st, restoreStack ns = some (ws st ns) ∧ st.cache = c ∧ StkInv st ∧ (abs st).saved = cs := by
  obtain ⟨st, h1, h2, h3⟩ := restore_spec ns.stack h
  obtain ⟨h4, h5⟩ := h3 c cs hs
  exact ⟨st, by simp [restoreStack, h1, ws], h4, h2, h5⟩

theorem seqErrState_eq {s ns : PState} (h : QLe s.queue ns.queue) :
    seqErrState s ns = { ns with pos := s.pos, queue := s.queue } := by
  unfold seqErrState; rw [setLastTag_restore h]

/-- a failure inside a `sequence` started at `t`, when the top snapshot of the failing state is `c`:
position and queue are those of `t`, the stack is restored to `c`. -/
theorem seqK_err_eq {t x : PState} {c : List Str} {cs : List (List Str)} (i : StkInv x.stack)
    (f : (abs x.stack).saved = c :: cs) (q : QLe t.queue x.queue) :
    ∃ st, seqK t (.err x) = .err (ws st { x with pos := t.pos, queue := t.queue }) ∧ st.cache = c ∧
      StkInv st ∧ (abs st).saved = cs := by
  obtain ⟨st, h1, h2, h3, h4⟩ := restoreStack_top (ns := seqErrState t x) i f
  refine ⟨st, ?_, h2, h3, h4⟩
  show (match restoreStack (seqErrState t x) with | some ns => Out.err ns | none => .panic) = _
  rw [h1, seqErrState_eq q]

/-- the continuation `K` (after the body ran from `pre s`) maps related states to related outcomes. -/
structure KFrame (pre : PState → PState) (K : PState → Out → Out) : Prop where
  hpre : ∀ s1 s2, SEq s1 s2 → SEq (pre s1) (pre s2)
  hok : ∀ s1 s2 ns1 ns2, SEq s1 s2 → Rel (pre s1) ns1 → Rel (pre s2) ns2 → SEq ns1 ns2 →
    OEq0F (K s1 (.ok ns1)) (K s2 (.ok ns2))
  herr : ∀ s1 s2 ns1 ns2, SEq s1 s2 → Rel (pre s1) ns1 → Rel (pre s2) ns2 → SEq ns1 ns2 →
    OEq0F (K s1 (.err ns1)) (K s2 (.err ns2))

theorem frame_clear {ns1 ns2 : PState} (hn : SEq ns1 ns2) :
    OEq0F (match checkpointOk ns1 with | some ns => Out.ok ns | none => .panic)
      (match checkpointOk ns2 with | some ns => Out.ok ns | none => .panic) := by
  obtain ⟨c1, h1, e1, -⟩ := checkpointOk_good hn.g1.wf.2
  obtain ⟨c2, h2, e2, -⟩ := checkpointOk_good hn.g2.wf.2
  obtain ⟨b, rfl, hc⟩ := hn.core.exists
  rw [h1, h2]
  exact ⟨rfl, by rw [ws_stack, ws_stack, e1, e2]; exact hc⟩

/-- restoring to the snapshot taken at `checkpoint s`. -/
theorem frame_restore {s1 s2 x1 x2 : PState} (hs : SEq s1 s2) (hx : SEq0 x1 x2)
    (i1 : StkInv x1.stack) (i2 : StkInv x2.stack)
    {cs1 cs2 : List (List Str)} (f1 : (abs x1.stack).saved = s1.stack.cache :: cs1)
    (f2 : (abs x2.stack).saved = s2.stack.cache :: cs2) :
    OEq0F (match restoreStack x1 with | some ns => Out.err ns | none => .panic)
      (match restoreStack x2 with | some ns => Out.err ns | none => .panic) := by
  obtain ⟨c1, h1, e1, -⟩ := restoreStack_top i1 f1
  obtain ⟨c2, h2, e2, -⟩ := restoreStack_top i2 f2
  obtain ⟨b, rfl, hc⟩ := hx.exists
  rw [h1, h2]
  exact ⟨rfl, by rw [ws_stack, ws_stack, e1, e2]; exact hs.core.2⟩

theorem rel_checkpoint_saved {s ns : PState} (hg : Good s) (r : Rel (checkpoint s) ns) :
    StkInv ns.stack ∧ (abs ns.stack).saved = s.stack.cache :: (abs s.stack).saved := by
  obtain ⟨i, e⟩ := r.stk (good_checkpoint hg).wf.2
  exact ⟨i, e.trans (checkpoint_saved hg)⟩

theorem seqK_frame : KFrame checkpoint seqK where
  hpre := fun _ _ h => seq_checkpoint h
  hok := fun s1 s2 ns1 ns2 _ _ _ hn => frame_clear hn
  herr := fun s1 s2 ns1 ns2 hs r1 r2 hn => by
    obtain ⟨a, rfl, -⟩ := hs.core.exists
    obtain ⟨b, rfl, hc⟩ := hn.core.exists
    obtain ⟨i1, f1⟩ := rel_checkpoint_saved hs.g1 r1
    obtain ⟨i2, f2⟩ := rel_checkpoint_saved hs.g2 r2
    exact frame_restore (s1 := s1) (s2 := ws a s1) (x1 := seqErrState s1 ns1)
      (x2 := seqErrState (ws a s1) (ws b ns1)) hs ⟨rfl, hc⟩ i1 i2 f1 f2

theorem roeK_frame : KFrame checkpoint roeK where
  hpre := fun _ _ h => seq_checkpoint h
  hok := fun s1 s2 ns1 ns2 _ _ _ hn => frame_clear hn
  herr := fun s1 s2 ns1 ns2 hs r1 r2 hn => by
    obtain ⟨i1, f1⟩ := rel_checkpoint_saved hs.g1 r1
    obtain ⟨i2, f2⟩ := rel_checkpoint_saved hs.g2 r2
    exact frame_restore hs hn.core i1 i2 f1 f2

theorem optK_frame : KFrame id optK where
  hpre := fun _ _ h => h
  hok := fun _ _ _ _ _ _ _ hn => hn.core
  herr := fun _ _ _ _ _ _ _ hn => hn.core

theorem idK_frame : KFrame id idK where
  hpre := fun _ _ h => h
  hok := fun _ _ _ _ _ _ _ hn => hn.core
  herr := fun _ _ _ _ _ _ _ hn => hn.core

theorem good_laMode {s : PState} (b : Bool) (h : Good s) :
    Good { s with lookahead := laMode b s.lookahead } := ⟨h.wf, h.calls⟩

theorem seq_laPre {s1 s2 : PState} (b : Bool) (h : SEq s1 s2) : SEq (laPre b s1) (laPre b s2) := by
  obtain ⟨st, rfl, hc⟩ := h.core.exists
  exact seq_checkpoint (s1 := { s1 with lookahead := laMode b s1.lookahead })
    (s2 := { ws st s1 with lookahead := laMode b s1.lookahead })
    ⟨⟨rfl, hc⟩, good_laMode b h.g1, good_laMode b h.g2⟩

theorem frame_laPost {b : Bool} {s1 s2 ns1 ns2 : PState} (hs : SEq s1 s2) (r1 : Rel (laPre b s1) ns1)
    (r2 : Rel (laPre b s2) ns2) (hn : SEq ns1 ns2) :
    ∃ x1 x2, laPost s1 ns1 = some x1 ∧ laPost s2 ns2 = some x2 ∧ SEq0 x1 x2 := by
  obtain ⟨i1, f1⟩ := rel_checkpoint_saved (good_laMode b hs.g1) r1
  obtain ⟨i2, f2⟩ := rel_checkpoint_saved (good_laMode b hs.g2) r2
  obtain ⟨c1, h1, e1, -⟩ := restoreStack_top (ns := { ns1 with pos := s1.pos, lookahead := s1.lookahead }) i1 f1
  obtain ⟨c2, h2, e2, -⟩ := restoreStack_top (ns := { ns2 with pos := s2.pos, lookahead := s2.lookahead }) i2 f2
  obtain ⟨a, rfl, ha⟩ := hs.core.exists
  obtain ⟨b', rfl, hc⟩ := hn.core.exists
  refine ⟨_, _, h1, h2, rfl, ?_⟩
  rw [ws_stack, ws_stack, e1, e2]; exact ha

theorem laK_frame (b : Bool) : KFrame (laPre b) (laK b) where
  hpre := fun _ _ h => seq_laPre b h
  hok := fun s1 s2 ns1 ns2 hs r1 r2 hn => by
    obtain ⟨x1, x2, h1, h2, hx⟩ := frame_laPost hs r1 r2 hn
    unfold laK; dsimp only; rw [h1, h2]
    cases b <;> exact hx
  herr := fun s1 s2 ns1 ns2 hs r1 r2 hn => by
    obtain ⟨x1, x2, h1, h2, hx⟩ := frame_laPost hs r1 r2 hn
    unfold laK; dsimp only; rw [h1, h2]
    cases b <;> exact hx

theorem pushK_frame : KFrame id pushK where
  hpre := fun _ _ h => h
  hok := fun s1 s2 ns1 ns2 hs _ _ hn => by
    obtain ⟨a, rfl, -⟩ := hs.core.exists
    obtain ⟨b, rfl, hc⟩ := hn.core.exists
    unfold pushK pushSpan; dsimp only
    show OEq0F (match slice? ns1.input s1.pos ns1.pos with | some str => _ | none => _)
      (match slice? ns1.input s1.pos ns1.pos with | some str => _ | none => _)
    cases slice? ns1.input s1.pos ns1.pos with
    | none => trivial
    | some str => exact ⟨rfl, by show str :: _ = str :: _; rw [hc]; rfl⟩
  herr := fun _ _ _ _ _ _ _ hn => hn.core

/-! ### continuations that do not look at the stack -/

/-- an outcome that does not depend on the stack it is given keeps the stack's current contents. -/
theorem oeq0_of_comm {X Y : Out} {a b : Stk Str} (hX : X = X.mapState (ws a)) (hY : Y = X.mapState (ws b))
    (h : a.cache = b.cache) : OEq0F X Y := by
  subst hY
  cases X with
  | ok y => simp only [mapState_ok, Out.ok.injEq] at hX; exact ⟨rfl, by rw [hX]; exact h⟩
  | err y => simp only [mapState_err, Out.err.injEq] at hX; exact ⟨rfl, by rw [hX]; exact h⟩
  | panic => trivial
  | fuel => trivial

theorem kframe_comm {pre : PState → PState} {K : PState → Out → Out}
    (hpre : ∀ st s, pre (ws st s) = ws st (pre s))
    (hpreG : ∀ s, Good s → Good (pre s))
    (hK : ∀ a b s1 o, K (ws a s1) (o.mapState (ws b)) = (K s1 o).mapState (ws b)) :
    KFrame pre K where
  hpre := fun s1 s2 hs => by
    obtain ⟨a, rfl, ha⟩ := hs.core.exists
    have hstack : (pre s1).stack = (ws s1.stack (pre s1)).stack := congrArg PState.stack (hpre s1.stack s1)
    rw [hpre]
    exact ⟨⟨rfl, by rw [hstack]; exact ha⟩, hpreG _ hs.g1, by rw [← hpre]; exact hpreG _ hs.g2⟩
  hok := fun s1 s2 ns1 ns2 hs _ _ hn => by
    obtain ⟨a, rfl, -⟩ := hs.core.exists
    obtain ⟨b, rfl, hb⟩ := hn.core.exists
    exact oeq0_of_comm (hK s1.stack ns1.stack s1 (.ok ns1)) (hK a b s1 (.ok ns1)) hb
  herr := fun s1 s2 ns1 ns2 hs _ _ hn => by
    obtain ⟨a, rfl, -⟩ := hs.core.exists
    obtain ⟨b, rfl, hb⟩ := hn.core.exists
    exact oeq0_of_comm (hK s1.stack ns1.stack s1 (.err ns1)) (hK a b s1 (.err ns1)) hb

theorem atomK_frame (a : Atomicity) : KFrame (atomPre a) (atomK a) :=
  kframe_comm (fun st => atomPre_rew id id (fun _ => st) a) (fun _ => good_atomPre a)
    (fun x y => atomK_rew id id (fun _ => y) (fc' := id) (fp' := id) (fs' := fun _ => x) a)

theorem ruleK_frame (r : Nat) : KFrame rulePre (ruleK r) :=
  kframe_comm (fun st => rulePre_rew id id fun _ => st) (fun _ => good_rulePre)
    (fun x y => ruleK_rewc id (fun _ => y) (fs' := fun _ => x) r)

theorem _root_.PestModel.PS.Shape.kframe {X P : Prog} {inc : Bool} {pre : PState → PState} {K : PState → Out → Out}
    (h : Shape X inc P pre K) : KFrame pre K := by
  cases h with
  | sequence => exact seqK_frame
  | restoreOnErr => exact roeK_frame
  | optional => exact optK_frame
  | repeat_ => exact idK_frame
  | lookahead => exact laK_frame _
  | atomic => exact atomK_frame _
  | stackPush => exact pushK_frame

end PestModel.GenVm
