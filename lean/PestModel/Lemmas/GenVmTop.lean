import PestModel.Lemmas.GenVmEnv
import PestModel.Lemmas.GenVmMain
import PestModel.Lemmas.VmRefRestorer
/-! C02: rules, environment slots, the entry point. -/
namespace PestModel.GenVm
open PestModel.PS PestModel.Stack PestModel.Lower PestModel.G
open PestModel.LineCol (Str isBoundary slice?)
open PestModel.VmRef (Dirty GoodE GoodRules)

/-- the side conditions of the partial theorem on a rule set. -/
structure RulesOK (rs : List ORule) : Prop where
  /-- `undefinedRule` (`call 1000000000`) is out of range. -/
  size : rs.length ≤ 333333333
  /-- no `#tag = e?` / `#tag = e*`. -/
  tag : ∀ r ∈ rs, TagPlain r.expr
  /-- in rules the generator lowers with `generate_expr_atomic` (`@`, `$`, `WHITESPACE`, `COMMENT`), the
  operand of `*` cannot fail after popping the stack. -/
  rep : ∀ r ∈ rs, (r.ty = .atomic ∨ r.ty = .compound ∨ isWsCm r.name = true) → RepClean rs r.expr

variable {env : Env} {memchr : Bool} {n : Nat}

theorem both_ruleSlot (hok : RulesOK env.rules) (h : Phi env memchr n) (i : Nat) (r : ORule)
    (hr : r ∈ env.rules) (ctx : Atomicity) :
    Both (cfgOf .vm env memchr) (cfgOf .gen env memchr) (n+1) (vmRule env i r ctx) (genRule env i r ctx) := by
  have hE : ∀ c ag, (ag = true → c ≠ Atomicity.nonAtomic ∧ RepClean env.rules r.expr) →
      Both (cfgOf .vm env memchr) (cfgOf .gen env memchr) (n+1) (vmExpr env c r.expr)
        (genExpr env c ag (osize r.expr + 1) r.expr) := fun c ag hag =>
    exprOK_all hok.size h (osize r.expr) r.expr (Nat.le_refl _) c ag _ (Nat.le_succ _) (hok.tag r hr) hag
  have both_atomic := fun {P Q : Prog} {a : Atomicity}
      (h : Both (cfgOf .vm env memchr) (cfgOf .gen env memchr) (n+1) P Q) => both_shape (.atomic a P) (.atomic a Q) h
  unfold vmRule genRule
  by_cases hw : isWsCm r.name = true
  · have hrc := hok.rep r hr (Or.inr (Or.inr hw))
    have hA := hE .atomic true (fun _ => ⟨by decide, hrc⟩)
    have hC := hE .compound true (fun _ => ⟨by decide, hrc⟩)
    rw [if_pos hw]
    cases hty : r.ty <;> simp only [hw, if_true]
    · exact both_rule _ (both_atomic hA)
    · exact both_atomic hA
    · exact both_rule _ (both_atomic hA)
    · exact both_atomic (both_rule _ hC)
    · exact both_atomic (both_rule _ (both_atomic hA))
  · rw [if_neg hw]
    cases hty : r.ty <;> simp only [hw]
    · exact both_rule _ (hE ctx false (fun x => by cases x))
    · exact hE ctx false (fun x => by cases x)
    · exact both_rule _ (both_atomic (hE .atomic true
        (fun _ => ⟨by decide, hok.rep r hr (Or.inl hty)⟩)))
    · exact both_atomic (both_rule _ (hE .compound true
        (fun _ => ⟨by decide, hok.rep r hr (Or.inr (Or.inl hty))⟩)))
    · exact both_atomic (both_rule _ (hE .nonAtomic false (fun x => by cases x)))

theorem envSim_of (b1 b2 : Backend) (m : Nat)
    (h : ∀ i r ctx, r ∈ env.rules →
      Sim (cfgOf b1 env memchr) (cfgOf b2 env memchr) m (lowerRule b1 env i r ctx) (lowerRule b2 env i r ctx)) :
    EnvSim (cfgOf b1 env memchr) (cfgOf b2 env memchr) m := by
  intro j
  obtain ⟨i, c, rfl⟩ := slot_decomp j
  show ((lowerAll b1 env)[3 * i + ctxIdx c]? = none ∧ (lowerAll b2 env)[3 * i + ctxIdx c]? = none) ∨
    ∃ p q, (lowerAll b1 env)[3 * i + ctxIdx c]? = some p ∧ (lowerAll b2 env)[3 * i + ctxIdx c]? = some q ∧ _
  rw [lowerAll_get, lowerAll_get]
  cases hr : env.rules[i]? with
  | none => exact Or.inl ⟨rfl, rfl⟩
  | some r => exact Or.inr ⟨_, _, rfl, rfl, h i r c (List.mem_of_getElem? hr)⟩

theorem phi_all (hok : RulesOK env.rules) : ∀ n, Phi env memchr n
  | 0 => ⟨envSim_of .vm .gen 0 fun _ _ _ _ => sim_zero _ _, envSim_of .gen .vm 0 fun _ _ _ _ => sim_zero _ _⟩
  | n + 1 =>
    have ih := phi_all hok n
    ⟨envSim_of .vm .gen (n+1) fun i r ctx hr => (both_ruleSlot hok ih i r hr ctx).1,
     envSim_of .gen .vm (n+1) fun i r ctx hr => (both_ruleSlot hok ih i r hr ctx).2⟩

theorem both_entry (hok : RulesOK env.rules) (name : String) (n : Nat) :
    Both (cfgOf .vm env memchr) (cfgOf .gen env memchr) (n+1) (entry env name) (entry env name) :=
  both_callRule (phi_all hok n) name .nonAtomic

theorem good_new (input : Str) (detail : Bool) : Good (PState.new input none detail) :=
  ⟨new_wf' input none detail, rfl⟩

/-- the report does not mention the stack. -/
theorem finish_oeq {o1 o2 : Out} (h : OEq o1 o2) : finish o1 = finish o2 :=
  h.1.elim (fun a b hs => by rw [hs.core.1]; rfl) (fun a b hs => by rw [hs.core.1]; rfl) rfl rfl

theorem SEq.queue {a b : PState} (h : SEq a b) : b.queue = a.queue := by rw [h.core.1]; rfl

/-- a definite run from a good state is matched by a run of the simulating program from the same state. -/
theorem Sim.run_oeq {A B : Cfg} {P Q : Prog} {f : Nat} (h : Sim A B (f+1) P Q) {s : PState} (hg : Good s)
    (hv : run A f P s ≠ .fuel) : ∃ m, OEq (run A f P s) (run B m Q s) := by
  obtain ⟨o2, ⟨m, em, _⟩, oe⟩ := h f (Nat.le_succ _) _ _ (SEq.refl hg) hv
  exact ⟨m, by rw [em]; exact oe⟩

/-- on a rule set satisfying `RulesOK`, a definite VM run is matched by a run of the generated parser. -/
theorem agree_out (hok : RulesOK env.rules) (name : String) (input : Str) (detail : Bool) (fv : Nat)
    (hv : run (cfgOf .vm env memchr) fv (entry env name) (PState.new input none detail) ≠ .fuel) :
    ∃ fg, OEq (run (cfgOf .vm env memchr) fv (entry env name) (PState.new input none detail))
      (run (cfgOf .gen env memchr) fg (entry env name) (PState.new input none detail)) :=
  (both_entry hok name fv).1.run_oeq (good_new input detail) hv

/-- the two back-ends agree on a rule set satisfying `RulesOK`. -/
theorem agree (hok : RulesOK env.rules) (name : String) (input : Str) (detail : Bool) (fv fg : Nat)
    (hv : run (cfgOf .vm env memchr) fv (entry env name) (PState.new input none detail) ≠ .fuel)
    (hg : run (cfgOf .gen env memchr) fg (entry env name) (PState.new input none detail) ≠ .fuel) :
    finish (run (cfgOf .vm env memchr) fv (entry env name) (PState.new input none detail)) =
    finish (run (cfgOf .gen env memchr) fg (entry env name) (PState.new input none detail)) := by
  obtain ⟨fg', oe⟩ := agree_out hok name input detail fv hv
  rw [(Ev.of_run hg).det (Ev.of_run oe.ne_fuel)]
  exact finish_oeq oe

theorem terminate_iff (hok : RulesOK env.rules) (name : String) (input : Str) (detail : Bool) :
    (∃ f, run (cfgOf .vm env memchr) f (entry env name) (PState.new input none detail) ≠ .fuel) ↔
    (∃ f, run (cfgOf .gen env memchr) f (entry env name) (PState.new input none detail) ≠ .fuel) :=
  ⟨fun ⟨f, hf⟩ =>
    let ⟨m, oe⟩ := (both_entry (memchr := memchr) hok name f).1.run_oeq (good_new input detail) hf
    ⟨m, oe.ne_fuel⟩,
   fun ⟨f, hf⟩ =>
    let ⟨m, oe⟩ := (both_entry (memchr := memchr) hok name f).2.run_oeq (good_new input detail) hf
    ⟨m, oe.ne_fuel⟩⟩

theorem repClean_of_goodE (extras : Bool) (rs : List ORule) : ∀ e, GoodE extras rs e → RepClean rs e := by
  intro e
  induction e with
  | rep e ih => intro h; exact ⟨h.1, ih h.2⟩
  | opt e ih => intro h; exact ih h.2
  | repOnce e ih => intro h; exact ih h.2
  | posPred e ih | negPred e ih | push e ih | restoreOnErr e ih => intro h; exact ih h
  | nodeTag e t ih => intro h; exact ih h
  | seq a b iha ihb => intro h; exact ⟨iha h.1, ihb h.2⟩
  | choice a b iha ihb => intro h; exact ⟨iha h.2.1, ihb h.2.2⟩
  | _ => intro _; trivial

/-- what the real front-end produces (the restorer wraps the operand of `*` whenever it can fail dirty). -/
theorem rulesOK_of_optimized (extras : Bool) (rs : List ORule)
    (hopt : ∃ rules withList, optimizeWith extras withList rules = some rs)
    (htagx : ∀ r ∈ rs, VmRef.tagsExtras extras r.expr)
    (hsize : rs.length ≤ 333333333) (htag : ∀ r ∈ rs, TagPlain r.expr) : RulesOK rs :=
  ⟨hsize, htag, fun r hr _ =>
    repClean_of_goodE extras rs r.expr ((VmRef.goodRules_of_optimized extras rs hopt htagx).expr r hr)⟩

end PestModel.GenVm
