import PestModel.Lemmas.GenVmRep
/-! C02: the hypotheses of the partial theorem and the shape of the generator's output. -/
namespace PestModel.GenVm
open PestModel.PS PestModel.Stack PestModel.Lower PestModel.G
open PestModel.LineCol (Str isBoundary slice?)
open PestModel.VmRef (Dirty)

def isOptRep : OExpr → Bool
  | .opt _ => true
  | .rep _ => true
  | _ => false

/-- no `#tag = e?` and no `#tag = e*` (the two forms `generate_expr` special-cases). -/
def TagPlain : OExpr → Prop
  | .nodeTag e _ => isOptRep e = false ∧ TagPlain e
  | .posPred e | .negPred e | .opt e | .rep e | .repOnce e | .push e | .restoreOnErr e => TagPlain e
  | .seq a b | .choice a b => TagPlain a ∧ TagPlain b
  | _ => True

/-- the operand of every `e*` cannot fail after popping the stack. -/
def RepClean (rs : List ORule) : OExpr → Prop
  | .rep e => ¬ Dirty rs e ∧ RepClean rs e
  | .posPred e | .negPred e | .opt e | .repOnce e | .push e | .restoreOnErr e | .nodeTag e _ => RepClean rs e
  | .seq a b | .choice a b => RepClean rs a ∧ RepClean rs b
  | _ => True

theorem osize_pos (e : OExpr) : 1 ≤ osize e := by
  cases e <;> exact Nat.le_add_left 1 _

theorem seq_or_not (b : OExpr) : (∃ x y, b = .seq x y) ∨ seqItems b = [b] := by
  cases b <;> first | exact Or.inl ⟨_, _, rfl⟩ | exact Or.inr rfl

theorem choice_or_not (b : OExpr) : (∃ x y, b = .choice x y) ∨ choiceItems b = [b] := by
  cases b <;> first | exact Or.inl ⟨_, _, rfl⟩ | exact Or.inr rfl

section
variable (skipP : Prog) (callP : String → Prog) (ag : Bool) (f : Nat)

theorem gen_str (s : Str) : genExprWith skipP callP ag (f+1) (.str s) = .matchString s := rfl
theorem gen_insens (s : Str) : genExprWith skipP callP ag (f+1) (.insens s) = .matchInsensitive s := rfl
theorem gen_range (a b : Char) : genExprWith skipP callP ag (f+1) (.range a b) = .matchRange a b := rfl
theorem gen_ident (n : String) : genExprWith skipP callP ag (f+1) (.ident n) = callP n := rfl
theorem gen_peekSlice (a : Int) (b : Option Int) :
    genExprWith skipP callP ag (f+1) (.peekSlice a b) = .stackMatchPeekSlice a b .bottomToTop := rfl
theorem gen_posPred (e : OExpr) :
    genExprWith skipP callP ag (f+1) (.posPred e) = .lookahead true (genExprWith skipP callP ag f e) := rfl
theorem gen_negPred (e : OExpr) :
    genExprWith skipP callP ag (f+1) (.negPred e) = .lookahead false (genExprWith skipP callP ag f e) := rfl
theorem gen_opt (e : OExpr) :
    genExprWith skipP callP ag (f+1) (.opt e) = .optional (genExprWith skipP callP ag f e) := rfl
theorem gen_skip (ss : List Str) : genExprWith skipP callP ag (f+1) (.skip ss) = .skipUntil ss := rfl
theorem gen_push (e : OExpr) :
    genExprWith skipP callP ag (f+1) (.push e) = .stackPush (genExprWith skipP callP ag f e) := rfl
theorem gen_pushLiteral (s : Str) :
    genExprWith skipP callP ag (f+1) (.pushLiteral s) = .stackPushLiteral s := rfl
theorem gen_restoreOnErr (e : OExpr) :
    genExprWith skipP callP ag (f+1) (.restoreOnErr e) = .restoreOnErr (genExprWith skipP callP ag f e) := rfl

theorem gen_seq (a b : OExpr) :
    genExprWith skipP callP ag (f+1) (.seq a b) =
      .sequence ((seqItems b).foldl (seqStep ag skipP (genExprWith skipP callP ag f))
        (genExprWith skipP callP ag f a)) := rfl

theorem gen_choice (a b : OExpr) :
    genExprWith skipP callP ag (f+1) (.choice a b) =
      (choiceItems b).foldl (fun acc t => Prog.orElse acc (genExprWith skipP callP ag f t))
        (genExprWith skipP callP ag f a) := rfl

theorem gen_rep_atomic (e : OExpr) :
    genExprWith skipP callP true (f+1) (.rep e) = .repeat_ (genExprWith skipP callP true f e) := rfl

theorem gen_rep_plain (e : OExpr) :
    genExprWith skipP callP false (f+1) (.rep e) =
      .sequence (.optional (.andThen (genExprWith skipP callP false f e)
        (.repeat_ (.sequence (.andThen skipP (genExprWith skipP callP false f e)))))) := rfl

theorem gen_repOnce_atomic (e : OExpr) :
    genExprWith skipP callP true (f+1) (.repOnce e) =
      .sequence (.andThen (genExprWith skipP callP true f e)
        (.repeat_ (.sequence (genExprWith skipP callP true f e)))) := rfl

theorem gen_repOnce_plain (e : OExpr) :
    genExprWith skipP callP false (f+1) (.repOnce e) =
      .sequence (.andThen (genExprWith skipP callP false f e)
        (.repeat_ (.sequence (.andThen skipP (genExprWith skipP callP false f e))))) := rfl

theorem gen_nodeTag (e : OExpr) (t : Str) (h : isOptRep e = false) :
    genExprWith skipP callP ag (f+1) (.nodeTag e t) =
      .andThen (genExprWith skipP callP ag f e) (.tagNode t) := by
  cases e <;> first | rfl | (simp [isOptRep] at h)

end

end PestModel.GenVm
