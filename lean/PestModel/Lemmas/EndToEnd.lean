import PestModel.Lemmas.RefSkip
import PestModel.Lemmas.ValidatorNp
import PestModel.Lemmas.VmRefRestorer
/-! Lemmas for the end-to-end composition: the optimizer does not introduce node tags. -/
namespace PestModel.E2E
open PestModel.G PestModel.V
open PestModel.LineCol (Str)

theorem noTag_mapTopDown (f : Expr → Expr) (hf : ∀ x, NoTag x = true → NoTag (f x) = true) :
    ∀ (n : Nat) (e : Expr), NoTag e = true → NoTag (mapTopDown f n e) = true := by
  intro n
  induction n with
  | zero => intro e h; exact h
  | succ n ih =>
    intro e h
    have h' := hf e h
    rw [mapTopDown]
    cases hfe : f e <;> rw [hfe] at h' <;> simp only [] <;>
      simp only [NoTag, Bool.and_eq_true] at h' ⊢ <;> first
        | exact h'
        | exact ih _ h'
        | exact ⟨ih _ h'.1, ih _ h'.2⟩

theorem noTag_mapBottomUp (f : Expr → Expr) (hf : ∀ x, NoTag x = true → NoTag (f x) = true) :
    ∀ e : Expr, NoTag e = true → NoTag (mapBottomUp f e) = true := by
  intro e
  induction e <;> intro h <;> simp only [mapBottomUp] <;> apply hf <;>
    simp only [NoTag, Bool.and_eq_true] at h ⊢ <;> first
      | exact h
      | (rename_i ih; exact ih h)
      | (rename_i iha ihb; exact ⟨iha h.1, ihb h.2⟩)

theorem noTag_rotateInternal : ∀ (n : Nat) (e : Expr), NoTag e = true → NoTag (rotateInternal n e) = true := by
  intro n
  induction n with
  | zero => intro e h; exact h
  | succ n ih =>
    intro e h
    unfold rotateInternal
    split
    · exact h
    · rename_i hq; cases hq
      apply ih
      simp only [NoTag, Bool.and_eq_true] at h ⊢
      exact ⟨h.1.1, h.1.2, h.2⟩
    · rename_i hq; cases hq
      apply ih
      simp only [NoTag, Bool.and_eq_true] at h ⊢
      exact ⟨h.1.1, h.1.2, h.2⟩
    · exact h

theorem noTag_rotateExpr (e : Expr) (h : NoTag e = true) : NoTag (rotateExpr e) = true :=
  noTag_mapTopDown _ (fun x hx => noTag_rotateInternal _ x hx) _ e h

theorem noTag_skipF (rules : List Rule) (x : Expr) (h : NoTag x = true) : NoTag (skipF rules x) = true := by
  unfold skipF
  split
  · split
    · rename_i heq
      obtain ⟨strs, rfl⟩ := PestModel.Ref.populate_is_skip _ _ _ _ _ heq
      split
      · exact h
      · rfl
    · exact h
  · exact h

theorem noTag_skip (rules : List Rule) (r : Rule) (h : NoTag r.expr = true) :
    NoTag (skip rules r).expr = true := by
  unfold skip
  split
  · exact noTag_mapTopDown _ (noTag_skipF rules) _ _ h
  · exact h

theorem noTag_seqOfList (l : List Expr) (e : Expr) (hl : ∀ x ∈ l, NoTag x = true) (h : seqOfList l = some e) :
    NoTag e = true :=
  seqOfList_all (p := fun e => NoTag e = true)
    (fun a b ha hb => by simp only [NoTag, Bool.and_eq_true]; exact ⟨ha, hb⟩) hl h

theorem noTag_unrollF (extras : Bool) (x x' : Expr) (h : NoTag x = true) (hu : unrollF extras x = some x') :
    NoTag x' = true := by
  unfold unrollF at hu
  split at hu
  · split at hu
    · simp only [Option.some.injEq] at hu; subst hu; exact h
    · simp only [Option.some.injEq] at hu; subst hu
      simp only [NoTag, Bool.and_eq_true] at h ⊢
      exact ⟨h, h⟩
  · refine noTag_seqOfList _ _ ?_ hu
    intro z hz
    rw [List.eq_of_mem_replicate hz]
    exact h
  · refine noTag_seqOfList _ _ ?_ hu
    intro z hz
    simp only [NoTag] at h
    rcases List.mem_append.1 hz with hz | hz
    · rw [List.eq_of_mem_replicate hz]; exact h
    · simp only [List.mem_singleton] at hz; subst hz; exact h
  · refine noTag_seqOfList _ _ ?_ hu
    intro z hz
    rw [List.eq_of_mem_replicate hz]
    exact h
  · refine noTag_seqOfList _ _ ?_ hu
    intro z hz
    simp only [NoTag] at h
    obtain ⟨i, _, rfl⟩ := List.mem_map.1 hz
    split
    · exact h
    · exact h
  · simp only [Option.some.injEq] at hu; subst hu; exact h

theorem noTag_unrollExpr (extras : Bool) : ∀ (e e' : Expr), NoTag e = true → unrollExpr extras e = some e' →
    NoTag e' = true := by
  intro e
  induction e <;> intro e' h hu <;> simp only [unrollExpr, Option.bind_eq_some_iff] at hu
  case posPred e ih | negPred e ih | opt e ih | rep e ih | repOnce e ih | push e ih | repExact e n ih
      | repMin e n ih | repMax e n ih | repMinMax e lo hi ih =>
    obtain ⟨e1, h1, h2⟩ := hu
    refine noTag_unrollF extras _ _ ?_ h2
    exact ih e1 h h1
  case seq a b iha ihb | choice a b iha ihb =>
    obtain ⟨a1, h1, b1, h2, h3⟩ := hu
    simp only [NoTag, Bool.and_eq_true] at h
    exact noTag_unrollF extras _ _ (by simp only [NoTag, Bool.and_eq_true]; exact ⟨iha a1 h.1 h1, ihb b1 h.2 h2⟩) h3
  case nodeTag e t ih => cases h
  all_goals exact noTag_unrollF extras _ _ h hu

theorem noTag_concatF (x : Expr) (h : NoTag x = true) : NoTag (concatF x) = true := by
  unfold concatF
  split
  · rfl
  · rfl
  · exact h

theorem noTag_concatenate (r : Rule) (h : NoTag r.expr = true) : NoTag (concatenate r).expr = true := by
  unfold concatenate
  split
  · exact noTag_mapBottomUp _ noTag_concatF _ h
  · exact h

theorem noTag_factorF (ty : RuleType) (x : Expr) (h : NoTag x = true) : NoTag (factorF ty x) = true := by
  unfold factorF
  split
  · split
    · simp only [NoTag, Bool.and_eq_true] at h ⊢
      exact ⟨h.1.1, h.1.2, h.2.2⟩
    · exact h
  · split
    · split
      · simp only [NoTag, Bool.and_eq_true] at h ⊢
        exact ⟨h.1.1, h.1.2⟩
      · exact h
    · exact h
  · split
    · simp only [NoTag, Bool.and_eq_true] at h
      exact h.1
    · exact h
  · exact h

theorem noTag_factor (r : Rule) (h : NoTag r.expr = true) : NoTag (factor r).expr = true :=
  noTag_mapTopDown _ (noTag_factorF r.ty) _ _ h

theorem noTag_listF (x : Expr) (h : NoTag x = true) : NoTag (listF x) = true := by
  unfold listF
  split
  · split
    · simp only [NoTag, Bool.and_eq_true] at h ⊢
      exact ⟨h.1.1, h.1.2, h.2⟩
    · exact h
  · exact h

theorem noTag_list (r : Rule) (h : NoTag r.expr = true) : NoTag (list r).expr = true :=
  noTag_mapBottomUp _ noTag_listF _ h

theorem noTag_astPasses (extras withList : Bool) (rules : List Rule) (r r' : Rule) (h : NoTag r.expr = true)
    (hp : astPasses extras withList rules r = some r') : NoTag r'.expr = true := by
  unfold astPasses at hp
  simp only [Option.map_eq_some_iff] at hp
  obtain ⟨r1, h1, rfl⟩ := hp
  unfold unroll at h1
  simp only [Option.map_eq_some_iff] at h1
  obtain ⟨e1, he1, rfl⟩ := h1
  have h2 : NoTag e1 = true :=
    noTag_unrollExpr extras _ _ (noTag_skip rules _ (by exact noTag_rotateExpr _ h)) he1
  have h3 := noTag_factor _ (noTag_concatenate ⟨(skip rules (rotate r)).name, (skip rules (rotate r)).ty, e1⟩ h2)
  cases withList
  · exact h3
  · exact noTag_list _ h3

theorem noTag_toOptimized (extras : Bool) : ∀ (e : Expr) (o : OExpr), NoTag e = true → toOptimized extras e = some o →
    PestModel.VmRef.noTag o = true := by
  intro e
  induction e with
  | posPred e ih | negPred e ih | opt e ih | rep e ih | push e ih =>
    intro o hn h
    simp only [toOptimized, Option.map_eq_some_iff] at h
    obtain ⟨a, ha, rfl⟩ := h
    exact ih a hn ha
  | nodeTag e t ih => intro o hn h; cases hn
  | seq a b iha ihb | choice a b iha ihb =>
    intro o hn h
    simp only [toOptimized, Option.bind_eq_some_iff, Option.map_eq_some_iff] at h
    obtain ⟨a', ha, b', hb, rfl⟩ := h
    simp only [NoTag, Bool.and_eq_true] at hn
    simp only [PestModel.VmRef.noTag, Bool.and_eq_true]
    exact ⟨iha a' hn.1 ha, ihb b' hn.2 hb⟩
  | repOnce e ih =>
    intro o hn h
    cases extras
    · simp [toOptimized] at h
    · simp only [toOptimized, if_true, Option.map_eq_some_iff] at h
      obtain ⟨a, ha, rfl⟩ := h
      exact ih a hn ha
  | repExact _ _ | repMin _ _ | repMax _ _ | repMinMax _ _ _ =>
    intro o hn h; simp [toOptimized] at h
  | _ =>
    intro o hn h
    simp only [toOptimized, Option.some.injEq] at h
    subst h; rfl

theorem noTag_omapBottomUp (extras : Bool) (f : OExpr → OExpr)
    (hf : ∀ x, PestModel.VmRef.noTag (f x) = PestModel.VmRef.noTag x) :
    ∀ e : OExpr, PestModel.VmRef.noTag e = true → PestModel.VmRef.noTag (omapBottomUp extras f e) = true := by
  intro e
  induction e <;> intro h <;> simp only [omapBottomUp] <;> (try split) <;> rw [hf] <;>
    simp only [PestModel.VmRef.noTag, Bool.and_eq_true] at h ⊢ <;> first
      | exact h
      | (rename_i ih; exact ih h)
      | (rename_i ih _; exact ih h)
      | (rename_i iha ihb; exact ⟨iha h.1, ihb h.2⟩)

theorem noTag_restoreOnErr (extras : Bool) (opt : List ORule) (r : ORule)
    (h : PestModel.VmRef.noTag r.expr = true) : PestModel.VmRef.noTag (restoreOnErr extras opt r).expr = true := by
  have h1 := noTag_omapBottomUp extras _ (PestModel.VmRef.noTag_wrap extras opt) _ h
  show PestModel.VmRef.noTag (if _ then _ else _) = true
  split
  · exact h1
  · exact h1

/-- **the optimizer does not introduce node tags.** -/
theorem noTag_optimizeWith (extras withList : Bool) (rules : List Rule) (rs : List ORule)
    (hn : ∀ r ∈ rules, NoTag r.expr = true) (h : optimizeWith extras withList rules = some rs) :
    ∀ r ∈ rs, PestModel.VmRef.noTag r.expr = true := by
  unfold optimizeWith at h
  split at h
  · cases h
  · rename_i opt hmap
    cases h
    intro r hr
    obtain ⟨r0, hr0, rfl⟩ := List.mem_map.1 hr
    obtain ⟨a, ha0, ha⟩ := PestModel.VmRef.mapM_option_mem _ _ _ hmap r0 hr0
    simp only [Option.bind_eq_some_iff, Option.map_eq_some_iff] at ha
    obtain ⟨r1, hr1, e1, he1, rfl⟩ := ha
    apply noTag_restoreOnErr
    exact noTag_toOptimized extras _ _ (noTag_astPasses extras withList rules a r1 (hn a ha0) hr1) he1

end PestModel.E2E
