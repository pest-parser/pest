import PestModel.Lemmas.ValidatorRec
/-! C06: every rule call of an accepted grammar evaluates to a definite result. First the static
facts `Base` the argument needs and the loops (a loop whose body terminates and consumes terminates, by
induction on the remaining input). Then the induction: on the remaining input, then on the (well-founded)
left-recursion graph of (rule, skipping) pairs, then on the expression: while nothing has been consumed
the expression is one the left-recursion check looked at (`Vis`), afterwards the level has dropped. -/
namespace PestModel.V
open PestModel.G PestModel.Ref
open PestModel.LineCol (Str bLen cLen)
open PestModel.Views (Tree)
open PestModel.PS (Atomicity CharSet)

/-- every unbounded repetition body consumes. -/
def Good (rules : List Rule) : Expr → Prop
  | .rep e | .repOnce e | .repMin e _ => Prog rules e ∧ Good rules e
  | .posPred e | .negPred e | .opt e | .push e | .nodeTag e _ | .repExact e _ | .repMax e _
  | .repMinMax e _ _ => Good rules e
  | .seq a b | .choice a b => Good rules a ∧ Good rules b
  | _ => True

/-- the static facts the argument needs about an expression. -/
structure Base (extras : Bool) (rules : List Rule) (e : Expr) : Prop where
  sf : SF e = true
  tag : TagOK extras e = true
  good : Good rules e

section base
variable {extras : Bool} {rules : List Rule}

theorem Base.choice {a b : Expr} (h : Base extras rules (.choice a b)) :
    Base extras rules a ∧ Base extras rules b := by
  obtain ⟨h1, h2, h3⟩ := h
  have h1 := Bool.and_eq_true_iff.1 h1
  have := tagOK_bin h2
  exact ⟨⟨h1.1, this.1, h3.1⟩, ⟨h1.2, this.2, h3.2⟩⟩

theorem Base.seq {a b : Expr} (h : Base extras rules (.seq a b)) : Base extras rules a ∧ Base extras rules b :=
  Base.choice ⟨h.1, h.2, h.3⟩

theorem Base.posPred {e : Expr} (h : Base extras rules (.posPred e)) : Base extras rules e := ⟨h.1, h.2, h.3⟩
theorem Base.negPred {e : Expr} (h : Base extras rules (.negPred e)) : Base extras rules e := ⟨h.1, h.2, h.3⟩
theorem Base.opt {e : Expr} (h : Base extras rules (.opt e)) : Base extras rules e := ⟨h.1, h.2, h.3⟩
theorem Base.rep {e : Expr} (h : Base extras rules (.rep e)) : Base extras rules e ∧ Prog rules e :=
  ⟨⟨h.1, h.2, h.3.2⟩, h.3.1⟩
theorem Base.repOnce {e : Expr} (h : Base extras rules (.repOnce e)) : Base extras rules e ∧ Prog rules e :=
  ⟨⟨h.1, h.2, h.3.2⟩, h.3.1⟩
theorem Base.repMin {e : Expr} {n : Nat} (h : Base extras rules (.repMin e n)) :
    Base extras rules e ∧ Prog rules e :=
  ⟨⟨h.1, h.2, h.3.2⟩, h.3.1⟩
theorem Base.repExact {e : Expr} {n : Nat} (h : Base extras rules (.repExact e n)) : Base extras rules e :=
  ⟨h.1, h.2, h.3⟩
theorem Base.repMax {e : Expr} {n : Nat} (h : Base extras rules (.repMax e n)) : Base extras rules e :=
  ⟨h.1, h.2, h.3⟩
theorem Base.repMinMax {e : Expr} {n k : Nat} (h : Base extras rules (.repMinMax e n k)) : Base extras rules e :=
  ⟨h.1, h.2, h.3⟩
theorem Base.nodeTag {e : Expr} {t : Str} (h : Base extras rules (.nodeTag e t)) :
    Base extras rules e ∧ extras = true := by
  obtain ⟨h1, h2, h3⟩ := h
  have hex : extras = true := (Bool.or_false extras).symm.trans h2
  exact ⟨⟨h1, by rw [TagOK, hex, Bool.true_or], h3⟩, hex⟩

end base

theorem builtin_ne_fuel (c : Ctx) (m : Atomicity) (la : Bool) (nm : String) (s : St) : builtin c m la nm s ≠ .fuel :=
  (builtin_spec m la nm s).1

section loops
variable {c : Ctx}

/-- `e*` after a first `e` (which consumed: everything happens below level `N`). -/
theorem valL_term {m : Atomicity} {la : Bool} {e : Expr} (N : Nat) (hp : Prog c.rules e)
    (he : ∀ s, mu c s ≤ N → val c m la e s ≠ .fuel) (hK : ∀ s, mu c s < N → valK c m la s ≠ .fuel) :
    ∀ (s : St) (acc : List Tree), mu c s < N → valL c m la e s acc ≠ .fuel := by
  intro s
  generalize hk : mu c s = k
  induction k using Nat.strongRecOn generalizing s with
  | _ k ih =>
    subst hk
    intro acc hN
    rw [valL_unfold]
    refine Res.bind_ne (hK s hN) (fun s1 f1 h1 => ?_) nofun
    have hm1 := (valK_fwd h1).mu_le
    refine Res.bind_ne (he s1 (by omega)) (fun s2 f2 h2 => ?_) nofun
    have := (val_fwd h2).mu_lt (prog_progress hp _ _ _ _ _ h2)
    exact ih _ (by omega) s2 rfl _ (by omega)

theorem rep_term {m : Atomicity} {la : Bool} {e : Expr} (N : Nat) (hp : Prog c.rules e)
    (he : ∀ s, mu c s ≤ N → val c m la e s ≠ .fuel) (hK : ∀ s, mu c s < N → valK c m la s ≠ .fuel) :
    ∀ s, mu c s ≤ N → val c m la (.rep e) s ≠ .fuel := by
  intro s hs
  rw [val_rep]
  refine Res.bind_ne (he s hs) (fun s1 f1 h1 => ?_) nofun
  have := (val_fwd h1).mu_lt (prog_progress hp _ _ _ _ _ h1)
  exact valL_term N hp he hK s1 f1 (by omega)

/-- `e+`: with `grammar-extras` it is `e*` that may not be empty, without it is `e ~ e*`. -/
theorem repOnce_term {m : Atomicity} {la : Bool} {e : Expr} (N : Nat) (hp : Prog c.rules e)
    (he : ∀ s, mu c s ≤ N → val c m la e s ≠ .fuel) (hK : ∀ s, mu c s < N → valK c m la s ≠ .fuel) :
    ∀ s, mu c s ≤ N → val c m la (.repOnce e) s ≠ .fuel := by
  intro s hs
  have hrep := rep_term N hp he hK
  rw [val_repOnce]
  split
  · refine Res.bind_ne' (he s hs) fun s1 f1 h1 => ?_
    have := (val_fwd h1).mu_lt (prog_progress hp _ _ _ _ _ h1)
    exact valL_term N hp he hK s1 f1 (by omega)
  · refine val_seq_ne_fuel (he s hs) (fun s1 f1 h1 => hK s1 ?_) (fun s1 f1 s2 f2 h1 h2 => hrep s2 ?_)
    · have := (val_fwd h1).mu_lt (prog_progress hp _ _ _ _ _ h1); omega
    · have := (val_fwd h1).mu_le; have := (valK_fwd h2).mu_le; omega

/-- a sequence of terminating expressions terminates, if the skips behind its head do. -/
theorem seqs_term {m : Atomicity} {la : Bool} : ∀ (xs : List Expr) (x u : Expr) (s : St), seqOfList (x :: xs) = some u →
    (∀ y ∈ x :: xs, ∀ s', mu c s' ≤ mu c s → val c m la y s' ≠ .fuel) →
    (xs ≠ [] → ∀ s1 f1, val c m la x s = .ok s1 f1 → ∀ s', mu c s' ≤ mu c s1 → valK c m la s' ≠ .fuel) →
    val c m la u s ≠ .fuel := by
  intro xs
  induction xs with
  | nil => intro x u s hu hl _; cases hu; exact hl x (by simp) s (Nat.le_refl _)
  | cons y ys ih =>
    intro x u s hu hl hK
    obtain ⟨u', hr, rfl⟩ := seqOfList_cons_cons.1 hu
    refine val_seq_ne_fuel (hl x (by simp) s (Nat.le_refl _)) (fun s1 f1 h1 => hK (by simp) s1 f1 h1 s1 (Nat.le_refl _))
      (fun s1 f1 s2 f2 h1 h2 => ?_)
    have m1 := (val_fwd h1).mu_le
    have m2 := (valK_fwd h2).mu_le
    refine ih y u' s2 hr (fun z hz s' hs' => hl z (List.mem_cons_of_mem _ hz) s' (by omega)) fun _ s3 f3 h3 s' hs' => ?_
    have := (val_fwd h3).mu_le
    exact hK (by simp) s1 f1 h1 s' (by omega)

/-- `name*` for a rule whose calls terminate and consume. -/
theorem valSt_term {la : Bool} {nm : String} (N : Nat)
    (hca : ∀ s, mu c s ≤ N → valCa c .nonAtomic la nm s ≠ .fuel)
    (hpr : ∀ s s' f, valCa c .nonAtomic la nm s = .ok s' f → s.pos < s'.pos) :
    ∀ (s : St) (acc : List Tree), mu c s ≤ N → valSt c la nm s acc ≠ .fuel := by
  intro s
  generalize hk : mu c s = k
  induction k using Nat.strongRecOn generalizing s with
  | _ k ih =>
    subst hk
    intro acc hN
    rw [valSt_unfold]
    refine Res.bind_ne (hca s hN) (fun s1 f1 h1 => ?_) nofun
    have := (valCa_fwd h1).mu_lt (hpr _ _ _ h1)
    exact ih _ this s1 rfl _ (by omega)

theorem valCl_term {la : Bool} (N : Nat) (hca : ∀ s, mu c s ≤ N → valCa c .nonAtomic la "COMMENT" s ≠ .fuel)
    (hpr : ∀ s s' f, valCa c .nonAtomic la "COMMENT" s = .ok s' f → s.pos < s'.pos)
    (hst : ∀ s, mu c s ≤ N → ∀ acc, valSt c la "WHITESPACE" s acc ≠ .fuel) :
    ∀ (s : St) (acc : List Tree), mu c s ≤ N → valCl c la s acc ≠ .fuel := by
  intro s
  generalize hk : mu c s = k
  induction k using Nat.strongRecOn generalizing s with
  | _ k ih =>
    subst hk
    intro acc hN
    rw [valCl_unfold]
    refine Res.bind_ne (hca s hN) (fun s1 f1 h1 => ?_) nofun
    have m1 := (valCa_fwd h1).mu_lt (hpr _ _ _ h1)
    refine Res.bind_ne' (hst _ (by omega) _) fun s2 f2 h2 => ?_
    have m2 := (valSt_fwd h2).mu_le
    exact ih _ (by omega) s2 rfl _ (by omega)

/-- the implicit skip at level `N`, from the calls of `WHITESPACE` and `COMMENT` at that level. -/
theorem valK_level (N : Nat)
    (hW : c.has "WHITESPACE" = true → ∀ la s, mu c s ≤ N → valCa c .nonAtomic la "WHITESPACE" s ≠ .fuel)
    (hWp : ∀ la s s' f, valCa c .nonAtomic la "WHITESPACE" s = .ok s' f → s.pos < s'.pos)
    (hC : c.has "COMMENT" = true → ∀ la s, mu c s ≤ N → valCa c .nonAtomic la "COMMENT" s ≠ .fuel)
    (hCp : ∀ la s s' f, valCa c .nonAtomic la "COMMENT" s = .ok s' f → s.pos < s'.pos) :
    ∀ s, mu c s ≤ N → ∀ m la, valK c m la s ≠ .fuel := by
  intro s hs m la
  rw [valK_unfold]
  split
  · simp
  · split
    · simp
    · rename_i h1 _
      exact valSt_term N (hW h1 la) (hWp la) s [] hs
    · rename_i _ h2
      exact valSt_term N (hC h2 la) (hCp la) s [] hs
    · rename_i h1 h2
      have hstW : ∀ s, mu c s ≤ N → ∀ acc, valSt c la "WHITESPACE" s acc ≠ .fuel :=
        fun s hs acc => valSt_term N (hW h1 la) (hWp la) s acc hs
      refine Res.bind_ne' (hstW s hs []) fun s1 f1 h3 => ?_
      have := (valSt_fwd h3).mu_le
      exact valCl_term N (hC h2 la) (hCp la) hstW s1 f1 (by omega)

end loops

/-- implicit skips run in this mode. -/
def isNA (m : Atomicity) : Bool := decide (m = .nonAtomic)

theorem valK_of_not_isNA {c : Ctx} {m : Atomicity} {la : Bool} {s : St} (h : isNA m = false) :
    valK c m la s ≠ .fuel := by
  rw [valK_atomic c m la s (by simpa [isNA] using h)]; simp

theorem has_eq_lookup (c : Ctx) (nm : String) : c.has nm = (lookup c.rules nm).isSome := by
  rw [lookup_eq_rule?, Option.isSome_map]; rfl

/-- `skipsInside` is the static reading of `bodyMode … = nonAtomic`. -/
theorem isNA_bodyMode {c : Ctx} {nm : String} {id : Nat} {r : Rule} (hr : c.rule? nm = some (id, r)) (m : Atomicity) :
    isNA (bodyMode r.name r.ty m) = skipsInside c.rules nm (isNA m) := by
  have hf : c.rules.find? (·.name = nm) = some r := by
    have := rule?_map c nm
    rw [hr] at this
    exact this.symm
  obtain ⟨_, _, hname⟩ := lookup_of_rule? hr
  subst hname
  unfold skipsInside bodyMode
  rw [hf]
  by_cases hn : r.name = "WHITESPACE" ∨ r.name = "COMMENT"
  · rw [if_pos hn, if_pos hn]
    split <;> simp [isNA]
  · rw [if_neg hn, if_neg hn]
    simp only [Option.map_some]
    cases hty : r.ty <;> simp [isNA]

theorem skipsInside_ws (rules : List Rule) {nm : String} (h : nm = "WHITESPACE" ∨ nm = "COMMENT") (sk : Bool) :
    skipsInside rules nm sk = false := by
  unfold skipsInside
  rw [if_pos h]

/-- what the validator establishes about a grammar. -/
structure Accepted (c : Ctx) : Prop where
  sfAll : ∀ r ∈ c.rules, SF r.expr = true
  tagAll : ∀ r ∈ c.rules, TagOK c.extras r.expr = true
  bodies : ∀ n body, lookup c.rules n = some body → Base c.extras c.rules body
  lr : leftRecursion c.extras c.rules = []
  wsProg : ∀ r ∈ c.rules, (r.name = "WHITESPACE" ∨ r.name = "COMMENT") → Prog c.rules r.expr

section
variable {c : Ctx}

/-- an expression that the check did not look behind consumes when it matches. -/
theorem cross_false_progress (h : Accepted c) {cur : String} {a : Expr} (hb : Base c.extras c.rules a)
    (hcl : ∀ n ∈ lmS c.extras c.rules cur false a, E c.extras c.rules cur n) (hx : V.cross c.rules cur a = false)
    {m la s s' f} (hv : val c m la a s = .ok s' f) : s.pos < s'.pos := by
  have hnp : isNonProgressing c.rules (fuelFor c.rules a) a [cur] = false := by
    unfold V.cross at hx
    simp only [Bool.or_eq_false_iff] at hx
    exact hx.2
  rcases np_false_cases c.extras c.rules h.sfAll h.tagAll (fun _ => no_name_cycle h.lr)
      _ a [cur] cur hb.sf hb.tag (fun _ => rfl) (fuelFor_ok _ _ _) hnp with hp | ⟨id, hid, n, hn, hr⟩
  · exact prog_progress hp _ _ _ _ _ hv
  · -- a rule reference visited in `a` leads back to `cur`, and `cur` looks at it: a cycle of names
    rw [List.mem_singleton.1 hid] at hr
    refine absurd ?_ (no_name_cycle h.lr (a := cur))
    rcases hr with rfl | hr
    · exact .single (hcl _ hn)
    · exact .tail hr (hcl _ hn)

/-- calls of `WHITESPACE`/`COMMENT` from the implicit skipping consume: the name is `Prog`, as a rule whose
body is, or as a built-in that is none of the exceptions. -/
theorem ws_progress (h : Accepted c) {nm : String} (hn : nm = "WHITESPACE" ∨ nm = "COMMENT") (la : Bool) :
    ∀ s s' f, valCa c .nonAtomic la nm s = .ok s' f → s.pos < s'.pos := by
  have hp : Prog c.rules (.ident nm) := by
    cases hl : lookup c.rules nm with
    | none =>
      exact .builtin hl (by rcases hn with rfl | rfl <;> decide) (by rcases hn with rfl | rfl <;> decide)
        (by rcases hn with rfl | rfl <;> decide)
    | some body =>
      obtain ⟨r, hr, hname, rfl⟩ := lookup_some_mem hl
      exact .rule hl (h.wsProg r hr (hname ▸ hn))
  exact fun s s' f hv => prog_progress hp .nonAtomic la s s' f (by rwa [val_ident])

/-- what the outer inductions give while the body of rule `cur` (skipping inside it: `sk`) is
evaluated with `N` bytes left: a call terminates if it happens further on in the input, or if the
left-recursion check enters it from that body. -/
structure Lvl (c : Ctx) (N : Nat) (cur : String) (sk : Bool) : Prop where
  acc : Accepted c
  call : ∀ nm s, mu c s ≤ N → (mu c s = N → ES c.extras c.rules cur sk nm) → ∀ m, isNA m = sk → ∀ la,
    valCa c m la nm s ≠ .fuel

/-- at `s`, if nothing has been consumed yet, whatever the check enters in `e` it enters from the body of `cur`. -/
def Vis (c : Ctx) (N : Nat) (cur : String) (s : St) (e : Expr) : Prop :=
  mu c s = N → ∀ sk, ∀ n ∈ lmS c.extras c.rules cur sk e, ES c.extras c.rules cur sk n

variable {N : Nat} {cur : String} {sk : Bool}

theorem Vis.sub {s : St} {e e' : Expr} (h : Vis c N cur s e)
    (hs : ∀ sk n, n ∈ lmS c.extras c.rules cur sk e' → n ∈ lmS c.extras c.rules cur sk e) : Vis c N cur s e' :=
  fun hN sk n hn => h hN sk n (hs sk n hn)

/-- later in the input nothing is asked. -/
theorem Vis.later {s s' : St} {e e' : Expr} (h : Vis c N cur s e) (hs : mu c s ≤ N) (hs' : mu c s' ≤ mu c s)
    (hsub : mu c s' = N → mu c s = N → ∀ sk n, n ∈ lmS c.extras c.rules cur sk e' → n ∈ lmS c.extras c.rules cur sk e) :
    Vis c N cur s' e' :=
  fun hN sk n hn => h (by omega) sk n (hsub hN (by omega) sk n hn)

/-- the implicit skip: below level `N` always, at level `N` where the check entered the implicit calls. -/
theorem Lvl.K (H : Lvl c N cur sk) {s : St} (hs : mu c s ≤ N)
    (hws : mu c s = N → sk = true → ∀ n ∈ wsNames c.rules, ES c.extras c.rules cur sk n)
    {m : Atomicity} (hm : isNA m = sk) (la : Bool) : valK c m la s ≠ .fuel := by
  by_cases hsk : sk = true
  · have hcall : ∀ nm, nm = "WHITESPACE" ∨ nm = "COMMENT" → c.has nm = true → ∀ la s', mu c s' ≤ mu c s →
        valCa c .nonAtomic la nm s' ≠ .fuel := by
      intro nm hn hh la s' hs'
      exact H.call nm s' (by omega) (fun hN => hws (by omega) hsk nm (mem_wsNames.2 ⟨hn, has_eq_lookup c nm ▸ hh⟩)) _
        (by rw [hsk]; rfl) la
    exact valK_level (mu c s) (hcall _ (Or.inl rfl)) (ws_progress H.acc (Or.inl rfl))
      (hcall _ (Or.inr rfl)) (ws_progress H.acc (Or.inr rfl)) s (Nat.le_refl _) m la
  · exact valK_of_not_isNA (by rw [hm]; simpa using hsk)

/-- where `a` matched at level `N` without consuming, the check looked behind it. -/
theorem Lvl.cross_of_same (H : Lvl c N cur sk) {a : Expr} (hb : Base c.extras c.rules a) {s : St}
    (hv : Vis c N cur s a) (hN : mu c s = N) {m la s1 f1} (h1 : val c m la a s = .ok s1 f1) (h : mu c s1 = N) :
    V.cross c.rules cur a = true := by
  cases hx : V.cross c.rules cur a with
  | true => rfl
  | false =>
    have := (val_fwd h1).mu_lt
      (cross_false_progress H.acc hb (hv hN false) hx h1)
    omega

/-- the skips behind `a`: those at level `N` are the ones the check entered. -/
theorem Lvl.K_behind (H : Lvl c N cur sk) {a : Expr} (hb : Base c.extras c.rules a) {s : St} (hs : mu c s ≤ N)
    (hv : Vis c N cur s a)
    (hws : V.cross c.rules cur a = true → mu c s = N → sk = true → ∀ n ∈ wsNames c.rules, ES c.extras c.rules cur sk n)
    {m : Atomicity} (hm : isNA m = sk) (la : Bool) {s1 f1} (h1 : val c m la a s = .ok s1 f1) {s' : St}
    (hs' : mu c s' ≤ mu c s1) : valK c m la s' ≠ .fuel := by
  have := (val_fwd h1).mu_le
  exact H.K (by omega) (fun h => hws (H.cross_of_same hb hv (by omega) h1 (by omega)) (by omega)) hm la

/-- `e{lo,hi}`: the skips between the copies are at the level of the first copy only if that copy may
match nothing — which is when the check enters the implicit calls — and otherwise happen below. -/
theorem Lvl.bounded_term (H : Lvl c N cur sk) {e : Expr} {lo hi : Nat} (hb : Base c.extras c.rules e)
    {s : St} (hs : mu c s ≤ N) (hv : Vis c N cur s (.repMinMax e lo hi)) {m : Atomicity} (hm : isNA m = sk) (la : Bool)
    (he : ∀ s', mu c s' ≤ mu c s → val c m la e s' ≠ .fuel) : val c m la (.repMinMax e lo hi) s ≠ .fuel := by
  rw [val_repMinMax]
  cases hi with
  | zero => simp [seqOfList]
  | succ k =>
    rw [List.range_succ_eq_map, List.map_cons]
    split
    · rename_i u hu
      have hws : k ≠ 0 → (lo = 0 ∨ V.cross c.rules cur e = true) → mu c s = N → sk = true →
          ∀ n ∈ wsNames c.rules, ES c.extras c.rules cur sk n :=
        fun hk hx hN hsk n hn => hv hN sk n (mem_lmS_repMinMax.2 (Or.inr ⟨by omega, hx, hsk, hn⟩))
      refine seqs_term _ _ u s hu (fun y hy => ?_) fun hne s1 f1 h1 s' hs' => ?_
      · have : y = e ∨ y = .opt e := by
          rcases List.mem_cons.1 hy with rfl | hy
          · split <;> simp
          · obtain ⟨i, _, rfl⟩ := List.mem_map.1 hy
            show (if _ then e else Expr.opt e) = e ∨ _; split <;> simp
        rcases this with rfl | rfl
        · exact he
        · exact fun s' hs' => val_opt_ne_fuel (he s' hs')
      · have hk : k ≠ 0 := by rintro rfl; simp at hne
        by_cases hlo : lo = 0
        · have := (val_fwd h1).mu_le
          exact H.K (by omega) (fun hN => hws hk (Or.inl hlo) (by omega)) hm la
        · rw [if_pos (by omega)] at h1
          exact H.K_behind hb hs (hv.sub fun _ _ hn => mem_lmS_repMinMax.2 (Or.inl hn))
            (fun hx => hws hk (Or.inr hx)) hm la h1 hs'
    · simp

/-- one expression of the body. -/
theorem expr_term (H : Lvl c N cur sk) :
    ∀ e, Base c.extras c.rules e → ∀ s, mu c s ≤ N → Vis c N cur s e →
      ∀ m, isNA m = sk → ∀ la, val c m la e s ≠ .fuel := by
  intro e
  induction e with
  | str str => intro _ s _ _ m _ la; rw [val_str]; exact lit_ne_fuel _ _ _
  | insens str => intro _ s _ _ m _ la; rw [val_insens]; exact insensM_ne_fuel _ _ _
  | range a b => intro _ s _ _ m _ la; rw [val_range]; exact oneChar_ne_fuel _ _ _
  | ident n =>
    intro hb s hs hv m hm la
    rw [val_ident]
    exact H.call n s hs (fun hN => hv hN sk n (List.mem_singleton_self n)) m hm la
  | peekSlice a b =>
    intro _ s _ _ m _ la
    rw [val_eq]
    simp only [denoteF]
    split
    · split
      · simp
      · split <;> simp
    · simp
  | skip strs =>
    intro _ s _ _ m _ la
    rw [val_skip]
    split <;> simp
  | pushLiteral str => intro _ s _ _ m _ la; rw [val_pushLiteral]; simp
  | push e ih => intro hb; exact absurd hb.sf (by simp [SF])
  | posPred e ih => intro hb s hs hv m hm la; exact val_posPred_ne_fuel (ih hb.posPred s hs hv m hm true)
  | negPred e ih => intro hb s hs hv m hm la; exact val_negPred_ne_fuel (ih hb.negPred s hs hv m hm true)
  | opt e ih => intro hb s hs hv m hm la; exact val_opt_ne_fuel (ih hb.opt s hs hv m hm la)
  | nodeTag e t ih =>
    intro hb s hs hv m hm la
    obtain ⟨hbe, hex⟩ := hb.nodeTag
    exact val_nodeTag_ne_fuel (ih hbe s hs (hv.sub fun _ _ hn => mem_lmS_nodeTag.2 ⟨hex, hn⟩) m hm la)
  | choice a b iha ihb =>
    intro hb s hs hv m hm la
    exact val_choice_ne_fuel
      (iha hb.choice.1 s hs (hv.sub fun _ _ hn => mem_lmS_choice.2 (Or.inl hn)) m hm la)
      (ihb hb.choice.2 s hs (hv.sub fun _ _ hn => mem_lmS_choice.2 (Or.inr hn)) m hm la)
  | seq a b iha ihb =>
    intro hb s hs hv m hm la
    have hva : Vis c N cur s a := hv.sub fun _ _ hn => mem_lmS_seq.2 (Or.inl hn)
    refine val_seq_ne_fuel (iha hb.seq.1 s hs hva m hm la)
      (fun s1 f1 h1 => H.K_behind hb.seq.1 hs hva (fun hx hN hsk n hn =>
        hv hN sk n (mem_lmS_seq.2 (Or.inr ⟨hx, Or.inl ⟨hsk, hn⟩⟩))) hm la h1 (Nat.le_refl _))
      (fun s1 f1 s2 f2 h1 h2 => ?_)
    have m1 := (val_fwd h1).mu_le
    have m2 := (valK_fwd h2).mu_le
    exact ihb hb.seq.2 s2 (by omega) (hv.later hs (by omega) fun h2 hN _ _ hn =>
      mem_lmS_seq.2 (Or.inr ⟨H.cross_of_same hb.seq.1 hva hN h1 (by omega), Or.inr hn⟩)) m hm la
  | rep e ih =>
    intro hb s hs hv m hm la
    exact rep_term (mu c s) hb.rep.2 (fun s' hs' => ih hb.rep.1 s' (by omega) (hv.later hs hs' fun _ _ _ _ hn => hn) m hm la)
      (fun s' hs' => H.K (by omega) (fun hN => absurd hN (by omega)) hm la) s (Nat.le_refl _)
  | repOnce e ih =>
    intro hb s hs hv m hm la
    exact repOnce_term (mu c s) hb.repOnce.2
      (fun s' hs' => ih hb.repOnce.1 s' (by omega) (hv.later hs hs' fun _ _ _ _ hn => hn) m hm la)
      (fun s' hs' => H.K (by omega) (fun hN => absurd hN (by omega)) hm la) s (Nat.le_refl _)
  | repMin e k ih =>
    intro hb s hs hv m hm la
    have he : ∀ s', mu c s' ≤ mu c s → val c m la e s' ≠ .fuel :=
      fun s' hs' => ih hb.repMin.1 s' (by omega) (hv.later hs hs' fun _ _ _ _ hn => hn) m hm la
    have hKlow : ∀ s', mu c s' < mu c s → valK c m la s' ≠ .fuel :=
      fun s' hs' => H.K (by omega) (fun hN => absurd hN (by omega)) hm la
    have hrep := rep_term (mu c s) hb.repMin.2 he hKlow
    rw [val_repMin]
    split
    · rename_i u hu
      cases k with
      | zero => cases hu; exact hrep s (Nat.le_refl _)
      | succ k' =>
        rw [List.replicate_succ, List.cons_append] at hu
        refine seqs_term _ e u s hu (fun y hy s' hs' => ?_) fun _ s1 f1 h1 s' hs' => hKlow s' ?_
        · rcases List.mem_cons.1 hy with rfl | hy
          · exact he s' hs'
          rcases List.mem_append.1 hy with hy | hy
          · rw [List.eq_of_mem_replicate hy]; exact he s' hs'
          · rw [List.mem_singleton.1 hy]; exact hrep s' hs'
        · have := (val_fwd h1).mu_lt (prog_progress hb.repMin.2 _ _ _ _ _ h1); omega
    · simp
  | repMinMax e lo hi ih =>
    intro hb s hs hv m hm la
    exact H.bounded_term hb.repMinMax hs hv hm la fun s' hs' =>
      ih hb.repMinMax s' (by omega) (hv.later hs hs' fun _ _ _ _ hn => mem_lmS_repMinMax.2 (Or.inl hn)) m hm la
  | repExact e k ih =>
    intro hb s hs hv m hm la
    have hv' : Vis c N cur s (.repMinMax e k k) := hv.sub fun _ _ hn => by rwa [lmS_repExact]
    rw [val_repExact_eq]
    exact H.bounded_term hb.repExact hs hv' hm la fun s' hs' =>
      ih hb.repExact s' (by omega) (hv'.later hs hs' fun _ _ _ _ hn => mem_lmS_repMinMax.2 (Or.inl hn)) m hm la
  | repMax e k ih =>
    intro hb s hs hv m hm la
    have hv' : Vis c N cur s (.repMinMax e 0 k) := hv.sub fun _ _ hn => by rwa [lmS_repMax]
    rw [val_repMax_eq]
    exact H.bounded_term hb.repMax hs hv' hm la fun s' hs' =>
      ih hb.repMax s' (by omega) (hv'.later hs hs' fun _ _ _ _ hn => mem_lmS_repMinMax.2 (Or.inl hn)) m hm la

/-- all rule calls at level `N`: the pair `p` is (rule, skipping inside it). -/
theorem calls_term_level (h : Accepted c) (N : Nat) (low : ∀ nm s, mu c s < N → ∀ m la, valCa c m la nm s ≠ .fuel) :
    ∀ p : Key, ∀ s, mu c s ≤ N → ∀ m la, skipsInside c.rules p.1 (isNA m) = p.2 → valCa c m la p.1 s ≠ .fuel := by
  intro p
  induction acc_all h.lr p with
  | intro p _ ih =>
    intro s hs m la hp
    rw [valCa_unfold]
    cases hr : c.rule? p.1 with
    | none => exact builtin_ne_fuel _ _ _ _ _
    | some q =>
      obtain ⟨id, r⟩ := q
      obtain ⟨hl, hmem, hname⟩ := lookup_of_rule? hr
      have H : Lvl c N p.1 p.2 := ⟨h, fun nm s hs hE m' hm' la' => by
        by_cases hN : mu c s < N
        · exact low nm s hN m' la'
        · exact ih (key c.rules p.2 nm) ⟨nm, hE (by omega), rfl⟩ s hs m' la'
            (by show skipsInside c.rules nm (isNA m') = skipsInside c.rules nm p.2; rw [hm'])⟩
      have hkey : val c (bodyMode r.name r.ty m) la r.expr s ≠ .fuel :=
        expr_term H r.expr (h.bodies _ _ hl) s hs (fun _ _ n hn => ⟨_, hl, hn⟩) _ (by rw [isNA_bodyMode hr, hp]) la
      simp only []
      revert hkey
      cases val c (bodyMode r.name r.ty m) la r.expr s <;> simp
      split <;> simp

/-- every rule call of an accepted grammar terminates. -/
theorem calls_term_all (h : Accepted c) : ∀ nm s m la, valCa c m la nm s ≠ .fuel := by
  intro nm s
  generalize hN : mu c s = N
  induction N using Nat.strongRecOn generalizing nm s with
  | _ N ih =>
    intro m la
    exact calls_term_level h N (fun nm' s' hs' => ih _ hs' nm' s' rfl) (nm, skipsInside c.rules nm (isNA m)) s (by omega) m la rfl

end
end PestModel.V
