import PestModel.Lemmas.JsonRfc
/-!
The grammar side of C18: the context, the rule table, literals and character classes at a cursor,
sequences and loops in atomic mode.
-/
namespace PestModel.Json
open PestModel.Ref PestModel.G
open PestModel.LineCol (Str cLen bLen)
open PestModel.PS (Atomicity CharSet restAt restAt_iff restAt_advance)
open PestModel.Views (Tree)

/-- the evaluation context of the bundled JSON grammar. -/
def jctx (input : Str) (uni : String → Option CharSet) : Ctx :=
  { rules := PestModel.Gen.Json.rules, input := input, extras := false, uni := uni }

@[simp] theorem jctx_input (input uni) : (jctx input uni).input = input := rfl
@[simp] theorem jctx_extras (input uni) : (jctx input uni).extras = false := rfl
@[simp] theorem jctx_rules (input uni) : (jctx input uni).rules = PestModel.Gen.Json.rules := rfl

/-! The bodies of the rules of `Gen.Json.rules`, their string literals evaluated to lists of characters. -/

def eJson : Expr := .seq (.seq (.ident "SOI") (.ident "value")) (.ident "EOI")
def eObject : Expr :=
  .choice (.seq (.seq (.seq (.str ['{']) (.ident "pair")) (.rep (.seq (.str [',']) (.ident "pair")))) (.str ['}']))
    (.seq (.str ['{']) (.str ['}']))
def ePair : Expr := .seq (.seq (.ident "string") (.str [':'])) (.ident "value")
def eArray : Expr :=
  .choice (.seq (.seq (.seq (.str ['[']) (.ident "value")) (.rep (.seq (.str [',']) (.ident "value")))) (.str [']']))
    (.seq (.str ['[']) (.str [']']))
def eValue : Expr :=
  .choice (.choice (.choice (.choice (.choice (.ident "string") (.ident "number")) (.ident "object")) (.ident "array"))
    (.ident "bool")) (.ident "null")
def eString : Expr := .seq (.seq (.str ['"']) (.ident "inner")) (.str ['"'])
def eUnesc : Expr :=
  .seq (.negPred (.choice (.choice (.str ['"']) (.str ['\\'])) (.range (Char.ofNat 0) (Char.ofNat 31)))) (.ident "ANY")
def eInnerTail : Expr := .opt (.seq (.ident "escape") (.ident "inner"))
def eInner : Expr := .seq (.rep eUnesc) eInnerTail
def eEscape : Expr :=
  .seq (.str ['\\'])
    (.choice (.choice (.choice (.choice (.choice (.choice (.choice (.choice (.str ['"']) (.str ['\\'])) (.str ['/']))
      (.str ['b'])) (.str ['f'])) (.str ['n'])) (.str ['r'])) (.str ['t'])) (.ident "unicode"))
def eUnicode : Expr := .seq (.str ['u']) (.repExact (.ident "ASCII_HEX_DIGIT") 4)
def eFrac : Expr := .seq (.seq (.str ['.']) (.repOnce (.ident "ASCII_DIGIT"))) (.opt (.ident "exp"))
def eNumber : Expr :=
  .seq (.seq (.opt (.str ['-'])) (.ident "int")) (.opt (.choice eFrac (.ident "exp")))
def eInt : Expr := .choice (.str ['0']) (.seq (.ident "ASCII_NONZERO_DIGIT") (.rep (.ident "ASCII_DIGIT")))
def eExp : Expr :=
  .seq (.seq (.choice (.str ['E']) (.str ['e'])) (.opt (.choice (.str ['+']) (.str ['-'])))) (.repOnce (.ident "ASCII_DIGIT"))
def eBool : Expr := .choice (.str ['t', 'r', 'u', 'e']) (.str ['f', 'a', 'l', 's', 'e'])
def eNull : Expr := .str ['n', 'u', 'l', 'l']
def eWs : Expr := .choice (.choice (.choice (.str [' ']) (.str ['\t'])) (.str ['\r'])) (.str ['\n'])

section
variable (input : Str) (uni : String → Option CharSet)

/-! The lookups compare names, and comparing two string literals is slow to evaluate: each rule is looked up
here once. `by rfl` rather than `:= rfl`: the latter is evaluated once more when Lean records the theorem as a
definitional equation. -/

theorem rule_json : (jctx input uni).rule? "json" = some (0, ⟨"json", .normal, eJson⟩) := by rfl
theorem rule_object : (jctx input uni).rule? "object" = some (1, ⟨"object", .normal, eObject⟩) := by rfl
theorem rule_pair : (jctx input uni).rule? "pair" = some (2, ⟨"pair", .normal, ePair⟩) := by rfl
theorem rule_array : (jctx input uni).rule? "array" = some (3, ⟨"array", .normal, eArray⟩) := by rfl
theorem rule_value : (jctx input uni).rule? "value" = some (4, ⟨"value", .normal, eValue⟩) := by rfl
theorem rule_string : (jctx input uni).rule? "string" = some (5, ⟨"string", .atomic, eString⟩) := by rfl
theorem rule_inner : (jctx input uni).rule? "inner" = some (6, ⟨"inner", .atomic, eInner⟩) := by rfl
theorem rule_escape : (jctx input uni).rule? "escape" = some (7, ⟨"escape", .atomic, eEscape⟩) := by rfl
theorem rule_unicode : (jctx input uni).rule? "unicode" = some (8, ⟨"unicode", .atomic, eUnicode⟩) := by rfl
theorem rule_number : (jctx input uni).rule? "number" = some (9, ⟨"number", .atomic, eNumber⟩) := by rfl
theorem rule_int : (jctx input uni).rule? "int" = some (10, ⟨"int", .atomic, eInt⟩) := by rfl
theorem rule_exp : (jctx input uni).rule? "exp" = some (11, ⟨"exp", .atomic, eExp⟩) := by rfl
theorem rule_bool : (jctx input uni).rule? "bool" = some (12, ⟨"bool", .normal, eBool⟩) := by rfl
theorem rule_null : (jctx input uni).rule? "null" = some (13, ⟨"null", .normal, eNull⟩) := by rfl
theorem rule_ws : (jctx input uni).rule? "WHITESPACE" = some (14, ⟨"WHITESPACE", .silent, eWs⟩) := by rfl
theorem rule_EOI : (jctx input uni).rule? "EOI" = none := by rfl
theorem has_ws : (jctx input uni).has "WHITESPACE" = true := by rw [Ctx.has, rule_ws]; rfl
theorem has_comment : (jctx input uni).has "COMMENT" = false := by rfl

theorem rule?_go_idx (name : String) (rs : List Rule) (i : Nat) :
    (Ctx.rule?.go name rs i).map (·.1) = (rs.findIdx? (·.name = name)).map (· + i) := by
  induction rs generalizing i with
  | nil => rfl
  | cons r rs ih =>
    rw [Ctx.rule?.go, List.findIdx?_cons]
    by_cases h : r.name = name
    · simp [h]
    · simp only [h, decide_false, Bool.false_eq_true, if_false, ih, Option.map_map]
      congr 1; funext k; show k + (i + 1) = k + 1 + i; omega

theorem ruleIdx_eq (name : String) : ruleIdx name =
    match (jctx input uni).rule? name with
    | some (id, _) => id
    | none => PestModel.Gen.Json.rules.length := by
  have h := rule?_go_idx name PestModel.Gen.Json.rules 0
  unfold ruleIdx
  show _ = match Ctx.rule?.go name PestModel.Gen.Json.rules 0 with | some (id, _) => id | none => _
  cases hf : PestModel.Gen.Json.rules.findIdx? (·.name = name) <;> rw [hf] at h <;>
    cases hg : Ctx.rule?.go name PestModel.Gen.Json.rules 0 <;> rw [hg] at h <;> cases h <;> rfl

end

/-- a lexical result: success at a cursor with no pairs, or failure. -/
def toRes (o : Option Cur) (stk : List Str) : Res :=
  match o with
  | some c' => .ok ⟨c'.pos, stk⟩ []
  | none => .fail

@[simp] theorem toRes_some (c : Cur) (stk : List Str) : toRes (some c) stk = .ok ⟨c.pos, stk⟩ [] := rfl
@[simp] theorem toRes_none (stk : List Str) : toRes none stk = .fail := rfl

/-- the result of a rule that produces one pair. -/
def vRes (o : Option (JTree × Cur)) (stk : List Str) : Res :=
  match o with
  | some (t, c') => .ok ⟨c'.pos, stk⟩ [JT t]
  | none => .fail

@[simp] theorem vRes_none (stk : List Str) : vRes none stk = .fail := rfl
@[simp] theorem vRes_some (t : JTree) (c' : Cur) (stk : List Str) : vRes (some (t, c')) stk = .ok ⟨c'.pos, stk⟩ [JT t] := rfl

section
variable {input : Str} {uni : String → Option CharSet}

theorem lit_at {c : Cur} (h : At input c) (stk : List Str) (str : Str) :
    lit (jctx input uni) ⟨c.pos, stk⟩ str =
      if str.isPrefixOf c.rest then .ok ⟨c.pos + bLen str, stk⟩ [] else .fail :=
  lit_eq (c := jctx input uni) (s := ⟨c.pos, stk⟩) h str

theorem lit_cons_ne {c : Cur} (h : At input c) {ch : Char} {cs : Str} (hr : c.rest = ch :: cs)
    (stk : List Str) {a : Char} (as : Str) (hne : ch ≠ a) :
    lit (jctx input uni) ⟨c.pos, stk⟩ (a :: as) = .fail := by
  rw [lit_at h, hr]
  have : ¬ a = ch := fun h => hne h.symm
  simp [List.isPrefixOf, this]

theorem oneChar_at {c : Cur} (h : At input c) (stk : List Str) (p : Char → Bool) :
    oneChar (jctx input uni) ⟨c.pos, stk⟩ p = toRes (chL p c) stk := by
  unfold oneChar chL
  simp only [jctx_input]
  rw [show restAt input c.pos = some c.rest from h]
  cases hr : c.rest with
  | nil => rfl
  | cons ch cs => rw [adv_cons hr]; cases hp : p ch <;> simp [hp]

theorem lit1_at {c : Cur} (h : At input c) (stk : List Str) (a : Char) :
    lit (jctx input uni) ⟨c.pos, stk⟩ [a] = toRes (chL (· == a) c) stk := by
  rw [lit_at h]
  cases hr : c.rest with
  | nil => rw [chL_nil hr]; rfl
  | cons ch cs =>
    rw [chL_cons hr, adv_cons hr]
    by_cases he : ch = a
    · subst he; simp [List.isPrefixOf]
    · have : ¬ a = ch := fun e => he e.symm
      simp [List.isPrefixOf, he, this]

end

/-- ordered choice of results, under a name: an inline `match` cannot be rewritten with. -/
def orR (r r' : Res) : Res :=
  match r with
  | .fail => r'
  | r => r

theorem orR_fail (r : Res) : orR r .fail = r := by cases r <;> rfl

/-- the pair of rule `id` around a result that started at `start`. -/
def wrap (id start : Nat) : Res → Res
  | .ok s1 f1 => .ok s1 [.node id start s1.pos none f1]
  | r => r

@[simp] theorem wrap_ok (id start : Nat) (s : St) (f : List Tree) :
    wrap id start (.ok s f) = .ok s [.node id start s.pos none f] := rfl
@[simp] theorem wrap_fail (id start : Nat) : wrap id start .fail = .fail := rfl

theorem wrap_orR (id start : Nat) (r r' : Res) : wrap id start (orR r r') = orR (wrap id start r) (wrap id start r') := by
  cases r <;> rfl

theorem val_choice' (c : Ctx) (m : Atomicity) (la : Bool) (a b : Expr) (s : St) :
    val c m la (.choice a b) s = orR (val c m la a s) (val c m la b s) := by
  rw [val_choice]; rfl

theorem val_seq_atomic (c : Ctx) (la : Bool) (a b : Expr) (s : St) :
    val c .atomic la (.seq a b) s =
      match val c .atomic la a s with
      | .ok s1 f1 =>
        match val c .atomic la b s1 with
        | .ok s3 f3 => .ok s3 (f1 ++ f3)
        | r => r
      | r => r := by
  rw [val_seq]
  cases val c .atomic la a s <;> simp only []
  rename_i s1 f1
  rw [valK_atomic _ _ _ _ (by decide)]
  simp only [List.append_nil]
  cases val c .atomic la b s1 <;> rfl

theorem valL_atomic (c : Ctx) (la : Bool) (e : Expr) (s : St) (acc : List Tree) :
    valL c .atomic la e s acc =
      match val c .atomic la e s with
      | .ok s2 f2 => valL c .atomic la e s2 (acc ++ f2)
      | .fail => .ok s acc
      | r => r := by
  rw [valL_unfold, valK_atomic _ _ _ _ (by decide)]
  simp only [List.append_nil]
  cases val c .atomic la e s <;> rfl

theorem val_rep_atomic (c : Ctx) (la : Bool) (e : Expr) (s : St) :
    val c .atomic la (.rep e) s = valL c .atomic la e s [] := by
  rw [val_rep, valL_atomic]
  cases val c .atomic la e s <;> simp only [List.nil_append]

/-- a rule of type `@` called in atomic mode is its body (no node). -/
theorem call_atomic {c : Ctx} {name : String} {id : Nat} {e : Expr}
    (hr : c.rule? name = some (id, ⟨name, .atomic, e⟩)) (la : Bool) (s : St) :
    valCa c .atomic la name s = val c .atomic la e s := by
  rw [valCa_unfold, hr]
  simp only [bodyMode_atomic, emitsFor]
  cases val c .atomic la e s <;> simp

/-- a rule of type `@` called from a non-atomic rule (not in a predicate): its body in atomic mode, in one pair. -/
theorem call_leaf {c : Ctx} {name : String} {id : Nat} {e : Expr}
    (hr : c.rule? name = some (id, ⟨name, .atomic, e⟩)) (s : St) :
    valCa c .nonAtomic false name s = wrap id s.pos (val c .atomic false e s) := by
  rw [valCa_unfold, hr]
  simp only [bodyMode_atomic, emitsFor]
  cases val c .atomic false e s <;> simp [wrap]

/-- a normal rule of the grammar called in a non-atomic rule (not in a predicate): one pair around its body. -/
theorem call_normal_of {input : Str} {uni : String → Option CharSet} {name : String} {id : Nat} {e : Expr}
    (hr : (jctx input uni).rule? name = some (id, ⟨name, .normal, e⟩)) (s : St) :
    valCa (jctx input uni) .nonAtomic false name s = wrap id s.pos (val (jctx input uni) .nonAtomic false e s) := by
  have hn : ¬ (name = "WHITESPACE" ∨ name = "COMMENT") := by
    rintro (rfl | rfl)
    · rw [rule_ws] at hr; cases hr
    · have := has_comment input uni
      rw [Ctx.has, hr] at this
      cases this
  have hm : bodyMode name .normal .nonAtomic = .nonAtomic := if_neg hn
  rw [valCa_unfold, hr]
  simp only [hm]
  cases val (jctx input uni) .nonAtomic false e s <;> rfl

end PestModel.Json
