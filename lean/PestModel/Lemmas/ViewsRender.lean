import PestModel.Lemmas.ViewsPairs
/-! Helper lemmas for C04: the renderers (`{:#}`, `{:?}`) agree with the tree-side functions. -/
namespace PestModel.Views
open PestModel.PS (QTok)
open PestModel.LineCol (Str slice?)

variable {q : List QTok}

theorem altList_of_layout {a b : Nat} {ts : List Tree} (h : Layout q a ts b) :
    ∀ fuel, b - a + 1 ≤ fuel → showPairsAltList q fuel (starts a ts) = some (altOfList ts) := by
  induction h with
  | nil a =>
    intro fuel hf
    obtain ⟨f, rfl⟩ : ∃ f, fuel = f + 1 := ⟨fuel - 1, by omega⟩
    simp [starts, showPairsAltList, altOfList]
  | cons h1 h2 hk hr ihk ihr =>
    rename_i a e b r p0 p1 tag kids rest
    intro fuel hf
    have := hk.le; have := hr.le
    obtain ⟨f, rfl⟩ : ∃ f, fuel = f + 2 := ⟨fuel - 2, by omega⟩
    have hobs : PairObs q a (.node r p0 p1 tag kids) := pairObs_of h1 h2 hk
    have hp : showPairAlt q (f + 1) a = some (altOf (.node r p0 p1 tag kids)) := by
      rw [showPairAlt]
      simp only [hobs.1, hobs.2.1, pairEnd_of h1, pairsList_of_layout' hk, Tree.rule, Tree.start, Tree.stop]
      cases kids with
      | nil => simp [starts, altOf]
      | cons k ks =>
        have ih' := ihk f (by omega)
        simp only [starts] at ih' ⊢
        simp [ih', altOf]
    rw [starts_cons_of hk, showPairsAltList, ihr (f + 1) (by omega), hp]
    simp [altOfList]

theorem debugList_of_layout {input : Str} {a b : Nat} {ts : List Tree} (h : Layout q a ts b) :
    ∀ fuel, b - a + 1 ≤ fuel → showPairsDebugList q input fuel (starts a ts) = debugOfList input ts := by
  induction h with
  | nil a =>
    intro fuel hf
    obtain ⟨f, rfl⟩ : ∃ f, fuel = f + 1 := ⟨fuel - 1, by omega⟩
    simp [starts, showPairsDebugList, debugOfList]
  | cons h1 h2 hk hr ihk ihr =>
    rename_i a e b r p0 p1 tag kids rest
    intro fuel hf
    have := hk.le; have := hr.le
    obtain ⟨f, rfl⟩ : ∃ f, fuel = f + 2 := ⟨fuel - 2, by omega⟩
    have hobs : PairObs q a (.node r p0 p1 tag kids) := pairObs_of h1 h2 hk
    have hp : showPairDebug q input (f + 1) a = debugOf input (.node r p0 p1 tag kids) := by
      rw [showPairDebug]
      simp only [debugOf]
      simp only [hobs.1, hobs.2.1, hobs.2.2.1, pairEnd_of h1, pairStr_of_obs hobs,
        Tree.rule, Tree.start, Tree.stop, Tree.tag, strOf]
      cases slice? input p0 p1 with
      | none => simp
      | some str =>
        simp only [pairsList_of_layout' hk, ihk f (by omega)]
        cases debugOfList input kids <;> cases tag <;> rfl
    rw [starts_cons_of hk, showPairsDebugList, ihr (f + 1) (by omega), hp]
    simp only [debugOfList]
    generalize debugOf input _ = x
    generalize debugOfList input rest = y
    cases x <;> cases y <;> rfl

end PestModel.Views
