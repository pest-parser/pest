import PestModel.Lemmas.RefHoare
import PestModel.Lemmas.ReaderShape
/-!
C09, part A: the pairs that the reference denotation of the regenerated meta-grammar (`Gen.Meta.rules`)
produces have the shape `GrammarForest` — by the Hoare rule of `RefHoare`: one postcondition per rule of
`grammar.pest` (`metaPost`), each rule body checked once (`metaPostOK`).
-/
namespace PestModel.MetaPost
open PestModel.G PestModel.Ref PestModel.ReaderShape
open PestModel.ReaderFull (kind strOf nameOf metaNames noUni)
open PestModel.Views (Tree)
open PestModel.LineCol (Str bLen)
open PestModel.PS (Atomicity CharSet)

def metaCtx (text : Str) : Ctx := { rules := PestModel.Gen.Meta.rules, input := text, extras := false, uni := noUni }

/-- type of the rule of that name in `grammar.pest` (independent of the text). -/
def rty (name : String) : Option RuleType := ((metaCtx []).rule? name).map (·.2.ty)

theorem rule?_indep (text : Str) (name : String) : (metaCtx text).rule? name = (metaCtx []).rule? name := rfl

/-- rules that never produce a pair. -/
def Quiet (name : String) : Prop :=
  name = "WHITESPACE" ∨ name = "COMMENT" ∨ name = "newline" ∨ name = "line_comment" ∨ name = "block_comment" ∨
  name = "space" ∨ name = "alpha" ∨ name = "alpha_num"

instance (name : String) : Decidable (Quiet name) := by unfold Quiet; infer_instance

/-- facts about the consumed word (any mode). -/
def WordFact (name : String) (w : Str) : Prop :=
  (name = "quote" → w = ['"']) ∧ (name = "single_quote" → w = ['\'']) ∧
  (name = "tag_id" → ∃ body, w = '#' :: body) ∧
  (name = "string" → ∃ body, w = '"' :: body ++ ['"']) ∧
  (name = "character" → ∃ body, w = '\'' :: body ++ ['\''])

def PushKids (text : Str) (cs : List Tree) : Prop :=
  ∃ o e c, cs = [o, e, c] ∧ kind e = "expression" ∧ ExprKids text e.children

def RuleKids (text : Str) (cs : List Tree) : Prop :=
  (∃ c rest, cs = c :: rest ∧ kind c = "line_doc") ∨
  (∃ id asg mods ob e cb, cs = id :: asg :: (mods ++ [ob, e, cb]) ∧ kind id = "identifier" ∧ HasStr text id ∧
    (mods = [] ∨ ∃ m, mods = [m] ∧ IsModifier m) ∧ kind ob = "opening_brace" ∧
    kind e = "expression" ∧ ExprKids text e.children)

/-- the inner pairs of an emitted pair, by rule (non-atomic context, outside predicates). -/
def Kids (text : Str) (name : String) (cs : List Tree) : Prop :=
  (name = "grammar_rule" → RuleKids text cs) ∧
  (name = "expression" → ExprKids text cs) ∧
  (name = "term" → UnArgs text cs) ∧
  (name = "_push" → PushKids text cs) ∧
  (name = "_push_literal" → ∃ o s c, cs = [o, s, c] ∧ QuotedT text '"' s) ∧
  (name = "peek_slice" → PeekKids text cs) ∧
  (name = "insensitive_string" → ∃ s, cs = [s] ∧ QuotedT text '"' s) ∧
  (name = "range" → ∃ a op b, cs = [a, op, b] ∧ QuotedT text '\'' a ∧ QuotedT text '\'' b) ∧
  (name = "repeat_exact" → ∃ o n c, cs = [o, n, c] ∧ HasStr text n) ∧
  (name = "repeat_min" → ∃ o n cm c, cs = [o, n, cm, c] ∧ HasStr text n) ∧
  (name = "repeat_max" → ∃ o cm n c, cs = [o, cm, n, c] ∧ HasStr text n) ∧
  (name = "repeat_min_max" → ∃ o a cm b c, cs = [o, a, cm, b, c] ∧ HasStr text a ∧ HasStr text b)

def PushT (text : Str) (t : Tree) : Prop := kind t = "_push" ∧ PushKids text t.children

/-- the forest of a `node`. -/
def NodeF (text : Str) (F : List Tree) : Prop :=
  (∃ o e c, F = [o, e, c] ∧ kind o = "opening_paren" ∧ kind e = "expression" ∧ ExprKids text e.children ∧
    kind c = "closing_paren") ∨
  (∃ t, F = [t] ∧ (PushT text t ∨ LeafT text t))

/-- the forest of a silent rule, by rule (non-atomic context, outside predicates). -/
def Forest (text : Str) (name : String) (F : List Tree) : Prop :=
  (name = "grammar_rules" → GrammarForest text F) ∧
  (name = "modifier" → ∃ t, F = [t] ∧ IsModifier t) ∧
  (name = "node_tag" → ∃ g asg, F = [g, asg] ∧ TagT text g ∧ kind asg = "assignment_operator") ∧
  (name = "node" → NodeF text F) ∧
  (name = "terminal" → ∃ t, F = [t] ∧ (PushT text t ∨ LeafT text t)) ∧
  (name = "prefix_operator" → ∃ t, F = [t] ∧ IsPrefixOp t) ∧
  (name = "infix_operator" → ∃ t, F = [t] ∧ IsInfix t) ∧
  (name = "postfix_operator" → ∃ t, F = [t] ∧ PostfixT text t)

/-- **The postcondition of every rule of the meta-grammar.** -/
def metaPost (text : Str) : Post := fun m la name a w F =>
  (Quiet name → F = []) ∧ WordFact name w ∧ (rty name = none → name ≠ "EOI" → F = []) ∧
  (m = .nonAtomic → la = false →
    match rty name with
    | some .silent => Forest text name F
    | some _ => ∃ t, F = [t] ∧ kind t = name ∧ strOf text t = some w ∧ Kids text name t.children
    | none => name = "EOI" → ∃ t, F = [t] ∧ kind t = "EOI")

/-- a property of forests that holds of `[]` and of concatenations holds of a repetition if it holds of every step. -/
theorem starW_closed {R : Nat → Str → List Tree → Prop} {Q : List Tree → Prop} (hnil : Q [])
    (happ : ∀ f g, Q f → Q g → Q (f ++ g)) (hR : ∀ a w f, R a w f → Q f) {a : Nat} {w : Str} {F : List Tree}
    (h : StarW R a w F) : Q F := by
  induction h with
  | nil => exact hnil
  | cons hr _ ih => exact happ _ _ (hR _ _ _ hr) ih

theorem starW_nil {R : Nat → Str → List Tree → Prop} (hR : ∀ a w f, R a w f → f = [])
    {a : Nat} {w : Str} {F : List Tree} (h : StarW R a w F) : F = [] :=
  starW_closed (Q := (· = [])) rfl (fun _ _ hf hg => by rw [hf, hg]; rfl) hR h

/-- every step of a repetition contributes a forest whose trees satisfy `Q`. -/
theorem starW_all {R : Nat → Str → List Tree → Prop} {Q : Tree → Prop}
    (hR : ∀ a w f, R a w f → ∀ t ∈ f, Q t) {a : Nat} {w : Str} {F : List Tree} (h : StarW R a w F) : ∀ t ∈ F, Q t :=
  starW_closed (Q := fun F => ∀ t ∈ F, Q t) (fun _ ht => nomatch ht)
    (fun _ _ hf hg t ht => (List.mem_append.1 ht).elim (hf t) (hg t)) hR h

theorem skW_nil {text : Str} {m : Atomicity} {la : Bool} {a : Nat} {w : Str} {F : List Tree}
    (h : SkW (metaPost text) m la a w F) : F = [] := by
  unfold SkW at h
  split at h
  · exact starW_nil (fun _ _ _ hr => hr.elim (fun hr => hr.1 (.inl rfl)) (fun hr => hr.1 (.inr (.inl rfl)))) h
  · exact h.2

/-- the forest of a repetition whose steps each produce nothing or a forest in `S`. -/
theorem starW_lists {R : Nat → Str → List Tree → Prop} {S : List Tree → Prop}
    (hR : ∀ a w f, R a w f → f = [] ∨ S f) {a : Nat} {w : Str} {F : List Tree} (h : StarW R a w F) :
    ∃ fs : List (List Tree), F = fs.flatten ∧ ∀ f ∈ fs, S f := by
  induction h with
  | nil => exact ⟨[], rfl, by simp⟩
  | cons hr _ ih =>
    obtain ⟨fs, hfs, hS⟩ := ih
    rcases hR _ _ _ hr with h0 | hs
    · exact ⟨fs, by rw [h0, hfs]; rfl, hS⟩
    · exact ⟨_ :: fs, by rw [hfs]; rfl, by intro f hf; rcases List.mem_cons.1 hf with rfl | hf; exact hs; exact hS f hf⟩

theorem nameOf_of_rule? {text : Str} {name : String} {id : Nat} {r : Rule}
    (h : (metaCtx text).rule? name = some (id, r)) : nameOf id = name ∧ r.name = name := by
  have key : ∀ (rs : List Rule) (i : Nat), Ctx.rule?.go name rs i = some (id, r) →
      ∃ k, id = i + k ∧ (rs.map (·.name))[k]? = some name ∧ r.name = name := by
    intro rs
    induction rs with
    | nil => intro i h; simp [Ctx.rule?.go] at h
    | cons x xs ih =>
      intro i h
      simp only [Ctx.rule?.go] at h
      split at h
      · rename_i hx
        simp only [Option.some.injEq, Prod.mk.injEq] at h
        exact ⟨0, by omega, by simp [hx], by rw [← h.2]; exact hx⟩
      · obtain ⟨k, hk, hm, hr⟩ := ih (i + 1) h
        exact ⟨k + 1, by omega, by simpa using hm, hr⟩
  obtain ⟨k, hk, hm, hr⟩ := key _ 0 h
  refine ⟨?_, hr⟩
  simp only [Nat.zero_add] at hk
  subst hk
  unfold nameOf metaNames
  simp only [metaCtx] at hm
  rw [hm]; rfl

theorem seq_inv {text : Str} {m : Atomicity} {la : Bool} {x y : Expr} {a : Nat} {w : Str} {F : List Tree}
    (h : OkW (metaPost text) m la (.seq x y) a w F) :
    ∃ w1 f1 w2 w3 f3 a', OkW (metaPost text) m la x a w1 f1 ∧ OkW (metaPost text) m la y a' w3 f3 ∧
      w = w1 ++ w2 ++ w3 ∧ F = f1 ++ f3 ∧ (m ≠ .nonAtomic → w2 = []) := by
  simp only [OkW] at h
  obtain ⟨w1, f1, w2, f2, w3, f3, h1, h2, h3, rfl, rfl⟩ := h
  have := skW_nil h2
  subst this
  refine ⟨w1, f1, w2, w3, f3, _, h1, h3, rfl, by simp, ?_⟩
  intro hm
  unfold SkW at h2
  rw [if_neg hm] at h2
  exact h2.1

/-- the steps of a repetition under `metaPost`: the body, or a skip that contributes nothing. -/
theorem rep_inv {text : Str} {m : Atomicity} {la : Bool} {e : Expr} {a : Nat} {w : Str} {F : List Tree}
    {S : List Tree → Prop} (hS : ∀ a w f, OkW (metaPost text) m la e a w f → S f)
    (h : StarW (RK (metaPost text) m la e) a w F) : ∃ fs : List (List Tree), F = fs.flatten ∧ ∀ f ∈ fs, S f :=
  starW_lists (fun a w f hr => by
    rcases hr with hr | hr
    · exact Or.inr (hS a w f hr)
    · exact Or.inl (skW_nil hr)) h

/-- the rules of `grammar.pest` that are called below and emit a pair. -/
def emitting : List String :=
  ["grammar_rule", "assignment_operator", "opening_brace", "closing_brace", "opening_paren", "closing_paren", "opening_brack",
   "closing_brack", "silent_modifier", "atomic_modifier", "compound_atomic_modifier", "non_atomic_modifier", "tag_id",
   "expression", "term", "positive_predicate_operator", "negative_predicate_operator", "sequence_operator", "choice_operator",
   "optional_operator", "repeat_operator", "repeat_once_operator", "repeat_exact", "repeat_min", "repeat_max", "repeat_min_max",
   "number", "integer", "comma", "_push", "_push_literal", "peek_slice", "identifier", "string", "insensitive_string", "range",
   "character", "range_operator", "grammar_doc", "line_doc"]

/-- One evaluation of the regenerated table for all the names: looking a name up compares strings, which is what the kernel
is slow at, and it is much slower one name at a time. -/
theorem rty_emitting : ∀ n ∈ emitting, ∃ ty, rty n = some ty ∧ ty ≠ .silent := by decide +kernel

theorem rty_silent : ∀ n ∈ ["grammar_rules", "modifier", "node_tag", "node", "terminal", "prefix_operator", "infix_operator",
    "postfix_operator"], rty n = some .silent := by decide +kernel

theorem rty_builtin : ∀ n ∈ ["SOI", "EOI"], rty n = none := by decide +kernel

/-- a name is in a literal list: found by position, so that the kernel compares no strings. -/
macro "mem_names" : tactic => `(tactic| simp only [emitting, List.mem_cons, true_or, or_true])

/-- a call of a non-silent rule in the non-atomic context: one pair of that kind spanning the consumed word. -/
theorem call_node {text : Str} {n : String} {a : Nat} {w : Str} {F : List Tree}
    (h : OkW (metaPost text) .nonAtomic false (.ident n) a w F) (hn : n ∈ emitting := by mem_names) :
    ∃ t, F = [t] ∧ kind t = n ∧ strOf text t = some w ∧ Kids text n t.children ∧ WordFact n w := by
  obtain ⟨ty, hty, hs⟩ := rty_emitting n hn
  simp only [OkW] at h
  have := h.2.2.2 rfl rfl
  rw [hty] at this
  obtain ⟨t, h1, h2, h3, h4⟩ : ∃ t, F = [t] ∧ kind t = n ∧ strOf text t = some w ∧ Kids text n t.children := by
    cases ty <;> first | exact absurd rfl hs | exact this
  exact ⟨t, h1, h2, h3, h4, h.2.1⟩

theorem call_silent {text : Str} {n : String} {a : Nat} {w : Str} {F : List Tree}
    (h : OkW (metaPost text) .nonAtomic false (.ident n) a w F) (hty : rty n = some .silent) : Forest text n F := by
  simp only [OkW] at h
  have := h.2.2.2 rfl rfl
  rw [hty] at this
  exact this

/-- the alternatives of a left-nested choice. -/
def choiceItems : Expr → List Expr
  | .choice a b => choiceItems a ++ [b]
  | e => [e]

theorem choiceItems_inv {P : Post} {m : Atomicity} {la : Bool} :
    ∀ (e : Expr) {a : Nat} {w : Str} {F : List Tree}, OkW P m la e a w F → ∃ x ∈ choiceItems e, OkW P m la x a w F := by
  intro e
  induction e <;> intro a w F h
  case choice x y ihx _ =>
    simp only [OkW] at h
    rcases h with h | h
    · obtain ⟨z, hz, hz'⟩ := ihx h
      exact ⟨z, List.mem_append_left _ hz, hz'⟩
    · exact ⟨y, List.mem_append_right _ (List.mem_singleton_self y), h⟩
  all_goals exact ⟨_, List.mem_singleton_self _, h⟩

/-! ### expressions that produce no pair in any mode -/

def quietE : Expr → Bool
  | .str _ | .insens _ | .range _ _ | .posPred _ | .negPred _ | .pushLiteral _ | .skip _ | .peekSlice _ _ => true
  | .ident n => decide (Quiet n) || (decide (rty n = none) && decide (n ≠ "EOI"))
  | .seq a b | .choice a b => quietE a && quietE b
  | .opt e | .rep e | .repOnce e | .repExact e _ | .repMin e _ | .repMax e _ | .repMinMax e _ _ | .push e => quietE e
  | .nodeTag _ _ => false

theorem quietE_nil {text : Str} {m : Atomicity} {la : Bool} : ∀ (e : Expr), quietE e = true →
    ∀ a w F, OkW (metaPost text) m la e a w F → F = []
  | .str _, _, _, _, _, h | .insens _, _, _, _, _, h | .posPred _, _, _, _, _, h | .negPred _, _, _, _, _, h
  | .pushLiteral _, _, _, _, _, h => by simp only [OkW] at h; exact h.2
  | .range _ _, _, _, _, _, h => by simp only [OkW] at h; obtain ⟨_, _, _, _, h⟩ := h; exact h
  | .skip _, _, _, _, _, h | .peekSlice _ _, _, _, _, _, h => by simpa only [OkW] using h
  | .ident n, hq, _, _, _, h => by
    simp only [OkW] at h
    simp only [quietE, Bool.or_eq_true, Bool.and_eq_true, decide_eq_true_eq] at hq
    rcases hq with hq | ⟨h1, h2⟩
    · exact h.1 hq
    · exact h.2.2.1 h1 h2
  | .seq x y, hq, a, w, F, h => by
    simp only [quietE, Bool.and_eq_true] at hq
    obtain ⟨w1, f1, w2, w3, f3, a', h1, h3, _, rfl, _⟩ := seq_inv h
    rw [quietE_nil x hq.1 _ _ _ h1, quietE_nil y hq.2 _ _ _ h3]; rfl
  | .choice x y, hq, a, w, F, h => by
    simp only [quietE, Bool.and_eq_true] at hq
    simp only [OkW] at h
    rcases h with h | h
    · exact quietE_nil x hq.1 _ _ _ h
    · exact quietE_nil y hq.2 _ _ _ h
  | .opt e, hq, a, w, F, h => by
    simp only [quietE] at hq
    simp only [OkW] at h
    rcases h with h | h
    · exact quietE_nil e hq _ _ _ h
    · exact h.2
  | .rep e, hq, _, _, _, h | .repOnce e, hq, _, _, _, h | .repExact e _, hq, _, _, _, h | .repMin e _, hq, _, _, _, h
  | .repMax e _, hq, _, _, _, h | .repMinMax e _ _, hq, _, _, _, h => by
    simp only [quietE] at hq; simp only [OkW] at h
    exact starW_nil (fun _ _ _ hr => hr.elim (quietE_nil e hq _ _ _) skW_nil) h
  | .push e, hq, a, w, F, h => by
    simp only [quietE] at hq; simp only [OkW] at h
    exact quietE_nil e hq _ _ _ h
  | .nodeTag _ _, hq, _, _, _, _ => by simp [quietE] at hq

/-- body of the rule of that name in `grammar.pest`. -/
def bodyOf (name : String) : Expr := (((metaCtx []).rule? name).map (·.2.expr)).getD (.str [])

/-- every quiet rule's body is a quiet expression (evaluated on the regenerated grammar). -/
theorem quiet_bodies : ∀ n ∈ ["WHITESPACE", "COMMENT", "newline", "line_comment", "block_comment", "space", "alpha",
    "alpha_num"], quietE (bodyOf n) = true ∧ rty n = some .silent := by decide +kernel

theorem quiet_facts {name : String} (hq : Quiet name) : quietE (bodyOf name) = true ∧ rty name = some .silent := by
  rcases hq with rfl | rfl | rfl | rfl | rfl | rfl | rfl | rfl <;> exact quiet_bodies _ (by mem_names)

end PestModel.MetaPost
