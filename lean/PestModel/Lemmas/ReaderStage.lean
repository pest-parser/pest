import PestModel.Model.ReaderFull
import PestModel.Thm.C07
import PestModel.Lemmas.ReaderEqns
/-! The infix stage of `consume_expr`: the reader's Pratt parser on `t₀ (op t)*` returns the skeleton `shape ops` (through
`C07.pratt_rebuilds`), so the stage is `build` over `shape ops` of what `term` returns for `t₀ :: ts` (`infixStage_eq`), and that
is the fold in which `~` binds tighter than `|` and both group to the left (`build_shape_fold`). -/
namespace PestModel.C07Full
open PestModel.Reader PestModel.ReaderFull PestModel.G
open PestModel.Views (Tree)
open PestModel.LineCol (Str)

/-- `true` = `|`, `false` = `~`. -/
def opTok (o : Bool) : Nat := if o then altTok else seqTok

/-- tokens of `(op term)*`, terms numbered from `i`. -/
def opToks : Nat → List Bool → List Nat
  | _, [] => []
  | i, o :: r => opTok o :: (100 + i) :: opToks (i + 1) r

def joinB : Option Bin → Bin → Bin
  | none, c => c
  | some a, c => .alt a c

/-- the skeleton the reader builds: `acc` = the alternatives closed so far, `cur` = the sequence being
extended. -/
def shapeGo : Option Bin → Bin → Nat → List Bool → Bin
  | acc, cur, _, [] => joinB acc cur
  | acc, cur, i, false :: r => shapeGo acc (.seq cur (.leaf i)) (i + 1) r
  | acc, cur, i, true :: r => shapeGo (some (joinB acc cur)) (.leaf i) (i + 1) r

def shape (ops : List Bool) : Bin := shapeGo none (.leaf 0) 1 ops

def accToks : Option Bin → List Nat
  | none => []
  | some a => C07.toks a ++ [altTok]

theorem toks_joinB (acc : Option Bin) (cur : Bin) : C07.toks (joinB acc cur) = accToks acc ++ C07.toks cur := by
  cases acc <;> simp [joinB, accToks, C07.toks]

theorem toks_shapeGo (ops : List Bool) : ∀ (acc : Option Bin) (cur : Bin) (i : Nat),
    C07.toks (shapeGo acc cur i ops) = accToks acc ++ C07.toks cur ++ opToks i ops := by
  induction ops with
  | nil => intro acc cur i; simp [shapeGo, opToks, toks_joinB]
  | cons o r ih =>
    intro acc cur i
    cases o
    · simp [shapeGo, ih, opToks, opTok, C07.toks]
    · simp [shapeGo, ih, opToks, opTok, C07.toks, accToks, toks_joinB]

theorem canon_joinB (acc : Option Bin) (cur : Bin) (ha : ∀ a, acc = some a → C07.Canon a)
    (hc : C07.Canon cur) (hl : 2 ≤ cur.level) : C07.Canon (joinB acc cur) := by
  cases acc with
  | none => exact hc
  | some a => exact ⟨ha a rfl, hc, hl⟩

theorem canon_shapeGo (ops : List Bool) : ∀ (acc : Option Bin) (cur : Bin) (i : Nat),
    (∀ a, acc = some a → C07.Canon a) → C07.Canon cur → 2 ≤ cur.level → C07.Canon (shapeGo acc cur i ops) := by
  induction ops with
  | nil => intro acc cur i ha hc hl; exact canon_joinB acc cur ha hc hl
  | cons o r ih =>
    intro acc cur i ha hc hl
    cases o
    · exact ih acc (.seq cur (.leaf i)) (i + 1) ha ⟨hc, hl, rfl⟩ (by simp [Bin.level])
    · refine ih (some (joinB acc cur)) (.leaf i) (i + 1) ?_ trivial (by simp [Bin.level])
      intro a h; cases h; exact canon_joinB acc cur ha hc hl

/-- the reader's Pratt parser on `term (op term)*` builds `shape ops`. -/
theorem parse_shape (ops : List Bool) :
    ∃ t, Pratt.parse readerTable (100 :: opToks 1 ops) = .ok (t, []) ∧ ofTree t = some (shape ops) := by
  have h := C07.pratt_rebuilds (shape ops)
    (canon_shapeGo ops none (.leaf 0) 1 (by intro a h; cases h) trivial (by simp [Bin.level]))
  have ht : C07.toks (shape ops) = 100 :: opToks 1 ops := by
    simp [shape, toks_shapeGo, accToks, C07.toks]
  rwa [ht] at h

def IsTerm (t : Tree) : Prop := kind t ≠ "choice_operator" ∧ kind t ≠ "sequence_operator"
def IsOpOf (t : Tree) (o : Bool) : Prop := kind t = if o then "choice_operator" else "sequence_operator"

/-- `ps` is `(op term)*` and `rd` reads the terms as `xs`. -/
inductive Reads (rd : Tree → Option Expr) : List Tree → List (Bool × Expr) → Prop
  | nil : Reads rd [] []
  | cons {p t ps o x xs} : IsOpOf p o → IsTerm t → rd t = some x → Reads rd ps xs →
      Reads rd (p :: t :: ps) ((o, x) :: xs)

theorem isOp_term {t : Tree} (h : IsTerm t) : isOp t = false := by
  simp [isOp, h.1, h.2]

theorem isOp_op {t : Tree} {o : Bool} (h : IsOpOf t o) : isOp t = true := by
  cases o <;> simp_all [isOp, IsOpOf]

theorem tokens_term {t : Tree} (h : IsTerm t) (ps : List Tree) (i : Nat) :
    tokens (t :: ps) i = (100 + i) :: tokens ps (i + 1) := by
  simp [tokens, h.1, h.2]

theorem tokens_op {t : Tree} {o : Bool} (h : IsOpOf t o) (ps : List Tree) (i : Nat) :
    tokens (t :: ps) i = opTok o :: tokens ps i := by
  cases o
  · have h' : kind t = "sequence_operator" := by simpa [IsOpOf] using h
    simp [tokens, h', opTok]
  · have h' : kind t = "choice_operator" := by simpa [IsOpOf] using h
    simp [tokens, h', opTok]

/-- `ps` is `(op term)*`: its operators (`true` = `|`) and its terms. -/
inductive OpTerms : List Tree → List Bool → List Tree → Prop
  | nil : OpTerms [] [] []
  | cons {p t : Tree} {ps : List Tree} {o : Bool} {os : List Bool} {ts : List Tree} :
      IsOpOf p o → IsTerm t → OpTerms ps os ts → OpTerms (p :: t :: ps) (o :: os) (t :: ts)

section OpTerms
variable {ps : List Tree} {os : List Bool} {ts : List Tree} {t0 : Tree}

theorem OpTerms.tokens (h : OpTerms ps os ts) : ∀ i, tokens ps i = opToks i os := by
  induction h with
  | nil => intro i; rfl
  | cons hp ht _ ih => intro i; rw [tokens_op hp, tokens_term ht, ih]; rfl

theorem OpTerms.terms (h : OpTerms ps os ts) : ps.filter (fun p => !isOp p) = ts := by
  induction h with
  | nil => rfl
  | cons hp ht _ ih => simp [isOp_op hp, isOp_term ht, ih]

theorem OpTerms.length (h : OpTerms ps os ts) : ts.length = os.length := by
  induction h with
  | nil => rfl
  | cons _ _ _ ih => simp [ih]

theorem OpTerms.of_reads {rd : Tree → Option Expr} {xs : List (Bool × Expr)} (h : Reads rd ps xs) :
    ∃ ts, OpTerms ps (xs.map (·.1)) ts ∧ ts.map rd = xs.map fun x => some x.2 := by
  induction h with
  | nil => exact ⟨[], .nil, rfl⟩
  | cons hp ht hx _ ih => obtain ⟨ts, h1, h2⟩ := ih; exact ⟨_ :: ts, .cons hp ht h1, by simp [hx, h2]⟩

theorem stage_parse (ht : IsTerm t0) (h : OpTerms ps os ts) :
    ∃ t, Pratt.parse readerTable (tokens (t0 :: ps) 0) = .ok (t, []) ∧ ofTree t = some (shape os) := by
  rw [tokens_term ht, h.tokens]; exact parse_shape os

theorem stage_terms (ht : IsTerm t0) (h : OpTerms ps os ts) : (t0 :: ps).filter (fun p => !isOp p) = t0 :: ts := by
  simp [isOp_term ht, h.terms]

/-- on `t₀ (op t)*` the infix stage is `build` over the skeleton `shape ops` of what `term` returns for `t₀ :: ts`. -/
theorem infixStage_eq (ht : IsTerm t0) (h : OpTerms ps os ts) (rd : Tree → Option Expr) :
    infixStage (t0 :: ps) (((t0 :: ps).filter fun p => !isOp p).map rd) = build ((t0 :: ts).map rd) (shape os) := by
  obtain ⟨t, hp, hb⟩ := stage_parse ht h
  simp only [infixStage, hp, hb, stage_terms ht h]

end OpTerms

def joinE : Option Expr → Expr → Expr
  | none, c => c
  | some a, c => .choice a c

/-- `x₀ op₁ x₁ op₂ x₂ …` read from the left: `~` extends the current sequence, `|` closes it. -/
def foldGo : Option Expr → Expr → List (Bool × Expr) → Expr
  | acc, cur, [] => joinE acc cur
  | acc, cur, (false, x) :: r => foldGo acc (.seq cur x) r
  | acc, cur, (true, x) :: r => foldGo (some (joinE acc cur)) x r

theorem build_joinB (prims : List (Option Expr)) (acc : Option Bin) (cur : Bin) (accE : Option Expr) (curE : Expr)
    (ha : ∀ a, acc = some a → ∃ e, accE = some e ∧ build prims a = some e) (hn : acc = none → accE = none)
    (hc : build prims cur = some curE) : build prims (joinB acc cur) = some (joinE accE curE) := by
  cases acc with
  | none => simp [joinB, hn rfl, joinE, hc]
  | some a =>
    obtain ⟨e, he, hb⟩ := ha a rfl
    simp [joinB, build, hb, hc, he, joinE]

theorem build_shapeGo (prims : List (Option Expr)) (xs : List (Bool × Expr)) :
    ∀ (acc : Option Bin) (cur : Bin) (i : Nat) (accE : Option Expr) (curE : Expr),
      (∀ a, acc = some a → ∃ e, accE = some e ∧ build prims a = some e) → (acc = none → accE = none) →
      build prims cur = some curE →
      (∀ k (hk : k < xs.length), prims[i + k]? = some (some (xs[k]).2)) →
      build prims (shapeGo acc cur i (xs.map (·.1))) = some (foldGo accE curE xs) := by
  induction xs with
  | nil => intro acc cur i accE curE ha hn hc _; simpa [shapeGo, foldGo] using build_joinB prims acc cur accE curE ha hn hc
  | cons x r ih =>
    intro acc cur i accE curE ha hn hc hp
    obtain ⟨o, y⟩ := x
    have h0 : prims[i]? = some (some y) := by
      have := hp 0 (by simp)
      simp only [Nat.add_zero, List.getElem_cons_zero] at this
      exact this
    have hr : ∀ k (hk : k < r.length), prims[i + 1 + k]? = some (some (r[k]).2) := by
      intro k hk
      have := hp (k + 1) (by simp; omega)
      have e : i + 1 + k = i + (k + 1) := by omega
      rw [e]; simpa using this
    cases o
    · simp only [List.map_cons, shapeGo, foldGo]
      exact ih acc (.seq cur (.leaf i)) (i + 1) accE (.seq curE y) ha hn (by simp [build, hc, h0]) hr
    · simp only [List.map_cons, shapeGo, foldGo]
      refine ih (some (joinB acc cur)) (.leaf i) (i + 1) (some (joinE accE curE)) y ?_ (by intro h; cases h)
        (by simp [build, h0]) hr
      intro a h; cases h
      exact ⟨_, rfl, build_joinB prims acc cur accE curE ha hn hc⟩

theorem build_shape_fold (x0 : Expr) (xs : List (Bool × Expr)) :
    build (some x0 :: xs.map fun x => some x.2) (shape (xs.map (·.1))) = some (foldGo none x0 xs) :=
  build_shapeGo _ xs none (.leaf 0) 1 none x0 (by intro a h; cases h) (fun _ => rfl) (by simp [build])
    (by intro k hk; rw [Nat.add_comm]; simp [hk])

/-- **the infix stage**: on `t₀ (op t)*` whose terms read as `x₀, xs`, the reader's Pratt parser returns
the left-to-right fold. -/
theorem infixStage_fold (rd : Tree → Option Expr) (t0 : Tree) (ps : List Tree) (x0 : Expr) (xs : List (Bool × Expr))
    (ht : IsTerm t0) (h0 : rd t0 = some x0) (h : Reads rd ps xs) :
    infixStage (t0 :: ps) (((t0 :: ps).filter fun p => !isOp p).map rd) = some (foldGo none x0 xs) := by
  obtain ⟨ts, hot, hts⟩ := OpTerms.of_reads h
  rw [infixStage_eq ht hot, List.map_cons, h0, hts]
  exact build_shape_fold x0 xs

end PestModel.C07Full
