import PestModel.Lemmas.ReaderIdents
import PestModel.Lemmas.PipelineNames
/-!
C01 / C09: the names a grammar text mentions, through the pipeline — `validate_pairs` looks at every `identifier` pair after the
first of each rule; the rule bodies the reader returns mention only those (`rulesV_ids`); so a text that passes mentions only its
own rules and built-ins (`pipeline_ok_idents`).
-/
namespace PestModel.Pipeline
open PestModel.G PestModel.Reader PestModel.ReaderFull PestModel.ReaderP PestModel.ReaderShape PestModel.Ref
open PestModel.Views (Tree preorderList)
open PestModel.LineCol (Str)
open PestModel.ReaderValue (idents IdIn AllIn exprV_ids RulesV RuleV)

/-- every rule name mentioned by a rule the pairs denote is the text of a pair that `validate_pairs` looks at (`called`). -/
theorem rulesV_ids {extras : Bool} {text : Str} : ∀ {forest : List Tree} {rules : List Rule}, RulesV extras text forest rules →
    ∀ r ∈ rules, ∀ n ∈ idents r.expr, ∃ t ∈ called forest, (strOf text t).map String.ofList = some n
  | _, _, .nil => by simp
  | _, _, @RulesV.other _ _ t ts rs hk h => by
    intro r hr n hn
    obtain ⟨u, hu, hs⟩ := rulesV_ids h r hr n hn
    exact ⟨u, by simp only [called, hk, if_false]; exact hu, hs⟩
  | _, _, @RulesV.doc _ _ t c cs ts rs hk _ _ h => by
    intro r hr n hn
    obtain ⟨u, hu, hs⟩ := rulesV_ids h r hr n hn
    exact ⟨u, by simp only [called, hk, if_true]; exact List.mem_append_right _ hu, hs⟩
  | _, _, @RulesV.rule _ _ t ts r rs hk hrv h => by
    intro r' hr' n hn
    rcases List.mem_cons.1 hr' with rfl | hr'
    · obtain ⟨id, asg, mods, ob, e, cb, hch, _, _, _, _, he⟩ := hrv
      obtain ⟨u, hu, hki, hs⟩ := exprV_ids he n hn
      refine ⟨u, ?_, hs⟩
      simp only [called, hk, if_true]
      refine List.mem_append_left _ (List.mem_filter.2 ⟨?_, by simp [hki]⟩)
      -- dropping the first pair of the preorder leaves what is under `id` and the pairs after it
      have hmem : e ∈ asg :: (mods ++ [ob, e, cb]) := by simp
      cases id
      rw [hch]
      exact List.mem_append_right _ (PestModel.Views.under_mem hmem u hu)
    · obtain ⟨u, hu, hs⟩ := rulesV_ids h r' hr' n hn
      exact ⟨u, by simp only [called, hk, if_true]; exact List.mem_append_right _ hu, hs⟩

theorem namesOf_complete {text : Str} (l : List Tree) (ns : List String) (h : namesOf text l = .ok ns) :
    ∀ t ∈ l, ∀ n, (strOf text t).map String.ofList = some n → n ∈ ns := by
  intro t ht n hn
  have : some n ∈ ns.map some := by
    rw [← (namesOf_iff l ns).1 h, ← hn]; exact List.mem_map_of_mem (f := fun t => (strOf text t).map String.ofList) ht
  simpa using this

/-- when `validate_pairs` reports nothing, every name used is defined or a built-in. -/
theorem validatePairs_nil_used {text : Str} {forest : List Tree} (h : validatePairs text forest = .ok []) :
    ∃ defs names, definitions forest = .ok defs ∧ namesOf text defs = .ok names ∧
      ∀ t ∈ called forest, ∀ n, (strOf text t).map String.ofList = some n → n ∈ names ∨ PestModel.V.isBuiltin n = true := by
  obtain ⟨defs, names, used, hd, hn, hu, h⟩ := validatePairs_inv h
  simp only [List.nil_eq, List.append_eq_nil_iff, List.map_eq_nil_iff, List.filter_eq_nil_iff] at h
  refine ⟨defs, names, hd, hn, ?_⟩
  intro t ht n hs
  have := h.2 n (namesOf_complete _ used hu t ht n hs)
  simp only [Bool.and_eq_true, Bool.not_eq_true', not_and, Bool.not_eq_false] at this
  by_cases hc : names.contains n = true
  · exact .inl (by simpa using hc)
  · exact .inr (this (by simpa using hc))

/-- **what `parse_and_optimize` accepts, with the names**: besides `pipeline_ok`, every rule name mentioned in a rule body is the
name of a rule of the grammar or one of the validator's built-ins, and every bounded repetition has a count the unroller can
handle. -/
theorem pipeline_ok_idents (extras : Bool) (text : Str) (rs : List ORule) (h : parseAndOptimize extras text = some (.ok rs)) :
    ∃ rules, ReaderFull.readGrammar extras text = some rules ∧ PestModel.V.validateAst extras rules = [] ∧
      optimize extras rules = some rs ∧ (rules.map (·.name)).Nodup ∧
      (∀ r ∈ rules, r.name ∉ PestModel.Gen.Unicode.pestKeywords) ∧
      (∀ r ∈ rules, ∀ n ∈ idents r.expr, n ∈ rules.map (·.name) ∨ PestModel.V.isBuiltin n = true) ∧
      (∀ r ∈ rules, PestModel.OptTotal.posCounts r.expr = true) := by
  unfold parseAndOptimize at h
  split at h
  · rename_i s' forest hm
    simp only [Option.some.injEq] at h
    have hforest := PestModel.MetaPost.meta_forest text _ s' forest hm
    obtain ⟨hvp, rules, hc, hva, ho⟩ := afterParse_inv h
    have hF := withSpans_full hc
    have hrv := (consumeRulesWithSpans_post hforest).2 rules hc
    obtain ⟨defs, names, hd, hn, hnd, hkw⟩ := validatePairs_nil hvp
    obtain ⟨_, _, hd', hn', hused⟩ := validatePairs_nil_used hvp
    cases hd.symm.trans hd'
    cases hn.symm.trans hn'
    have hl := names_link forest rules defs names hc hd hn
    refine ⟨rules, ?_, hva, ho, hl ▸ hnd, fun r hr => hkw r.name (hl ▸ List.mem_map_of_mem hr), ?_,
      PestModel.OptTotal.posCounts_rulesV hrv⟩
    · unfold ReaderFull.readGrammar
      rw [hm]
      simp [ReaderFull.consumeRules, hF, hva]
    · intro r hr n hnid
      obtain ⟨t, ht, hs⟩ := rulesV_ids hrv r hr n hnid
      rw [hl]
      exact hused t ht n hs
  · simp at h
  · simp at h
/-- **what `parse_and_optimize` accepts**: when the pipeline returns rules `rs` for a text, the reader (`ReaderFull`, the model
C07 is about) returns rules whose names are pairwise distinct and none of them a pest keyword, `validate_ast` is silent on
them, and `rs` is what the optimizer makes of them. -/
theorem pipeline_ok (extras : Bool) (text : Str) (rs : List ORule) (h : parseAndOptimize extras text = some (.ok rs)) :
    ∃ rules, ReaderFull.readGrammar extras text = some rules ∧ PestModel.V.validateAst extras rules = [] ∧
      optimize extras rules = some rs ∧ (rules.map (·.name)).Nodup ∧
      ∀ r ∈ rules, r.name ∉ PestModel.Gen.Unicode.pestKeywords :=
  (pipeline_ok_idents extras text rs h).imp fun _ h => ⟨h.1, h.2.1, h.2.2.1, h.2.2.2.1, h.2.2.2.2.1⟩

end PestModel.Pipeline
