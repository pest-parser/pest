import PestModel.Lemmas.ReaderEqns
/-! Fuel only bounds the recursion of `ReaderFull.consumeExpr` / `unaries`: the step functionals are monotone for "answers
wherever the other does" (`Le`), so a result obtained with some fuel is obtained with any larger fuel. -/
namespace PestModel.C07Full
open PestModel.Reader PestModel.ReaderFull PestModel.G
open PestModel.Views (Tree)
open PestModel.LineCol (Str)

theorem build_mono (prims prims' : List (Option Expr))
    (h : ∀ (i : Nat) (x : Expr), prims[i]? = some (some x) → prims'[i]? = some (some x)) :
    ∀ (b : Bin) (e : Expr), build prims b = some e → build prims' b = some e := by
  intro b
  induction b with
  | leaf i => exact fun e he => build_leaf_some.2 (h i e (build_leaf_some.1 he))
  | seq a b iha ihb =>
    intro e he
    obtain ⟨x, y, ha, hb, rfl⟩ := build_seq_some.1 he
    exact build_seq_some.2 ⟨x, y, iha x ha, ihb y hb, rfl⟩
  | alt a b iha ihb =>
    intro e he
    obtain ⟨x, y, ha, hb, rfl⟩ := build_alt_some.1 he
    exact build_alt_some.2 ⟨x, y, iha x ha, ihb y hb, rfl⟩

theorem infixStage_mono (ps : List Tree) (prims prims' : List (Option Expr))
    (h : ∀ (i : Nat) (x : Expr), prims[i]? = some (some x) → prims'[i]? = some (some x)) (e : Expr)
    (he : infixStage ps prims = some e) : infixStage ps prims' = some e := by
  unfold infixStage at he ⊢
  split at he
  · rename_i t _ hp
    split at he
    · rename_i b hb
      exact build_mono prims prims' h b e he
    · cases he
  · cases he

/-- `un ≤ un'`: whatever `un` reads, `un'` reads the same. -/
def Le (g g' : List Tree → Option Expr) : Prop := ∀ ps e, g ps = some e → g' ps = some e

theorem consumeExprStep_mono (un un' : List Tree → Option Expr) (h : Le un un') : Le (consumeExprStep un) (consumeExprStep un') := by
  intro pairs e he
  unfold consumeExprStep at he ⊢
  refine infixStage_mono _ _ _ ?_ e he
  intro i x hx
  simp only [List.getElem?_map] at hx ⊢
  cases hl : ((dropLead pairs).filter fun p => !isOp p)[i]? with
  | none => simp [hl] at hx
  | some t =>
    simp only [hl, Option.map_some, Option.some.injEq] at hx ⊢
    exact h _ _ hx

theorem nodeOf_mono (extras : Bool) (text : Str) (ce ce' un un' : List Tree → Option Expr) (hc : Le ce ce') (hu : Le un un')
    (pair : Tree) (rest : List Tree) (e : Expr) (he : nodeOf extras text ce un pair rest = some e) :
    nodeOf extras text ce' un' pair rest = some e := by
  by_cases h1 : kind pair = "opening_paren"
  · rw [nodeOf_paren h1] at he ⊢; exact hu _ _ he
  by_cases h2 : kind pair = "positive_predicate_operator"
  · rw [nodeOf_pos h2] at he ⊢; exact map_some_of_le (hu _) he
  by_cases h3 : kind pair = "negative_predicate_operator"
  · rw [nodeOf_neg h3] at he ⊢; exact map_some_of_le (hu _) he
  by_cases h4 : kind pair = "expression"
  · rw [nodeOf_expression h4] at he ⊢; exact bind_some_of_le (hc _) he
  by_cases h5 : kind pair = "_push"
  · rcases hch : pair.children with _ | ⟨o, _ | ⟨ex, cs⟩⟩
    · simp [nodeOf, h5, hch] at he
    · simp [nodeOf, h5, hch] at he
    · rw [nodeOf_push h5 hch] at he ⊢; exact bind_some_of_le (hc _) he
  · rw [nodeOf_leaf h1 h2 h3 h4 h5] at he ⊢; exact he

theorem wrapTag_mono (extras : Bool) (node node' : Option Expr) (tag : Option Str)
    (h : ∀ e, node = some e → node' = some e) (e : Expr) (he : wrapTag extras node tag = some e) :
    wrapTag extras node' tag = some e := by
  cases node with
  | none => cases tag <;> simp [wrapTag] at he
  | some n => rw [h n rfl]; exact he

theorem unariesStep_mono (extras : Bool) (text : Str) (ce ce' un un' : List Tree → Option Expr) (hc : Le ce ce') (hu : Le un un') :
    Le (unariesStep extras text ce un) (unariesStep extras text ce' un') := by
  intro pairs e he
  unfold unariesStep at he ⊢
  cases hg : getNodeTag text pairs with
  | none => simp [hg] at he
  | some v =>
    obtain ⟨pair, rest, tag⟩ := v
    simp only [hg] at he ⊢
    exact wrapTag_mono extras _ _ tag (fun n hn => nodeOf_mono extras text ce ce' un un' hc hu pair rest n hn) e he

theorem mono_step (extras : Bool) (text : Str) : ∀ f,
    Le (consumeExpr extras text f) (consumeExpr extras text (f + 1)) ∧
    Le (unaries extras text f) (unaries extras text (f + 1)) := by
  intro f
  induction f with
  | zero => exact ⟨by intro ps e h; simp [consumeExpr] at h, by intro ps e h; simp [unaries] at h⟩
  | succ f ih =>
    refine ⟨?_, ?_⟩
    · intro ps e h
      simp only [consumeExpr] at h ⊢
      exact consumeExprStep_mono _ _ ih.2 ps e h
    · intro ps e h
      simp only [unaries] at h ⊢
      exact unariesStep_mono extras text _ _ _ _ ih.1 ih.2 ps e h

/-- **more fuel never changes a result** of `consume_expr`. -/
theorem consumeExpr_mono (extras : Bool) (text : Str) (f g : Nat) (hfg : f ≤ g) (ps : List Tree) (e : Expr)
    (h : consumeExpr extras text f ps = some e) : consumeExpr extras text g ps = some e := by
  induction hfg with
  | refl => exact h
  | step _ ih => exact (mono_step extras text _).1 ps e ih

theorem consumeRule_mono (extras : Bool) (text : Str) (f g : Nat) (hfg : f ≤ g) (t : Tree) (r : Rule)
    (h : consumeRule extras text f t = some r) : consumeRule extras text g t = some r := by
  unfold consumeRule at h ⊢
  generalize ruleParts text t = parts at h ⊢
  rcases parts with _ | ⟨name, ty, inner⟩
  · exact h
  · exact map_some_of_le (consumeExpr_mono extras text f g hfg _) h

end PestModel.C07Full
