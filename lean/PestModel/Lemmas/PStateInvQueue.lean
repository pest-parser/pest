import PestModel.Model.PStateSpec
/-!
Token-queue facts: the "extends, up to the tag of the last old token" relation `QLe`, and `Wf`, a
structural characterisation of "the window `[a, b)` of the queue encodes a nested forest" that ignores tags.
-/
namespace PestModel.PS
open PestModel.LineCol

/-- `q'` extends `q`, except that the tag of the last token of `q` may differ. -/
def QLe (q q' : List QTok) : Prop :=
  q = [] ∨ ∃ init x x' rest, q = init ++ [x] ∧ q' = init ++ x' :: rest ∧ x'.eraseTag = x.eraseTag

theorem QLe.refl (q : List QTok) : QLe q q := by
  rcases List.eq_nil_or_concat q with h | ⟨init, x, h⟩
  · exact Or.inl h
  · exact Or.inr ⟨init, x, x, [], by simpa using h, by simpa using h, rfl⟩

theorem QLe.of_eq {q q' : List QTok} (h : q' = q) : QLe q q' := h ▸ QLe.refl q

theorem QLe.append (q r : List QTok) : QLe q (q ++ r) := by
  rcases List.eq_nil_or_concat q with h | ⟨init, x, h⟩
  · exact Or.inl h
  · exact Or.inr ⟨init, x, x, r, by simpa using h, by simp [h], rfl⟩

theorem QLe.trans {a b c : List QTok} (h1 : QLe a b) (h2 : QLe b c) : QLe a c := by
  rcases h1 with h1 | ⟨init, x, x', rest, rfl, rfl, he⟩
  · exact Or.inl h1
  · rcases h2 with h2 | ⟨init', y, y', rest', hb, rfl, he'⟩
    · simp at h2
    · right
      rcases List.eq_nil_or_concat rest with hr | ⟨r0, z, hr⟩
      · subst hr
        have := List.append_inj' hb (by simp)
        obtain ⟨rfl, h⟩ := this
        simp at h; subst h
        exact ⟨init, x, y', rest', rfl, rfl, he'.trans he⟩
      · subst hr
        have hb' : (init ++ x' :: r0) ++ [z] = init' ++ [y] := by simpa using hb
        obtain ⟨rfl, h⟩ := List.append_inj' hb' (by simp)
        exact ⟨init, x, x', r0 ++ y' :: rest', rfl, by simp, he⟩

theorem QLe.length {q q' : List QTok} (h : QLe q q') : q.length ≤ q'.length := by
  rcases h with h | ⟨init, x, x', rest, rfl, rfl, he⟩
  · simp [h]
  · simp

theorem QLe.take_pred {q q' : List QTok} (h : QLe q q') :
    q'.take (q.length - 1) = q.take (q.length - 1) := by
  rcases h with h | ⟨init, x, x', rest, rfl, rfl, he⟩
  · simp [h]
  · simp

theorem QLe.take_erase {q q' : List QTok} (h : QLe q q') :
    (q'.take q.length).map QTok.eraseTag = q.map QTok.eraseTag := by
  rcases h with h | ⟨init, x, x', rest, rfl, rfl, he⟩
  · simp [h]
  · have : List.take (init ++ [x]).length (init ++ x' :: rest) = init ++ [x'] := by
      rw [show init ++ x' :: rest = (init ++ [x']) ++ rest by simp]
      exact List.take_left' (by simp)
    rw [this]; simp [he]

theorem eraseTag_eq_start {x : QTok} {a b : Nat} (h : x.eraseTag = .start a b) : x = .start a b := by
  cases x <;> simp [QTok.eraseTag] at h ⊢
  exact h

/-- After a `start` was pushed, everything up to and including it is still there. -/
theorem QLe.snoc_start {q q' : List QTok} {a b : Nat} (h : QLe (q ++ [.start a b]) q') :
    ∃ inner, q' = q ++ .start a b :: inner := by
  rcases h with h | ⟨init, x, x', rest, hq, rfl, he⟩
  · simp at h
  · obtain ⟨rfl, h⟩ := List.append_inj' hq (by simp)
    simp at h; subst h
    simp [QTok.eraseTag] at he
    exact ⟨rest, by rw [eraseTag_eq_start he]⟩

theorem setLastTag_restore {q q' : List QTok} (h : QLe q q') :
    setLastTag (q'.take q.length) (lastTag q) = q := by
  rcases h with h | ⟨init, x, x', rest, rfl, rfl, he⟩
  · subst h; simp [setLastTag]
  · have : List.take (init ++ [x]).length (init ++ x' :: rest) = init ++ [x'] := by
      rw [show init ++ x' :: rest = (init ++ [x']) ++ rest by simp]
      exact List.take_left' (by simp)
    rw [this]
    cases x with
    | start a b =>
      have := eraseTag_eq_start (x := x') (by simpa [QTok.eraseTag] using he)
      subst this
      simp [setLastTag]
    | end_ si r t p =>
      cases x' with
      | start a b => simp [QTok.eraseTag] at he
      | end_ si' r' t' p' =>
        simp [QTok.eraseTag] at he
        obtain ⟨rfl, rfl, rfl⟩ := he
        simp [setLastTag, lastTag]

theorem QLe.tag {q : List QTok} {si r : Nat} {t t' : Option Str} {p : Nat}
    (h : q.getLast? = some (.end_ si r t p)) : QLe q (q.dropLast ++ [.end_ si r t' p]) := by
  rcases List.eq_nil_or_concat q with hq | ⟨init, x, hq⟩
  · exact Or.inl hq
  · subst hq
    simp at h; subst h
    exact Or.inr ⟨init, .end_ si r t p, .end_ si r t' p, [], by simp, by simp, rfl⟩

theorem setAt_append_cons {α} (q : List α) (x v : α) (inner : List α) :
    setAt (q ++ x :: inner) q.length v = q ++ v :: inner := by
  induction q with
  | nil => simp [setAt]
  | cons a q ih => simp [setAt, ih]

end PestModel.PS

namespace PestModel.Views
open PestModel.PS PestModel.LineCol

/-- The window `[a, b)` of `q` is the encoding of a forest whose spans are nested within `[lo, hi]`.
Tags of `end_` tokens are not recorded, so the predicate is insensitive to `tagNode`. -/
inductive Wf (input : Str) (q : List QTok) : Nat → Nat → Nat → Nat → Prop
  | nil {a lo hi : Nat} : lo ≤ hi → Wf input q a lo a hi
  | cons {a lo b hi e p0 p1 r : Nat} {tag : Option Str} :
      q[a]? = some (.start e p0) → q[e]? = some (.end_ a r tag p1) →
      lo ≤ p0 → p1 ≤ hi → isBoundary input p0 = true → isBoundary input p1 = true →
      Wf input q (a + 1) p0 e p1 → Wf input q (e + 1) p1 b hi → Wf input q a lo b hi

variable {input : Str} {q q' : List QTok}

theorem Wf.le {a lo b hi : Nat} (h : Wf input q a lo b hi) : lo ≤ hi := by
  induction h with
  | nil h => exact h
  | cons _ _ h1 h2 _ _ _ _ ih1 ih2 => omega

theorem Wf.idx {a lo b hi : Nat} (h : Wf input q a lo b hi) : a ≤ b := by
  induction h with
  | nil h => exact Nat.le_refl _
  | cons _ _ _ _ _ _ _ _ ih1 ih2 => omega

theorem Wf.weaken {a lo b hi lo' hi' : Nat} (h : Wf input q a lo b hi) (h1 : lo' ≤ lo) (h2 : hi ≤ hi') :
    Wf input q a lo' b hi' := by
  induction h generalizing lo' hi' with
  | nil h => exact .nil (by omega)
  | cons ha he hl hh b0 b1 k r ihk ihr =>
    exact .cons ha he (by omega) (by omega) b0 b1 k (ihr (Nat.le_refl _) h2)

theorem eraseTag_eq_end {x : QTok} {a r p : Nat} {t : Option Str} (h : x.eraseTag = (QTok.end_ a r t p).eraseTag) :
    ∃ t', x = .end_ a r t' p := by
  cases x with
  | start a b => simp [QTok.eraseTag] at h
  | end_ a' r' t' p' =>
    simp [QTok.eraseTag] at h
    obtain ⟨rfl, rfl, rfl⟩ := h
    exact ⟨t', rfl⟩

/-- `Wf` only reads the window, and only up to tags. -/
theorem Wf.congr {a lo b hi : Nat} (h : Wf input q a lo b hi)
    (hq : ∀ i, a ≤ i → i < b → (q'[i]?).map QTok.eraseTag = (q[i]?).map QTok.eraseTag) :
    Wf input q' a lo b hi := by
  induction h with
  | nil h => exact .nil h
  | @cons a lo b hi e p0 p1 r tag ha he hl hh b0 b1 k rr ihk ihr =>
    have i1 := k.idx
    have i2 := rr.idx
    have h1 := hq a (Nat.le_refl _) (by omega)
    have h2 := hq e (by omega) (by omega)
    rw [ha] at h1; rw [he] at h2
    simp only [Option.map_some, Option.map_eq_some_iff] at h1 h2
    obtain ⟨x, hx, hx'⟩ := h1
    obtain ⟨y, hy, hy'⟩ := h2
    have := eraseTag_eq_start (x := x) (by simpa [QTok.eraseTag] using hx')
    subst this
    obtain ⟨t', rfl⟩ := eraseTag_eq_end hy'
    exact .cons hx hy hl hh b0 b1 (ihk fun i h1 h2 => hq i (by omega) (by omega))
      (ihr fun i h1 h2 => hq i (by omega) h2)

/-- Concatenation of adjacent windows. -/
theorem Wf.append {a lo m mid b hi : Nat} (h1 : Wf input q a lo m mid) :
    Wf input q m mid b hi → Wf input q a lo b hi := by
  induction h1 with
  | nil h => intro h2; exact h2.weaken h (Nat.le_refl _)
  | cons ha he hl hh b0 b1 k _ _ ihr =>
    intro h2
    exact .cons ha he hl (by have := h2.le; omega) b0 b1 k (ihr h2)

theorem _root_.PestModel.PS.QLe.getElem?_erase {q q' : List QTok} (h : QLe q q') (i : Nat) (hi : i < q.length) :
    (q'[i]?).map QTok.eraseTag = (q[i]?).map QTok.eraseTag := by
  have h1 := h.take_erase
  have h2 : ((q'.take q.length).map QTok.eraseTag)[i]? = (q.map QTok.eraseTag)[i]? := by rw [h1]
  simpa [List.getElem?_take, hi] using h2

theorem getElem?_mid {α} (base : List α) (x : α) (inner rest : List α) (k : Nat) (hk : k < inner.length) :
    (base ++ x :: inner ++ rest)[base.length + 1 + k]? = inner[k]? := by
  rw [List.append_assoc, List.getElem?_append_right (by omega)]
  have e1 : base.length + 1 + k - base.length = k + 1 := by omega
  rw [e1, List.cons_append, List.getElem?_cons_succ, List.getElem?_append_left hk]

theorem getElem?_last {α} (base : List α) (x : α) (inner : List α) (y : α) :
    (base ++ x :: inner ++ [y])[base.length + 1 + inner.length]? = some y := by
  rw [List.append_assoc, List.getElem?_append_right (by omega)]
  have e1 : base.length + 1 + inner.length - base.length = inner.length + 1 := by omega
  rw [e1, List.cons_append, List.getElem?_cons_succ]
  simp

/-- Closing a rule: `[start] ++ inner ++ [end]` is one tree whose children are `inner`. -/
theorem Wf.wrap {base inner : List QTok} {p0 p1 r : Nat}
    (h : Wf input (base ++ QTok.start 0 p0 :: inner) (base.length + 1) p0
      (base.length + 1 + inner.length) p1)
    (hb0 : isBoundary input p0 = true) (hb1 : isBoundary input p1 = true) :
    Wf input (base ++ QTok.start (base.length + 1 + inner.length) p0 :: inner ++
        [QTok.end_ base.length r none p1])
      base.length p0 (base.length + 1 + inner.length + 1) p1 := by
  refine .cons (e := base.length + 1 + inner.length) (p0 := p0) (p1 := p1) (r := r) (tag := none)
    ?_ ?_ (Nat.le_refl _) (Nat.le_refl _) hb0 hb1 ?_ (.nil (Nat.le_refl _))
  · simp
  · exact getElem?_last _ _ _ _
  · refine h.congr fun i h1 h2 => congrArg (Option.map QTok.eraseTag) ?_
    obtain ⟨k, rfl⟩ : ∃ k, i = base.length + 1 + k := ⟨i - (base.length + 1), by omega⟩
    have hk : k < inner.length := by omega
    rw [getElem?_mid _ _ _ _ _ hk]
    have := getElem?_mid base (QTok.start 0 p0) inner [] k hk
    rw [List.append_nil] at this
    rw [this]

theorem Wf.cast {a lo b hi a' b' : Nat} (h : Wf input q a lo b hi) (ha : a = a') (hb : b = b') :
    Wf input q a' lo b' hi := by
  subst ha; subst hb; exact h

end PestModel.Views
