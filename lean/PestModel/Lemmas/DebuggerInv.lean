import PestModel.Lemmas.Debugger
/-!
`Inv` is preserved by the parser thread.

`Inv s` splits into what it says of the controller alone (`CtrlInv`) and, for the thread `t` of the run
in progress, a part that no micro-step of `run`/`cont` looks at (`Static`) and a part indexed by the
controller's program counter (`Phase`).  A parser step leaves `CtrlInv` alone; by the cases of `PStep` it either only moves the
program counter (`Inv.pc_move`), or its effect on the four parts of `Static` is followed part by part while
`Phase` goes over by `Phase.step` (`Phase_exited` at the end).
-/
namespace PestModel.Dbg

theorem isBreakpoint_ite (b : Bool) : isBreakpoint (if b = true then Event.eof else Event.error) = false := by
  cases b <;> rfl

theorem filter_bp_single (r : Rule) (p : Nat) :
    List.filter isBreakpoint [Event.breakpoint r p] = [Event.breakpoint r p] := rfl

theorem filter_final_single (b : Bool) :
    List.filter isBreakpoint [if b = true then Event.eof else Event.error] = [] := by
  cases b <;> rfl

def CtrlInv (s : State) : Prop :=
  0 < s.cap ∧
  (s.cpc = .runStoreFalse ∨ s.cpc = .runSpawn → s.cur = none) ∧
  (s.cpc = .runSpawn → s.isDone = false) ∧
  (s.cpc = .runLoadDone ∨ s.cpc = .runStoreDone ∨ s.cpc = .runUnpark ∨ s.cpc = .runJoin → s.cur ≠ none) ∧
  (s.cpc = .runUnpark ∨ s.cpc = .runJoin → s.isDone = true)

def Static (s : State) (t : Thread) : Prop :=
  s.received ++ t.chan = t.sent ∧
  PcData s t.sent t.pc ∧
  t.sent.filter isBreakpoint ++ pendEv s t = expectedEvents s.entries s.bpsAt ∧
  TokOk t

def Phase (cpc : CPc) (done clean : Bool) (t : Thread) : Prop :=
  (done = true →
    (cpc = .idle ∨ cpc = .contLoadDone ∨ cpc = .contUnpark ∨ cpc = .runLoadDone ∨ cpc = .runStoreDone) →
    isExited t.pc = true) ∧
  (clean = true → (cpc = .runLoadDone ∨ cpc = .runStoreDone) → RJ t) ∧
  (clean = true → cpc = .runUnpark → RU t) ∧
  (clean = true → cpc = .runJoin → RG t)

theorem Inv_iff (s : State) :
    Inv s ↔ CtrlInv s ∧ ∀ t, s.cur = some t → Static s t ∧ Phase s.cpc s.isDone s.cleanRestart t :=
  ⟨fun h => ⟨⟨h.1, h.2, h.3, h.4, h.5⟩, fun t hc =>
    ⟨⟨h.7 t hc, h.8 t hc, h.9 t hc, h.10 t hc⟩, h.6 t hc, h.11 t hc, h.12 t hc, h.13 t hc⟩⟩,
   fun ⟨⟨c1, c2, c3, c4, c5⟩, h⟩ => ⟨c1, c2, c3, c4, c5, fun t hc => (h t hc).2.1, fun t hc => (h t hc).1.1,
    fun t hc => (h t hc).1.2.1, fun t hc => (h t hc).1.2.2.1, fun t hc => (h t hc).1.2.2.2,
    fun t hc => (h t hc).2.2.1, fun t hc => (h t hc).2.2.2.1, fun t hc => (h t hc).2.2.2.2⟩⟩

/-- A parser step replaces the thread, keeps the controller's fields and never clears `isDone`: only
the thread's part of `Inv` has to be re-established. -/
theorem Inv.of_thread {s s' : State} {t t' : Thread} (hi : Inv s) (hc : s.cur = some t) (hc' : s'.cur = some t')
    (hcap : s'.cap = s.cap) (hcpc : s'.cpc = s.cpc) (hdone : s.isDone = true → s'.isDone = true)
    (ht : Static s' t' ∧ Phase s'.cpc s'.isDone s'.cleanRestart t') : Inv s' := by
  obtain ⟨c1, c2, c3, c4, c5⟩ := ((Inv_iff s).1 hi).1
  have hne : s.cur ≠ none := by simp [hc]
  refine (Inv_iff s').2 ⟨⟨hcap ▸ c1, fun h => absurd (c2 (hcpc ▸ h)) hne, fun h => absurd (c2 (.inr (hcpc ▸ h))) hne,
    fun _ => by simp [hc'], fun h => hdone (c5 (hcpc ▸ h))⟩, fun t'' h'' => ?_⟩
  cases hc'.symm.trans h''
  exact ht

/-- program counters from which the thread goes on without touching channel, token or log. -/
def movesOn : PPc → Bool
  | .checkDone _ | .abortCheck _ _ | .checkCancel _ => true
  | _ => false

/-- A step that only moves the program counter, from `movesOn` to a counter that is neither `send` nor
`park`, and waits for nothing if the stop flag is set (`hw`): all of `Static` but `PcData` carries over,
and `Phase` holds because the thread was quiet and is not asked for anything new. -/
theorem thread_move {s : State} {t : Thread} {pc' : PPc} (hs : Static s t) (hp : Phase s.cpc s.isDone s.cleanRestart t)
    (hdl : s.cpc = .runUnpark ∨ s.cpc = .runJoin → s.isDone = true) (hm : movesOn t.pc = true)
    (hd : PcData s t.sent pc') (hpe : pendEv s { t with pc := pc' } = []) (hpk : isPark pc' = false)
    (hw : s.isDone = true → needsEmpty pc' = false ∧ needsTok pc' = false) :
    Static s { t with pc := pc' } ∧ Phase s.cpc s.isDone s.cleanRestart { t with pc := pc' } := by
  obtain ⟨hq, hx, hk, he⟩ : quietPc t.pc = true ∧ isExited t.pc = false ∧ isPark t.pc = false ∧ pendEv s t = [] := by
    unfold pendEv; generalize t.pc = pc at hm; cases pc <;> cases hm <;> exact ⟨rfl, rfl, rfl, rfl⟩
  obtain ⟨h1, -, h3, h4⟩ := hs
  refine ⟨⟨h1, hd, by rw [hpe, ← he]; exact h3, by unfold TokOk at h4 ⊢; rw [hk] at h4; rw [hpk]; exact h4⟩,
    fun hdone hc => ?_, fun hcl hc => ?_, fun _ hc h => ?_, fun _ hc => ⟨fun h => ?_, fun h => ?_⟩⟩
  · have := hp.1 hdone hc; rw [hx] at this; cases this
  · have := (hp.2.1 hcl hc).1 hq
    exact ⟨fun _ => this, fun _ => .inl this.1⟩
  · rw [(hw (hdl (.inl hc))).1] at h; cases h
  · rw [(hw (hdl (.inr hc))).1] at h; cases h
  · rw [(hw (hdl (.inr hc))).2] at h; cases h

theorem Inv.pc_move {s : State} {t : Thread} {pc' : PPc} (hi : Inv s) (hc : s.cur = some t) (hm : movesOn t.pc = true)
    (hd : PcData s t.sent pc') (hpe : pendEv s { t with pc := pc' } = []) (hpk : isPark pc' = false)
    (hw : s.isDone = true → needsEmpty pc' = false ∧ needsTok pc' = false) :
    Inv { s with cur := some { t with pc := pc' } } :=
  have ⟨hs, hp⟩ := ((Inv_iff s).1 hi).2 t hc
  hi.of_thread hc rfl rfl rfl id (thread_move hs hp hi.doneLate hm hd hpe hpk hw)

theorem PcData_endWith {s : State} {sent : List Event} (ha : allBp sent) (hd : s.isDone = true) (o : Outcome) :
    PcData s sent (endWith o) := by
  cases o
  · exact ⟨ha, .inl hd⟩
  · exact ⟨ha, .inl hd⟩
  · exact .inl ha

/-- An exited thread is asked for nothing. -/
theorem Phase_exited {cpc : CPc} {done clean : Bool} {t : Thread} {b : Bool} (h : t.pc = .exited b) :
    Phase cpc done clean t := by
  simp [Phase, RJ, RU, RG, h, isExited, quietPc, isPark, needsEmpty, needsTok]

/-- A thread that has not exited is not yet held to the stop flag: `Phase` goes over to its next state as
soon as what the controller waits for does. -/
theorem Phase.step {cpc : CPc} {done clean : Bool} {t t' : Thread} (hp : Phase cpc done clean t)
    (hx : isExited t.pc = false) (h : (RJ t → RJ t') ∧ (RU t → RU t') ∧ (RG t → RG t')) : Phase cpc done clean t' :=
  ⟨fun hd hc => absurd (hp.1 hd hc) (by rw [hx]; nofun), fun a b => h.1 (hp.2.1 a b), fun a b => h.2.1 (hp.2.2.1 a b),
    fun a b => h.2.2 (hp.2.2.2 a b)⟩

theorem nextEntry_class (s : State) (k : Nat) :
    quietPc (nextEntry s k) = true ∧ isPark (nextEntry s k) = false ∧ needsEmpty (nextEntry s k) = false ∧
      needsTok (nextEntry s k) = false ∧ ∀ (s' : State) (t : Thread), t.pc = nextEntry s k → pendEv s' t = [] := by
  unfold nextEntry; split <;> exact ⟨rfl, rfl, rfl, rfl, fun _ _ h => by rw [pendEv, h]⟩

theorem PcData_nextEntry {s s' : State} {sent : List Event} {k : Nat} (he : s'.entries = s.entries)
    (hf : s'.finalOk = s.finalOk) (hl : s'.bpsAt.length = k + 1) (hk : k < s.entries.length) (ha : allBp sent) :
    PcData s' sent (nextEntry s k) := by
  unfold nextEntry; split
  · exact ⟨hl, he ▸ ‹_›, ha⟩
  · exact ⟨ha, .inr ⟨by rw [he]; omega, hf.symm⟩⟩

/-- Arrived at `nextEntry` the thread waits for nothing; only `RJ` asks something of it there. -/
theorem step_nextEntry {s : State} {k : Nat} {t t' : Thread} (h : t'.pc = nextEntry s k)
    (hj : RJ t → t'.chan = [] ∧ t'.token = false) : (RJ t → RJ t') ∧ (RU t → RU t') ∧ (RG t → RG t') := by
  obtain ⟨-, hk, hne, hnt, -⟩ := nextEntry_class s k
  rw [← h] at hk hne hnt
  refine ⟨fun r => ⟨fun _ => hj r, fun q => ?_⟩, fun _ q => ?_, fun _ => ⟨fun q => ?_, fun q => ?_⟩⟩ <;>
    simp only [hk, hne, hnt, Bool.false_eq_true] at q

theorem Inv_parser {s s' : State} (hi : Inv s) (h : parserStep s = some s') : Inv s' := by
  obtain ⟨t, hc, hst⟩ := PStep_of_parserStep h
  obtain ⟨⟨h1, h2, h3, h4⟩, hph⟩ := ((Inv_iff s).1 hi).2 t hc
  clear h
  cases hst
  -- the steps that only move the program counter: `Inv.pc_move`, with what `PcData` says there
  case emptyParse k hpc hk =>
    rw [hpc] at h2
    exact hi.pc_move hc (hpc ▸ rfl) ⟨h2.2.2, .inr ⟨Nat.le_antisymm (h2.1 ▸ h2.2.1) (h2.1 ▸ hk), rfl⟩⟩ rfl rfl fun _ => ⟨rfl, rfl⟩
  case abort0 k o hpc hk hd hab =>
    rw [hpc] at h2
    cases o <;> exact hi.pc_move hc (hpc ▸ rfl) (PcData_endWith h2.2.2 hd _) rfl rfl fun _ => ⟨rfl, rfl⟩
  case abortN k n o hpc hk hd hab =>
    rw [hpc] at h2
    exact hi.pc_move hc (hpc ▸ rfl) ⟨hd, h2.2.2⟩ rfl rfl fun _ => ⟨rfl, rfl⟩
  case toLock k hpc hk hd =>
    rw [hpc] at h2
    exact hi.pc_move hc (hpc ▸ rfl) ⟨h2.1, hk, h2.2.2⟩ rfl rfl fun h => by rw [hd] at h; cases h
  case abortEnd n o hpc hn =>
    rw [hpc] at h2
    cases o <;> exact hi.pc_move hc (hpc ▸ rfl) (PcData_endWith h2.2 h2.1 _) rfl rfl fun _ => ⟨rfl, rfl⟩
  case abortDec n o hpc hn =>
    rw [hpc] at h2
    exact hi.pc_move hc (hpc ▸ rfl) h2 rfl rfl fun _ => ⟨rfl, rfl⟩
  case cancelled ok hpc hd =>
    rw [hpc] at h2
    exact hi.pc_move hc (hpc ▸ rfl) (.inl h2.1) rfl rfl fun _ => ⟨rfl, rfl⟩
  case toFinish ok hpc hd =>
    rw [hpc] at h2
    exact hi.pc_move hc (hpc ▸ rfl) ⟨h2.1, h2.2.resolve_left (by simp [hd])⟩ rfl rfl fun h => by rw [hd] at h; cases h
  -- the steps that send, wake, log the breakpoint set or set the stop flag
  case done hpc =>
    rw [hpc] at h2
    exact hi.of_thread hc rfl rfl rfl (fun _ => rfl)
      ⟨⟨h1, .inr h2, by simpa only [pendEv, hpc] using h3, by unfold TokOk at h4 ⊢; rw [hpc] at h4; exact h4⟩, Phase_exited rfl⟩
  case lock k r p hpc hent =>
    rw [hpc] at h2
    have hs := expectedEvents_snoc s.entries s.bpsAt s.bps r p (by rw [h2.1]; exact hent)
    have hl : (s.bpsAt ++ [s.bps]).length = k + 1 := by rw [List.length_append, h2.1]; rfl
    simp only [pendEv, hpc, List.append_nil] at h3
    have h4' : ∀ pc', isPark pc' = false → TokOk { t with pc := pc' } := fun pc' h' => by
      unfold TokOk at h4 ⊢; rw [hpc] at h4; rw [h']; exact h4
    refine hi.of_thread hc rfl rfl rfl id ?_
    cases hb : s.bps.contains r <;> simp only [hb, Bool.false_eq_true, ↓reduceIte, List.append_nil] at hs ⊢
    · obtain ⟨-, hk, -, -, hpe⟩ := nextEntry_class s k
      exact ⟨⟨h1, PcData_nextEntry rfl rfl hl h2.2.1 h2.2.2, by rw [hs, ← h3, hpe _ _ rfl, List.append_nil], h4' _ hk⟩,
        hph.step (hpc ▸ rfl) (step_nextEntry rfl fun hj => hj.1 (hpc ▸ rfl))⟩
    · exact ⟨⟨h1, ⟨hl, h2.2.1, h2.2.2⟩, by rw [hs, ← h3]; simp only [pendEv, hent], h4' _ rfl⟩,
        hph.step (hpc ▸ rfl) (by simp [RJ, RU, RG, hpc, quietPc, isPark, needsEmpty, needsTok])⟩
  case woken k hpc htok =>
    rw [hpc] at h2
    obtain ⟨-, hk, -, -, hpe⟩ := nextEntry_class s k
    refine hi.of_thread hc rfl rfl rfl id ⟨⟨h1, PcData_nextEntry rfl rfl h2.1 h2.2.1 h2.2.2, ?_, ?_⟩,
      hph.step (hpc ▸ rfl) (step_nextEntry rfl fun hj => ⟨(hj.2 (hpc ▸ rfl)).resolve_right (by rw [htok]; nofun), rfl⟩)⟩
    · rw [hpe _ _ rfl]; simpa only [pendEv, hpc] using h3
    · unfold TokOk at h4 ⊢
      rw [hpc, htok] at h4
      rw [hk]
      simp only [isPark, ↓reduceIte, Bool.false_eq_true] at h4 ⊢
      omega
  case sent k r p hpc hent hch =>
    rw [hpc] at h2
    refine hi.of_thread hc rfl rfl rfl id ⟨⟨by rw [← h1, List.append_assoc], ⟨h2.1, h2.2.1, allBp_snoc_bp h2.2.2 r p⟩, ?_, ?_⟩,
      hph.step (hpc ▸ rfl) (by simp [RJ, RU, RG, hpc, quietPc, isPark, needsEmpty, needsTok])⟩
    · rw [← h3]; simp only [pendEv, hpc, hent, List.filter_append, filter_bp_single, List.append_nil]
    · unfold TokOk at h4 ⊢
      rw [hpc] at h4
      simp only [isPark, List.filter_append, filter_bp_single, List.length_append, List.length_singleton, ↓reduceIte,
        Bool.false_eq_true] at h4 ⊢
      omega
  case finished ok hpc hch =>
    rw [hpc] at h2
    have hf := allBp_filter h2.1
    simp only [pendEv, hpc, List.append_nil, hf] at h3
    refine hi.of_thread hc rfl rfl rfl id ⟨⟨by rw [← h1, List.append_assoc], ⟨h2.2.1, by rw [h3, h2.2.2]; rfl⟩, ?_, ?_⟩,
      hph.step (hpc ▸ rfl) (by simp [RJ, RU, RG, quietPc, isPark, needsEmpty, needsTok])⟩
    · simp only [pendEv, List.filter_append, filter_final_single, List.append_nil, hf]
      exact h3
    · unfold TokOk at h4 ⊢
      rw [hpc] at h4
      simp only [List.filter_append, filter_final_single, List.append_nil]
      exact h4

end PestModel.Dbg
