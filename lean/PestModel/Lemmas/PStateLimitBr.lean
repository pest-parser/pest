import PestModel.Lemmas.PStateInv
/-!
The bracketing combinators (`sequence`, `optional`, `repeat`, `lookahead`, `atomic`, `rule`,
`stack_push`, `restore_on_err`) in the uniform shape

    incCall ; pre ; body ; K

(`and_then`, `or_else` and the loop of `repeat` in the shape `thenK`), and the steps of `pre` and of
`ruleK` that keep the fields `calls`, `pa`, `input` and `pos`.
-/
namespace PestModel.PS
open PestModel.LineCol PestModel.Stack

@[simp] theorem mapState_ok (f : PState → PState) (s : PState) : (Out.ok s).mapState f = .ok (f s) := rfl
@[simp] theorem mapState_err (f : PState → PState) (s : PState) : (Out.err s).mapState f = .err (f s) := rfl
@[simp] theorem mapState_panic (f : PState → PState) : Out.panic.mapState f = .panic := rfl
@[simp] theorem mapState_fuel (f : PState → PState) : Out.fuel.mapState f = .fuel := rfl

/-! ### `incCall` in terms of `reachedCallLimit` -/

def bump (s : PState) : PState := { s with calls := s.calls.map fun x => (x.1 + 1, x.2) }

theorem incCall_eq (s : PState) :
    incCall s = if reachedCallLimit s then none else some (bump s) := by
  obtain ⟨_, _, _, _, _, _, _, _, _, c, _⟩ := s
  cases c with
  | none => rfl
  | some x =>
    obtain ⟨cur, lim⟩ := x
    by_cases h : cur ≥ lim <;> simp [incCall, reachedCallLimit, bump, h]

theorem incCall_some' {s s1 : PState} (h : incCall s = some s1) :
    reachedCallLimit s = false ∧ s1 = bump s := by
  rw [incCall_eq] at h
  cases hr : reachedCallLimit s <;> rw [hr] at h <;> cases h
  exact ⟨rfl, rfl⟩

theorem incCall_none {s : PState} (h : incCall s = none) : reachedCallLimit s = true := by
  rw [incCall_eq] at h
  cases hr : reachedCallLimit s
  · rw [hr] at h; cases h
  · rfl

/-! ### steps that keep `calls`, `pa`, `input` and `pos` -/

def Core (a b : PState) : Prop :=
  b.calls = a.calls ∧ b.pa = a.pa ∧ b.input = a.input ∧ b.pos = a.pos

theorem Core.refl (s : PState) : Core s s := ⟨rfl, rfl, rfl, rfl⟩

theorem Core.trans {a b c : PState} (h1 : Core a b) (h2 : Core b c) : Core a c :=
  ⟨h2.1.trans h1.1, h2.2.1.trans h1.2.1, h2.2.2.1.trans h1.2.2.1, h2.2.2.2.trans h1.2.2.2⟩

theorem atomPre_core (a : Atomicity) (s1 : PState) : Core s1 (atomPre a s1) := by
  unfold atomPre; split <;> exact ⟨rfl, rfl, rfl, rfl⟩

theorem rulePre_core (s1 : PState) : Core s1 (rulePre s1) := by
  unfold rulePre; split <;> exact ⟨rfl, rfl, rfl, rfl⟩

theorem ruleEmit_core {s1 x y : PState} {r : Nat} (h : ruleEmit s1 r x = some y) : Core x y := by
  unfold ruleEmit at h
  split at h
  · split at h
    · cases h; exact ⟨rfl, rfl, rfl, rfl⟩
    · cases h
  · cases h; exact Core.refl _

theorem ruleTrack_core (s1 : PState) (r : Nat) (ns : PState) : Core ns (ruleTrack s1 r ns) := by
  unfold ruleTrack; rw [track_norm]; exact ⟨rfl, rfl, rfl, rfl⟩

theorem ruleTrackIf_core (s1 : PState) (r : Nat) (ns : PState) : Core ns (ruleTrackIf s1 r ns) := by
  unfold ruleTrackIf; split
  · exact ruleTrack_core s1 r ns
  · exact Core.refl _

theorem ruleErrTrunc_core (s1 ns : PState) : Core ns (ruleErrTrunc s1 ns) := by
  unfold ruleErrTrunc; split <;> exact ⟨rfl, rfl, rfl, rfl⟩

theorem ruleAdd_core {s1 x y : PState} {r : Nat} (h : ruleAdd s1 r x = some y) :
    y.calls = x.calls ∧ y.input = x.input ∧ y.pos = x.pos := by
  obtain ⟨pa', rfl, -⟩ := ruleAdd_eq h
  exact ⟨rfl, rfl, rfl⟩

/-- `pre ; body ; K` -/
def bracket0 (cfg : Cfg) (fuel : Nat) (body : Prog) (pre : PState → PState) (K : PState → Out → Out)
    (s1 : PState) : Out := K s1 (run cfg fuel body (pre s1))

/-- `incCall ; pre ; body ; K` -/
def bracket (cfg : Cfg) (fuel : Nat) (body : Prog) (pre : PState → PState) (K : PState → Out → Out)
    (s : PState) : Out :=
  match incCall s with
  | none => .err s
  | some s1 => bracket0 cfg fuel body pre K s1

def seqK (s1 : PState) : Out → Out
  | .ok ns => (match checkpointOk ns with | some ns => .ok ns | none => .panic)
  | .err ns => (match restoreStack (seqErrState s1 ns) with | some ns => .err ns | none => .panic)
  | o => o

def roeK (_ : PState) : Out → Out
  | .ok ns => (match checkpointOk ns with | some ns => .ok ns | none => .panic)
  | .err ns => (match restoreStack ns with | some ns => .err ns | none => .panic)
  | o => o

def optK (_ : PState) : Out → Out
  | .ok s' => .ok s'
  | .err s' => .ok s'
  | o => o

def idK (_ : PState) (o : Out) : Out := o

def laPre (positive : Bool) (s1 : PState) : PState :=
  checkpoint { s1 with lookahead := laMode positive s1.lookahead }

def laK (positive : Bool) (s1 : PState) : Out → Out
  | .ok ns =>
    (match laPost s1 ns with
      | some ns => if positive then .ok ns else .err ns
      | none => .panic)
  | .err ns =>
    (match laPost s1 ns with
      | some ns => if positive then .err ns else .ok ns
      | none => .panic)
  | o => o

def atomK (a : Atomicity) (s1 : PState) : Out → Out
  | .ok ns => .ok (atomPost a s1 ns)
  | .err ns => .err (atomPost a s1 ns)
  | o => o

def ruleK (r : Nat) (s1 : PState) : Out → Out
  | .ok ns => ruleOkPost s1 r ns
  | .err ns => ruleErrPost s1 r ns
  | o => o

def pushK (s1 : PState) : Out → Out
  | .ok ns => pushSpan s1 ns
  | o => o

/-- `and_then`, `or_else` and the loop of `repeat` go on after a first run according to its
outcome. -/
def thenK (fok ferr : PState → Out) : Out → Out
  | .ok s => fok s
  | .err s => ferr s
  | o => o

/-- The bracketing combinators other than `rule` (whose `K` alone reads `pa`): `X` runs `body` from
`pre s`, after `incCall` if `inc`, and hands the outcome to `K s`. -/
inductive Shape : Prog → Bool → Prog → (PState → PState) → (PState → Out → Out) → Prop
  | sequence (p : Prog) : Shape (.sequence p) true p checkpoint seqK
  | restoreOnErr (p : Prog) : Shape (.restoreOnErr p) false p checkpoint roeK
  | optional (p : Prog) : Shape (.optional p) true p (fun s => s) optK
  | repeat_ (p : Prog) : Shape (.repeat_ p) true (.repLoop p) (fun s => s) idK
  | lookahead (b : Bool) (p : Prog) : Shape (.lookahead b p) true p (laPre b) (laK b)
  | atomic (a : Atomicity) (p : Prog) : Shape (.atomic a p) true p (atomPre a) (atomK a)
  | stackPush (p : Prog) : Shape (.stackPush p) true p (fun s => s) pushK

section
variable (cfg : Cfg) (fuel : Nat)

theorem Shape.run {X body : Prog} {inc : Bool} {pre : PState → PState} {K : PState → Out → Out}
    (h : Shape X inc body pre K) (s : PState) :
    PS.run cfg (fuel+1) X s =
      cond inc (bracket cfg fuel body pre K s) (bracket0 cfg fuel body pre K s) := by
  cases h with
  | restoreOnErr _ =>
    rw [run_restoreOnErr]; show _ = roeK s (PS.run cfg fuel body (checkpoint s))
    cases PS.run cfg fuel body (checkpoint s) <;> rfl
  | sequence _ =>
    rw [run_sequence]; unfold cond bracket bracket0
    cases incCall s with
    | none => rfl
    | some s1 => dsimp only; cases PS.run cfg fuel body (checkpoint s1) <;> rfl
  | optional _ =>
    rw [run_optional]; unfold cond bracket bracket0
    cases incCall s with
    | none => rfl
    | some s1 => dsimp only; cases PS.run cfg fuel body s1 <;> rfl
  | repeat_ _ => rw [run_repeat]; unfold cond bracket bracket0; cases incCall s <;> rfl
  | lookahead positive _ =>
    rw [run_lookahead]; unfold cond bracket bracket0
    cases incCall s with
    | none => rfl
    | some s1 =>
      dsimp only
      show _ = laK positive s1 (PS.run cfg fuel body (checkpoint { s1 with lookahead := laMode positive s1.lookahead }))
      cases PS.run cfg fuel body (checkpoint { s1 with lookahead := laMode positive s1.lookahead }) <;> rfl
  | atomic a _ =>
    rw [run_atomic]; unfold cond bracket bracket0
    cases incCall s with
    | none => rfl
    | some s1 => dsimp only; cases PS.run cfg fuel body (atomPre a s1) <;> rfl
  | stackPush _ =>
    rw [run_stackPush]; unfold cond bracket bracket0
    cases incCall s with
    | none => rfl
    | some s1 => dsimp only; cases PS.run cfg fuel body s1 <;> rfl

theorem Shape.pre_core {X body : Prog} {inc : Bool} {pre : PState → PState} {K : PState → Out → Out}
    (h : Shape X inc body pre K) (s1 : PState) : Core s1 (pre s1) := by
  cases h <;> first | exact ⟨rfl, rfl, rfl, rfl⟩ | exact atomPre_core _ s1

theorem run_rule_K (r : Nat) (p : Prog) (s : PState) :
    run cfg (fuel+1) (.rule r p) s = bracket cfg fuel p rulePre (ruleK r) s := by
  rw [run_rule]; unfold bracket bracket0
  cases incCall s with
  | none => rfl
  | some s1 => dsimp only; cases run cfg fuel p (rulePre s1) <;> rfl

theorem run_andThen_K (p q : Prog) (s : PState) :
    run cfg (fuel+1) (.andThen p q) s = thenK (run cfg fuel q) .err (run cfg fuel p s) := by
  rw [run_andThen]; cases run cfg fuel p s <;> rfl

theorem run_orElse_K (p q : Prog) (s : PState) :
    run cfg (fuel+1) (.orElse p q) s = thenK .ok (run cfg fuel q) (run cfg fuel p s) := by
  rw [run_orElse]; cases run cfg fuel p s <;> rfl

theorem run_repLoop_K (p : Prog) (s : PState) :
    run cfg (fuel+1) (.repLoop p) s = thenK (run cfg fuel (.repLoop p)) .ok (run cfg fuel p s) := by
  rw [run_repLoop]; cases run cfg fuel p s <;> rfl

end

/-- A completed `ruleK`: the body's final state `ns`, a step keeping `calls`/`pa` (tracking, the
queue), possibly the `tryAddRuleToStack` of the rule, and again a step keeping them. -/
theorem ruleK_shape {r : Nat} {s1 : PState} {o : Out} {s' : PState}
    (h : (ruleK r s1 o).state? = some s') :
    ∃ ns, o.state? = some ns ∧ ∃ x y, Core ns x ∧ (y = x ∨ ruleAdd s1 r x = some y) ∧ Core y s' := by
  cases o with
  | ok ns =>
    refine ⟨ns, rfl, ?_⟩
    change (ruleOkPost s1 r ns).state? = some s' at h
    unfold ruleOkPost at h
    split at h
    · cases h
    · rename_i x he
      have hx : Core ns x := (ruleTrackIf_core s1 r ns).trans (ruleEmit_core he)
      unfold ruleFinish at h
      split at h
      · split at h
        · rename_i y ha; cases h; exact ⟨_, _, hx, Or.inr ha, Core.refl _⟩
        · cases h
      · cases h; exact ⟨_, _, hx, Or.inl rfl, Core.refl _⟩
  | err ns =>
    refine ⟨ns, rfl, ?_⟩
    change (ruleErrPost s1 r ns).state? = some s' at h
    unfold ruleErrPost at h
    split at h
    · cases h
    · rename_i y ha
      cases h
      unfold ruleErrAdd at ha
      split at ha
      · split at ha
        · exact ⟨_, y, ruleTrack_core s1 r ns, Or.inr ha, ruleErrTrunc_core s1 y⟩
        · cases ha; exact ⟨_, _, ruleTrack_core s1 r ns, Or.inl rfl, ruleErrTrunc_core s1 _⟩
      · cases ha; exact ⟨ns, ns, Core.refl _, Or.inl rfl, ruleErrTrunc_core s1 _⟩
  | panic => cases h
  | fuel => cases h

end PestModel.PS
