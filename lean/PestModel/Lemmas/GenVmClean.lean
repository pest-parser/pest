import PestModel.Lemmas.GenVmRun
import PestModel.Lemmas.VmRefDefs
import PestModel.Lemmas.PStateStackReaders
/-! C02: what a failing VM program leaves behind. Position and queue are as before; the stack
contents too, unless the expression is `Dirty` (can fail after `POP`/`POP_ALL`). -/
namespace PestModel.GenVm
open PestModel.PS PestModel.Stack PestModel.Lower PestModel.G
open PestModel.LineCol (Str isBoundary slice?)
open PestModel.VmRef (Dirty)

/-- a failing run (fuel `≤ n`) restores position and queue, and the stack contents unless `D`. -/
def ErrSpecN (C : Cfg) (n : Nat) (P : Prog) (D : Prop) : Prop :=
  ∀ m, m ≤ n → ∀ s s', Good s → run C m P s = .err s' →
    s'.pos = s.pos ∧ s'.queue = s.queue ∧ (s'.stack.cache ≠ s.stack.cache → D)

variable {C : Cfg} {n : Nat}

theorem ErrSpecN.weaken {P : Prog} {D D' : Prop} (h : ErrSpecN C n P D) (hd : D → D') : ErrSpecN C n P D' :=
  fun m hm s s' hg hr => by
    obtain ⟨a, b, c⟩ := h m hm s s' hg hr
    exact ⟨a, b, fun x => hd (c x)⟩

theorem es_of_step {P : Prog} {D : Prop}
    (h : ∀ f, f + 1 ≤ n → ∀ s s', Good s → run C (f+1) P s = .err s' →
      s'.pos = s.pos ∧ s'.queue = s.queue ∧ (s'.stack.cache ≠ s.stack.cache → D)) : ErrSpecN C n P D := by
  intro m hm s s' hg hr
  obtain ⟨f, rfl⟩ := fuel_pos (by rw [hr]; exact Out.noConfusion)
  exact h f hm s s' hg hr

theorem terminal_err {s s' : PState} {r : Option (Bool × Nat)} {tok : Option PTok}
    (h : terminal s r tok = .err s') :
    ∃ p, r = some (false, p) ∧ s'.pos = p ∧ s'.queue = s.queue ∧ s'.stack = s.stack := by
  obtain _ | ⟨b, p⟩ := r
  · cases h
  · obtain ⟨pa', e, -⟩ := terminal_some s b p tok
    rw [e] at h
    cases b <;> cases h
    exact ⟨p, rfl, rfl, rfl, rfl⟩

theorem es_terminal {s s' : PState} {r : Option (Bool × Nat)} {tok : Option PTok} {D : Prop}
    (hr : ∀ p, r = some (false, p) → p = s.pos) (h : terminal s r tok = .err s') :
    s'.pos = s.pos ∧ s'.queue = s.queue ∧ (s'.stack.cache ≠ s.stack.cache → D) := by
  obtain ⟨p, h1, h2, h3, h4⟩ := terminal_err h
  exact ⟨h2.trans (hr p h1), h3, fun x => absurd (by rw [h4]) x⟩

/-- a program that is one `terminal` whose matcher, when it fails, reports the position it started at. -/
theorem es_of_terminal {P : Prog} {r : PState → Option (Bool × Nat)} {tok : Option PTok} (D : Prop)
    (hrun : ∀ f s, run C (f+1) P s = terminal s (r s) tok) (hr : ∀ s p, r s = some (false, p) → p = s.pos) :
    ErrSpecN C n P D :=
  es_of_step fun f _ s s' _ h => es_terminal (hr s) (by rw [← hrun f s]; exact h)

theorem es_matchString (str : Str) (D : Prop) : ErrSpecN C n (.matchString str) D :=
  es_of_terminal D (fun _ _ => by rw [PS.run]) fun _ _ => (posMatchString_prim _ _ _).miss_pos

theorem es_matchInsensitive (str : Str) (D : Prop) : ErrSpecN C n (.matchInsensitive str) D :=
  es_of_terminal D (fun _ _ => by rw [PS.run]) fun _ _ => (posMatchInsensitive_prim _ _ _).miss_pos

theorem es_matchRange (a b : Char) (D : Prop) : ErrSpecN C n (.matchRange a b) D :=
  es_of_terminal D (fun _ _ => by rw [PS.run]) fun _ _ => (posMatchRange_prim _ _ _ _).miss_pos

theorem es_matchCharBy (cs : CharSet) (D : Prop) : ErrSpecN C n (.matchCharBy cs) D :=
  es_of_terminal D (fun _ _ => by rw [PS.run]) fun _ _ => (posMatchCharBy_prim _ _ _).miss_pos

theorem es_skip (k : Nat) (D : Prop) : ErrSpecN C n (.skip k) D :=
  es_of_terminal D (fun _ _ => by rw [PS.run]) fun _ _ => (posSkip_prim _ _ _).miss_pos

theorem es_same {P : Prog} {D : Prop} (h : ∀ f s s', run C (f+1) P s = .err s' → s' = s) : ErrSpecN C n P D :=
  es_of_step fun f _ s s' _ hr => by
    have := h f s s' hr; subst this
    exact ⟨rfl, rfl, fun x => absurd rfl x⟩

theorem es_never {P : Prog} {D : Prop} (h : ∀ f s s', Good s → run C (f+1) P s ≠ .err s') : ErrSpecN C n P D :=
  es_of_step fun f _ s s' hg hr => absurd hr (h f s s' hg)

theorem es_startOfInput (D : Prop) : ErrSpecN C n .startOfInput D :=
  es_same fun f s s' h => by
    rw [PS.run] at h; split at h <;> simp at h; exact h.symm

theorem es_endOfInput (D : Prop) : ErrSpecN C n .endOfInput D :=
  es_same fun f s s' h => by
    rw [PS.run] at h; split at h <;> simp at h; exact h.symm

theorem es_stackDrop (D : Prop) : ErrSpecN C n .stackDrop D :=
  es_same fun f s s' h => by
    rw [PS.run] at h
    split at h <;> simp at h
    exact h.symm

theorem es_stackMatchPeek (D : Prop) : ErrSpecN C n .stackMatchPeek D :=
  es_same fun f s s' h => by
    rw [PS.run] at h
    split at h
    · simp at h
    · split at h <;> simp at h
      exact h.symm

theorem es_peekSlice (a : Int) (b : Option Int) (d : MatchDir) (D : Prop) :
    ErrSpecN C n (.stackMatchPeekSlice a b d) D :=
  es_same fun f s s' h => by
    rw [PS.run] at h
    split at h
    · simp at h; exact h.symm
    · split at h
      · simp at h
      · split at h <;> (dsimp only at h; split at h <;> simp at h <;> try exact h.symm)

theorem es_stackPeek (D : Prop) : ErrSpecN C n .stackPeek D :=
  es_of_step fun f _ s s' hg hr => by
    rw [PS.run, hg.notLimit] at hr
    simp only [Bool.false_eq_true, if_false] at hr
    split at hr
    · cases hr
    · exact es_terminal (fun p hp => posMatchString_false' hp) hr

theorem es_stackPop : ErrSpecN C n .stackPop True :=
  es_of_step fun f _ s s' hg hr => by
    rw [PS.run, hg.notLimit] at hr
    simp only [Bool.false_eq_true, if_false] at hr
    split at hr
    · cases hr
    · cases hr
    · obtain ⟨p, h1, h2, h3, -⟩ := terminal_err hr
      exact ⟨h2.trans (posMatchString_false' h1), h3, fun _ => trivial⟩

theorem es_stackMatchPop : ErrSpecN C n .stackMatchPop True :=
  es_of_step fun f _ s s' _ hr => by
    rw [PS.run] at hr
    split at hr
    · cases hr
    · cases hr
    · simp only [Out.err.injEq] at hr; subst hr
      exact ⟨rfl, rfl, fun _ => trivial⟩

theorem es_skipUntil (strs : List Str) (D : Prop) : ErrSpecN C n (.skipUntil strs) D :=
  es_never fun f s s' _ h => by rw [PS.run] at h; split at h <;> cases h

theorem es_pushLiteral (str : Str) (D : Prop) : ErrSpecN C n (.stackPushLiteral str) D :=
  es_never fun f s s' _ h => by rw [PS.run] at h; cases h

theorem tagNode_not_err (t : Str) (m : Nat) (s s' : PState) : run C m (.tagNode t) s ≠ .err s' := by
  cases m with
  | zero => rw [run_zero]; simp
  | succ m =>
    rw [PS.run]
    split
    · simp
    · split <;> simp

theorem es_orElse {P Q : Prog} {D1 D2 : Prop} (h1 : ErrSpecN C n P D1) (h2 : ErrSpecN C n Q D2) :
    ErrSpecN C n (.orElse P Q) (D1 ∨ D2) :=
  es_of_step fun f hf s s' hg hr => by
    rw [run_orElse] at hr
    cases e1 : run C f P s with
    | err t =>
      rw [e1] at hr
      obtain ⟨a1, b1, c1⟩ := h1 f (by omega) s t hg e1
      obtain ⟨a2, b2, c2⟩ := h2 f (by omega) t s' (good_run hg (by rw [e1]; rfl)) hr
      refine ⟨a2.trans a1, b2.trans b1, fun x => ?_⟩
      by_cases hc : t.stack.cache = s.stack.cache
      · exact Or.inr (c2 (by rw [hc]; exact x))
      · exact Or.inl (c1 hc)
    | ok t => rw [e1] at hr; cases hr
    | panic => rw [e1] at hr; cases hr
    | fuel => rw [e1] at hr; cases hr

theorem es_andThen_tag {P : Prog} {D : Prop} (t : Str) (h : ErrSpecN C n P D) :
    ErrSpecN C n (.andThen P (.tagNode t)) D :=
  es_of_step fun f hf s s' hg hr => by
    rw [run_andThen] at hr
    cases e1 : run C f P s with
    | err x => rw [e1] at hr; cases hr; exact h f (by omega) s _ hg e1
    | ok x => rw [e1] at hr; exact absurd hr (tagNode_not_err t f x s')
    | panic => rw [e1] at hr; cases hr
    | fuel => rw [e1] at hr; cases hr

theorem es_sequence (P : Prog) (D : Prop) : ErrSpecN C n (.sequence P) D :=
  fun m _ s s' hg hr => by
    obtain ⟨a, b, c⟩ := sequence_err_restores' C m P s s' hg.wf hr
    exact ⟨a, b, fun x => absurd (congrArg Naive.cur c) x⟩

theorem es_lookahead (b : Bool) (P : Prog) (D : Prop) : ErrSpecN C n (.lookahead b P) D :=
  fun m _ s s' hg hr => by
    obtain ⟨a, b, c, -⟩ := lookahead_restores' C m b P s s' hg.wf (by rw [hr]; rfl)
    exact ⟨a, b, fun x => absurd (congrArg Naive.cur c) x⟩

theorem repLoop_not_err (P : Prog) : ∀ (m : Nat) (s s' : PState), run C m (.repLoop P) s ≠ .err s'
  | 0, s, s' => by rw [run_zero]; simp
  | m + 1, s, s' => by
    rw [run_repLoop]
    cases e : run C m P s with
    | ok t => exact repLoop_not_err P m t s'
    | err t => simp
    | panic => simp
    | fuel => simp

/-- a bracketing combinator whose `K` does not turn a success into a failure fails only when its body does;
`herr` says what `K` makes of that failure. -/
theorem es_bracket {X P : Prog} {pre : PState → PState} {K : PState → Out → Out} {D : Prop}
    (hrun : Br C X P pre K) (hK : KOK K) (hok : ∀ s x s', Rel (pre s) x → K s (.ok x) ≠ .err s')
    (herr : ∀ f s x s', f + 1 ≤ n → Good s → run C f P (pre s) = .err x → K s (.err x) = .err s' →
      s'.pos = s.pos ∧ s'.queue = s.queue ∧ (s'.stack.cache ≠ s.stack.cache → D)) : ErrSpecN C n X D :=
  es_of_step fun f hf s s' hg hr => by
    rw [hrun f s hg] at hr
    cases e : run C f P (pre s) with
    | ok x => rw [e] at hr; exact absurd hr (hok s x s' (run_ok_rel e))
    | err x => rw [e] at hr; exact herr f s x s' hf hg e hr
    | panic => rw [e, hK.panic] at hr; cases hr
    | fuel => rw [e, hK.fuel] at hr; cases hr

theorem es_restoreOnErr {P : Prog} {D D' : Prop} (h : ErrSpecN C n P D) : ErrSpecN C n (.restoreOnErr P) D' :=
  es_bracket (Shape.restoreOnErr P).br (Shape.restoreOnErr P).kok (fun s x s' _ => by unfold roeK; dsimp only; split <;> exact Out.noConfusion)
    fun f s x s' hf hg e hr => by
      have hst := restoreOnErr_restores' C (f+1) P s s' hg.wf (by rw [(Shape.restoreOnErr P).br f s hg, e]; exact hr)
      unfold roeK at hr
      dsimp only at hr
      split at hr
      · rename_i ns hrs
        obtain ⟨st, -, rfl⟩ := restoreStack_some hrs
        cases hr
        obtain ⟨a, b, -⟩ := h f (by omega) _ _ (good_checkpoint hg) e
        exact ⟨a, b, fun x => absurd (congrArg Naive.cur hst) x⟩
      · cases hr

theorem es_optional (P : Prog) (D : Prop) : ErrSpecN C n (.optional P) D :=
  es_bracket (Shape.optional P).br (Shape.optional P).kok (fun _ _ _ _ => Out.noConfusion) fun _ _ _ _ _ _ _ hr => nomatch hr

theorem es_repeat (P : Prog) (D : Prop) : ErrSpecN C n (.repeat_ P) D :=
  es_bracket (Shape.repeat_ P).br (Shape.repeat_ P).kok (fun _ _ _ _ => Out.noConfusion)
    fun f s x _ _ _ e _ => absurd e (repLoop_not_err P f s x)

theorem es_stackPush {P : Prog} {D : Prop} (h : ErrSpecN C n P D) : ErrSpecN C n (.stackPush P) D :=
  es_bracket (Shape.stackPush P).br (Shape.stackPush P).kok
    (fun s x s' _ => by unfold pushK pushSpan; dsimp only; split <;> exact Out.noConfusion)
    fun f s x s' hf hg e hr => by cases hr; exact h f (by omega) s _ hg e

theorem atomPre_fields (a : Atomicity) (s : PState) :
    (atomPre a s).pos = s.pos ∧ (atomPre a s).queue = s.queue ∧ (atomPre a s).stack = s.stack := by
  unfold atomPre; split <;> exact ⟨rfl, rfl, rfl⟩

theorem atomPost_fields (a : Atomicity) (s ns : PState) :
    (atomPost a s ns).pos = ns.pos ∧ (atomPost a s ns).queue = ns.queue ∧ (atomPost a s ns).stack = ns.stack := by
  unfold atomPost; split <;> exact ⟨rfl, rfl, rfl⟩

theorem es_atomic (a : Atomicity) {P : Prog} {D : Prop} (h : ErrSpecN C n P D) : ErrSpecN C n (.atomic a P) D :=
  es_bracket (Shape.atomic a P).br (Shape.atomic a P).kok (fun _ _ _ _ => Out.noConfusion) fun f s x s' hf hg e hr => by
    cases hr
    obtain ⟨a1, b1, c1⟩ := h f (by omega) _ _ (good_atomPre a hg) e
    obtain ⟨p1, p2, p3⟩ := atomPre_fields a s
    obtain ⟨q1, q2, q3⟩ := atomPost_fields a s x
    rw [p1] at a1; rw [p2] at b1; rw [p3] at c1
    exact ⟨q1.trans a1, q2.trans b1, fun y => c1 (by rw [← q3]; exact y)⟩

theorem rulePre_fields (s : PState) : (rulePre s).pos = s.pos ∧ (rulePre s).stack = s.stack := by
  unfold rulePre; split <;> exact ⟨rfl, rfl⟩

theorem es_rule (r : Nat) {P : Prog} {D : Prop} (h : ErrSpecN C n P D) : ErrSpecN C n (.rule r P) D :=
  es_bracket (br_rule r P) (ruleK_ok r)
    (fun s x s' hrel hr => by
      obtain ⟨h1, -⟩ := ruleOkPost_spec (s' := s') hrel (by rw [show ruleOkPost s r x = .err s' from hr]; rfl)
      rw [show ruleOkPost s r x = .err s' from hr] at h1; cases h1)
    fun f s x s' hf hg e hr => by
      obtain ⟨-, a, b, c, pa', q', rfl, -, hq1, hq2⟩ :=
        ruleErrPost_spec (run_err_rel e) (by rw [show ruleErrPost s r x = .err s' from hr]; rfl)
      obtain ⟨a1, b1, c1⟩ := h f (by omega) _ _ (good_rulePre hg) e
      obtain ⟨p1, p3⟩ := rulePre_fields s
      rw [p1] at a1; rw [p3] at c1
      refine ⟨a1, ?_, c1⟩
      by_cases hc : ruleCond s
      · exact hq1 hc
      · show q' = s.queue
        rw [hq2 hc, b1, rulePre_of_not hc]

theorem es_call {i : Nat} {P : Prog} {D : Prop} (hi : C.env[i]? = some P) (h : ErrSpecN C n P D) :
    ErrSpecN C (n + 1) (.call i) D :=
  es_of_step fun f hf s s' hg hr => by
    rw [run_call, hi] at hr
    exact h f (by omega) s s' hg hr

theorem es_call_none {i : Nat} {D : Prop} (hi : C.env[i]? = none) : ErrSpecN C n (.call i) D :=
  es_never fun f s s' _ hr => by
    rw [run_call, hi] at hr; cases hr

end PestModel.GenVm
