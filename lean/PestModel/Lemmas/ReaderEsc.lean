import PestModel.Model.Reader
/-! helper lemmas for C07: `unescape` against `spell`. -/
namespace PestModel.Reader
open PestModel.LineCol (Str)

theorem hexDigit_facts : ∀ up : Bool, ∀ n, n < 16 →
    hexVal (hexDigit up n) = some n ∧ (hexDigit up n).utf8Size = 1 ∧
      hexDigit up n ≠ '+' ∧ hexDigit up n ≠ '}' := by
  decide

theorem charOfNat?_toNat (c : Char) : charOfNat? c.toNat = some c := by
  unfold charOfNat?
  have h : c.toNat.isValidChar := c.valid
  simp only [h, Char.ofNatAux, dite_true]
  congr 1

theorem mem_hexDigits {up : Bool} : ∀ {k v : Nat} {c : Char}, c ∈ hexDigits up k v → ∃ n, n < 16 ∧ c = hexDigit up n
  | 0, _, _, h => by simp [hexDigits] at h
  | k + 1, v, c, h => by
    simp only [hexDigits, List.mem_append, List.mem_singleton] at h
    rcases h with h | h
    · exact mem_hexDigits h
    · exact ⟨v % 16, Nat.mod_lt _ (by decide), h⟩

theorem length_hexDigits (up : Bool) : ∀ k v, (hexDigits up k v).length = k
  | 0, _ => rfl
  | k + 1, v => by simp [hexDigits, length_hexDigits up k]

theorem utf8Len_append (a b : Str) : utf8Len (a ++ b) = utf8Len a + utf8Len b := by
  simp [utf8Len]

theorem utf8Len_hexDigits (up : Bool) : ∀ k v, utf8Len (hexDigits up k v) = k
  | 0, _ => rfl
  | k + 1, v => by
    rw [hexDigits, utf8Len_append, utf8Len_hexDigits up k]
    simp [utf8Len, (hexDigit_facts up (v % 16) (Nat.mod_lt _ (by decide))).2.1]

theorem foldlM_hexDigits (up : Bool) : ∀ k v acc, v < 16 ^ k →
    (hexDigits up k v).foldlM (fun acc c => (hexVal c).map fun v => acc * 16 + v) acc = some (acc * 16 ^ k + v)
  | 0, v, acc, h => by
    have : v = 0 := by simpa using h
    simp [hexDigits, this]
  | k + 1, v, acc, h => by
    have hv : v / 16 < 16 ^ k := by rw [Nat.pow_succ] at h; omega
    rw [hexDigits, List.foldlM_append, foldlM_hexDigits up k _ _ hv]
    simp [(hexDigit_facts up (v % 16) (Nat.mod_lt _ (by decide))).1, Nat.pow_succ]
    rw [Nat.add_mul, Nat.mul_assoc]
    omega

theorem fromStrRadix16_noPlus {s : Str} (h : ∀ c ∈ s, c ≠ '+') :
    fromStrRadix16 s = if s.isEmpty then none else
      s.foldlM (fun acc c => (hexVal c).map fun v => acc * 16 + v) 0 := by
  unfold fromStrRadix16
  split
  · exact absurd rfl (h '+' (by simp))
  · rfl

theorem fromStrRadix16_hexDigits (up : Bool) (k v : Nat) (hk : 1 ≤ k) (hv : v < 16 ^ k) :
    fromStrRadix16 (hexDigits up k v) = some v := by
  have hne : ∀ c ∈ hexDigits up k v, c ≠ '+' := by
    intro c hc
    obtain ⟨n, hn, rfl⟩ := mem_hexDigits hc
    exact (hexDigit_facts up n hn).2.2.1
  rw [fromStrRadix16_noPlus hne]
  have hlen := length_hexDigits up k v
  have : (hexDigits up k v).isEmpty = false := by
    cases hh : hexDigits up k v with
    | nil => rw [hh] at hlen; simp at hlen; omega
    | cons _ _ => rfl
  simp [this, foldlM_hexDigits up k v 0 hv]

/-! ### one step of `unescapeGo` per spelling form -/

theorem step_plain (f : Nat) (c : Char) (hc : c ≠ '\\') (rest acc : Str) :
    unescapeGo (f + 1) (c :: rest) acc = unescapeGo f rest (c :: acc) := by
  rw [unescapeGo]
  simpa using hc

theorem step_uni (up : Bool) (k v : Nat) (hk : 2 ≤ k ∧ k ≤ 6) (hv : v < 16 ^ k) (f : Nat) (rest acc : Str) :
    unescapeGo (f + 1) (['\\', 'u', '{'] ++ hexDigits up k v ++ ['}'] ++ rest) acc =
      match charOfNat? v with
      | some c => unescapeGo f rest (c :: acc)
      | none => none := by
  have htw : (hexDigits up k v ++ '}' :: rest).takeWhile (· ≠ '}') = hexDigits up k v := by
    rw [List.takeWhile_append_of_pos]
    · simp
    · intro c hc
      obtain ⟨n, hn, rfl⟩ := mem_hexDigits hc
      simpa using (hexDigit_facts up n hn).2.2.2
  have hlen := length_hexDigits up k v
  have hdrop : (hexDigits up k v ++ '}' :: rest).drop (k + 1) = rest := by
    have : k + 1 = (hexDigits up k v ++ ['}']).length := by simp [hlen]
    rw [show hexDigits up k v ++ '}' :: rest = (hexDigits up k v ++ ['}']) ++ rest by simp, this,
      List.drop_left]
  simp only [List.cons_append, List.nil_append, List.append_assoc]
  rw [unescapeGo]
  simp only [htw, utf8Len_hexDigits, fromStrRadix16_hexDigits up k v (by omega) hv, hdrop]
  simp only [hlen, List.length_append, List.length_cons]
  rw [if_neg (by omega), if_neg (by omega)]
  cases charOfNat? v <;> rfl

theorem step_hex (up : Bool) (v : Nat) (hv : v < 256) (f : Nat) (rest acc : Str) :
    unescapeGo (f + 1) (['\\', 'x'] ++ hexDigits up 2 v ++ rest) acc =
      unescapeGo f rest (Char.ofNat v :: acc) := by
  have hlen := length_hexDigits up 2 v
  have htake : (hexDigits up 2 v ++ rest).take 2 = hexDigits up 2 v := by
    rw [List.take_append_of_le_length (by omega), List.take_of_length_le (by omega)]
  have hdrop : (hexDigits up 2 v ++ rest).drop 2 = rest := by
    have := List.drop_left (l₁ := hexDigits up 2 v) (l₂ := rest)
    rwa [hlen] at this
  simp only [List.cons_append, List.nil_append]
  rw [unescapeGo]
  simp only [htake, hdrop, utf8Len_hexDigits, fromStrRadix16_hexDigits up 2 v (by omega) (by omega)]
  simp [hv]

/-- The named escapes as a table of (letter after the backslash, character denoted): the arms of `unescapeGo`
and of `spell` are compared row by row in `step_spell`. -/
theorem spell_named {quote c : Char} {a : Str} (h : spell quote .named c = some a) :
    ∃ e, a = ['\\', e] ∧ (e, c) ∈ [('n', '\n'), ('r', '\r'), ('t', '\t'), ('0', '\x00'), ('\\', '\\'),
      ('"', '"'), ('\'', '\'')] := by
  simp only [spell] at h
  repeat' split at h
  all_goals (cases h; try (subst_vars; exact ⟨_, rfl, by simp⟩))

theorem step_spell (quote : Char) (sp : Spelling) (c : Char) (a : Str) (h : spell quote sp c = some a)
    (f : Nat) (rest acc : Str) :
    unescapeGo (f + 1) (a ++ rest) acc = unescapeGo f rest (c :: acc) := by
  cases sp with
  | plain =>
    simp only [spell] at h
    split at h
    · cases h
    · cases h
      rename_i hc
      exact step_plain f c (fun e => hc (Or.inr e)) rest acc
  | named =>
    obtain ⟨e, rfl, he⟩ := spell_named h
    simp only [List.mem_cons, Prod.mk.injEq, List.not_mem_nil, or_false] at he
    rcases he with ⟨rfl, rfl⟩ | ⟨rfl, rfl⟩ | ⟨rfl, rfl⟩ | ⟨rfl, rfl⟩ | ⟨rfl, rfl⟩ | ⟨rfl, rfl⟩ | ⟨rfl, rfl⟩ <;> rfl
  | hex up =>
    simp only [spell] at h
    split at h
    · cases h
      rename_i hc
      rw [step_hex up c.toNat hc, Char.ofNat_toNat]
    · cases h
  | uni k up =>
    simp only [spell] at h
    split at h
    · cases h
      rename_i hc
      rw [step_uni up k c.toNat ⟨hc.1, hc.2.1⟩ hc.2.2, charOfNat?_toNat]
    · cases h

theorem length_spell (quote : Char) (sp : Spelling) (c : Char) (a : Str) (h : spell quote sp c = some a) :
    1 ≤ a.length := by
  cases sp with
  | named =>
    obtain ⟨e, rfl, -⟩ := spell_named h
    simp
  | _ =>
    simp only [spell] at h
    split at h <;> cases h
    simp

theorem spellAll_go (quote : Char) : ∀ (sps : List Spelling) (s cs : Str), spellAll quote sps s = some cs →
    sps.length ≤ cs.length ∧ ∀ k acc, unescapeGo (sps.length + 1 + k) cs acc = some (acc.reverse ++ s)
  | [], [], cs, h => by
    simp only [spellAll] at h
    cases h
    refine ⟨by simp, fun k acc => ?_⟩
    rw [show [].length + 1 + k = k + 1 by simp; omega, unescapeGo]
    simp
  | [], _ :: _, cs, h => by simp [spellAll] at h
  | _ :: _, [], cs, h => by simp [spellAll] at h
  | sp :: sps, c :: s, cs, h => by
    simp only [spellAll] at h
    split at h
    · rename_i a b ha hb
      cases h
      have ih := spellAll_go quote sps s b hb
      have hl := length_spell quote sp c a ha
      refine ⟨by simp; omega, fun k acc => ?_⟩
      rw [show (sp :: sps).length + 1 + k = (sps.length + 1 + k) + 1 by simp; omega,
        step_spell quote sp c a ha, ih.2]
      simp
    · cases h

end PestModel.Reader
