import PestModel.Lemmas.PStateLimitK
/-!
C15: erasing the detailed-attempts component commutes with `run` — unconditionally, because the
only extra panic site of a detailed run (`splice(start_index..)` in `try_add_new_stack_rule`) is
never out of range (`tryAddRuleToStack_isSome`, from the monotonicity of the attempts bookkeeping).
-/
namespace PestModel.PS
open PestModel.LineCol PestModel.Stack

def emptyPa : PAttempts :=
  { enabled := false, callStacks := [], expected := [], unexpected := [], maxPos := 0 }

/-- `PState.eraseDetail` as an instance of `tw`. -/
abbrev era : PState → PState := tw id (fun _ => emptyPa)

theorem era_with_pa (s : PState) (pa : PAttempts) : era { s with pa := pa } = era s := rfl

/-- an erased state has detail off, so `handleToken` does nothing to it; on the other side it only
changes `pa`. -/
theorem handleToken_era (s : PState) (a : Nat) (t : PTok) (b : Bool) :
    handleToken (era s) a t b = era (handleToken s a t b) := by
  obtain ⟨pa', he, -⟩ := handleToken_eq s a t b
  rw [he]; rfl

/-- the `splice` is in range, and what it does is erased. -/
theorem ruleAdd_era {s1 x : PState} {r : Nat} (hm : PaMono (rulePre s1).pa x.pa) :
    ∃ y, ruleAdd s1 r x = some y ∧ era y = era x := by
  obtain ⟨y, hy⟩ := tryAddRuleToStack_isSome (s1 := rulePre s1) (r := r) hm
  obtain ⟨pa', rfl, -⟩ := tryAddRuleToStack_eq hy
  exact ⟨_, hy, rfl⟩

theorem ruleFinish_era {s1 x : PState} {r : Nat} (hm : PaMono (rulePre s1).pa x.pa) :
    ruleFinish (era s1) r (era x) = (ruleFinish s1 r x).mapState era := by
  have hl : ruleFinish (era s1) r (era x) = .ok (era x) := ruleFinish_no_panic rfl
  rw [hl]
  unfold ruleFinish
  split
  · obtain ⟨y, hy, e⟩ := ruleAdd_era (r := r) hm
    rw [hy, ← e]; rfl
  · rfl

theorem ruleErrAdd_era {s1 ns : PState} {r : Nat} (hm : PaMono (rulePre s1).pa ns.pa) :
    ruleErrAdd (era s1) r (era ns) = (ruleErrAdd s1 r ns).map era := by
  unfold ruleErrAdd
  have e : ruleTrack (era s1) r (era ns) = era (ruleTrack s1 r ns) :=
    ruleTrack_rew id (fun _ => emptyPa) id (fc' := id) (fp' := fun _ => emptyPa) (fs' := id) s1 r ns
  rw [e]
  show (if ns.lookahead ≠ .negative then
      (if (era (ruleTrack s1 r ns)).pa.enabled = true then _ else some (era (ruleTrack s1 r ns)))
      else some (era ns)) = _
  split
  · rw [if_neg (by simp [tw, emptyPa])]
    split
    · obtain ⟨y, hy, e⟩ := ruleAdd_era (x := ruleTrack s1 r ns) (r := r)
        (by rw [(ruleTrack_core s1 r ns).2.1]; exact hm)
      rw [hy, ← e]; rfl
    · rfl
  · rfl

theorem ruleK_era (r : Nat) (s1 : PState) (o : Out)
    (hm : ∀ ns, o.state? = some ns → PaMono (rulePre s1).pa ns.pa) :
    ruleK r (era s1) (o.mapState era) = (ruleK r s1 o).mapState era :=
  ruleK_rew id (fun _ => emptyPa) id (Q := PaMono (rulePre s1).pa) (fs' := id) s1 r (fun _ h => ruleFinish_era h)
    (fun _ h => ruleErrAdd_era h) o hm

abbrev EIH (cfg : Cfg) (fuel : Nat) : Prop :=
  ∀ p s, run cfg fuel p (era s) = (run cfg fuel p s).mapState era

section cases
variable (cfg : Cfg) (fuel : Nat) (ih : EIH cfg fuel)
include ih

theorem era_bracket0 (body : Prog) (pre : PState → PState) (K : PState → Out → Out)
    (ha : ∀ s1, pre (era s1) = era (pre s1))
    (hb : ∀ s1 o, (∀ ns, o.state? = some ns → PaMono (pre s1).pa ns.pa) →
      K (era s1) (o.mapState era) = (K s1 o).mapState era)
    (s1 : PState) :
    bracket0 cfg fuel body pre K (era s1) = (bracket0 cfg fuel body pre K s1).mapState era := by
  unfold bracket0
  rw [ha, ih]
  exact hb s1 _ (fun ns h => run_paMono cfg fuel body (pre s1) ns h)

theorem era_bracket (body : Prog) (pre : PState → PState) (K : PState → Out → Out)
    (ha : ∀ s1, pre (era s1) = era (pre s1))
    (hb : ∀ s1 o, (∀ ns, o.state? = some ns → PaMono (pre s1).pa ns.pa) →
      K (era s1) (o.mapState era) = (K s1 o).mapState era)
    (s : PState) :
    bracket cfg fuel body pre K (era s) = (bracket cfg fuel body pre K s).mapState era :=
  bracket_tw _ _ cfg fuel body pre K s rfl rfl fun s1 _ => era_bracket0 cfg fuel ih body pre K ha hb s1

theorem era_shape {X body : Prog} {inc : Bool} {pre : PState → PState} {K : PState → Out → Out}
    (hX : Shape X inc body pre K) (s : PState) :
    run cfg (fuel+1) X (era s) = (run cfg (fuel+1) X s).mapState era := by
  rw [hX.run, hX.run]
  cases inc
  · exact era_bracket0 cfg fuel ih body pre K (hX.pre_tw _ _) (fun s1 o _ => hX.K_tw _ _ s1 o) s
  · exact era_bracket cfg fuel ih body pre K (hX.pre_tw _ _) (fun s1 o _ => hX.K_tw _ _ s1 o) s

theorem era_call (i : Nat) (s : PState) :
    run cfg (fuel+1) (.call i) (era s) = (run cfg (fuel+1) (.call i) s).mapState era := by
  rw [run_call, run_call]
  cases cfg.env[i]? with
  | none => rfl
  | some p => exact ih p s

end cases

/-- **Erasure commutes with `run`.** -/
theorem run_era (cfg : Cfg) : ∀ (fuel : Nat) (p : Prog) (s : PState),
    run cfg fuel p (era s) = (run cfg fuel p s).mapState era
  | 0, p, s => by rw [run_zero, run_zero]; rfl
  | fuel + 1, p, s => by
    have ih : EIH cfg fuel := run_era cfg fuel
    cases p with
    | sequence _ | restoreOnErr _ | optional _ | repeat_ _ | lookahead _ _ | atomic _ _ | stackPush _ =>
      exact era_shape cfg fuel ih (by constructor) s
    | repLoop p =>
      rw [run_repLoop_K, run_repLoop_K, ih p s]; exact thenK_tw _ _ (ih _) (fun _ => rfl) _
    | rule r p =>
      rw [run_rule_K, run_rule_K]
      exact era_bracket cfg fuel ih p rulePre (ruleK r) (rulePre_rew id (fun _ => emptyPa) id) (ruleK_era r) s
    | andThen p q =>
      rw [run_andThen_K, run_andThen_K, ih p s]; exact thenK_tw _ _ (ih q) (fun _ => rfl) _
    | orElse p q =>
      rw [run_orElse_K, run_orElse_K, ih p s]; exact thenK_tw _ _ (fun _ => rfl) (ih q) _
    | call i => exact era_call cfg fuel ih i s
    | matchString _ | matchInsensitive _ | matchRange _ _ | matchCharBy _ | skip _ =>
      rw [run, run]; exact terminal_rew id (fun _ => emptyPa) id handleToken_era s _ _
    | stackPeek => exact stackPeek_tw _ _ handleToken_era cfg fuel s rfl
    | stackPop => exact stackPop_tw _ _ handleToken_era cfg fuel s rfl
    | _ => exact leaf_tw _ _ cfg fuel _ s trivial

/-- in the vocabulary of `PStateSpec` (`era s` unfolds to `s.eraseDetail`). -/
theorem run_eraseDetail (cfg : Cfg) (fuel : Nat) (p : Prog) (s : PState) :
    (run cfg fuel p s).mapState PState.eraseDetail = run cfg fuel p s.eraseDetail :=
  (run_era cfg fuel p s).symm

end PestModel.PS
