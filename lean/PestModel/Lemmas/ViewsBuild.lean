import PestModel.Lemmas.ViewsLayout
import PestModel.Lemmas.PStateInvQueue
/-! Helper lemmas for C04: `PairsBuilder::build` lays the forest out in the queue. -/
namespace PestModel.Views
open PestModel.PS (QTok)
open PestModel.LineCol (Str)

/-- `push_node` once the children are in the queue: the start token is patched with the index of the end token, which
is appended. -/
theorem pushNode_closed {q s : List QTok} {r a b : Nat} {tag : Option Str} {cs : List Tree}
    (hs : pushNodes (q ++ [.start 0 a]) cs = q ++ .start 0 a :: s) :
    pushNode q (.node r a b tag cs) =
      q ++ .start (q.length + 1 + s.length) a :: s ++ [.end_ q.length r tag b] := by
  rw [pushNode, hs, PS.setAt_append_cons]; simp; omega

mutual
  theorem pushNode_spec (q : List QTok) : (t : Tree) →
      (∃ s, pushNode q t = q ++ s) ∧ Layout (pushNode q t) q.length [t] (pushNode q t).length
    | .node r a b tag cs => by
      obtain ⟨⟨s, hs⟩, hl⟩ := pushNodes_spec (q ++ [.start 0 a]) cs
      rw [List.append_assoc, List.singleton_append] at hs
      have hlen : (q ++ QTok.start (q.length + 1 + s.length) a :: s ++ [QTok.end_ q.length r tag b]).length =
          q.length + 1 + s.length + 1 := by simp; omega
      have hlen' : (q ++ QTok.start 0 a :: s).length = q.length + 1 + s.length := by simp; omega
      rw [pushNode_closed hs, hlen]
      rw [hs, hlen', List.length_append, List.length_singleton] at hl
      refine ⟨⟨_, by rw [List.append_assoc]⟩, ?_⟩
      refine .cons (e := q.length + 1 + s.length) (by simp) (getElem?_last _ _ _ _) (hl.congr ?_) (.nil _)
      intro i h1 h2
      obtain ⟨k, rfl⟩ : ∃ k, i = q.length + 1 + k := ⟨i - (q.length + 1), by omega⟩
      have hk : k < s.length := by omega
      have := getElem?_mid q (QTok.start 0 a) s [] k hk
      rw [List.append_nil] at this
      rw [getElem?_mid _ _ _ _ _ hk, this]
  theorem pushNodes_spec (q : List QTok) : (ts : List Tree) →
      (∃ s, pushNodes q ts = q ++ s) ∧ Layout (pushNodes q ts) q.length ts (pushNodes q ts).length
    | [] => by
      rw [pushNodes]
      exact ⟨⟨[], by simp⟩, .nil _⟩
    | t :: ts => by
      obtain ⟨⟨s1, hs1⟩, hl1⟩ := pushNode_spec q t
      obtain ⟨⟨s2, hs2⟩, hl2⟩ := pushNodes_spec (pushNode q t) ts
      rw [pushNodes]
      refine ⟨⟨s1 ++ s2, by rw [hs2, hs1]; simp⟩, Layout.append (hl1.congr fun i _ hi => ?_) hl2⟩
      rw [hs2, List.getElem?_append_left hi]
end

theorem build_layout (forest : List Tree) : Layout (build forest) 0 forest (build forest).length :=
  (pushNodes_spec [] forest).2

end PestModel.Views
