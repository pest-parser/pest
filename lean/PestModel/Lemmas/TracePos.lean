import PestModel.Model.RefTrace
import PestModel.Lemmas.RefValid
import PestModel.Lemmas.TrackEv
/-!
C08 / C09: every rule call of the instrumented reference semantics is made at a UTF-8 boundary inside the input, so the
position of the specified failure report (`specReport`) is one too.
-/
namespace PestModel.RefTrace
open PestModel.G PestModel.Ref
open PestModel.LineCol (Str bLen cLen splitAt?)
open PestModel.PS (Atomicity CharSet restAt eqIgnoreAsciiCase normalizeIndex)

/-- the position is a UTF-8 boundary inside the input. -/
def B (c : Ctx) (p : Nat) : Prop := (restAt c.input p).isSome = true

mutual
  /-- every call of the tree was made at a boundary position of the input. -/
  def goodCall (c : Ctx) : Call → Prop
    | .node _ pos _ _ _ kids => B c pos ∧ goodCalls c kids
  def goodCalls (c : Ctx) : List Call → Prop
    | [] => True
    | x :: xs => goodCall c x ∧ goodCalls c xs
end

theorem goodCalls_append {c : Ctx} : ∀ {a b : List Call}, goodCalls c a → goodCalls c b → goodCalls c (a ++ b)
  | [], _, _, hb => hb
  | x :: xs, b, ha, hb => by
    simp only [List.cons_append, goodCalls] at ha ⊢
    exact ⟨ha.1, goodCalls_append ha.2 hb⟩

/-- the result of a step: a boundary position if it succeeds, and only calls made at boundary positions. -/
def Good (c : Ctx) (t : T) : Prop := (∀ s', t.1 = .ok s' → B c s'.pos) ∧ goodCalls c t.2

theorem good_nil_stuck (c : Ctx) : Good c (.stuck, []) := ⟨by simp, trivial⟩
theorem good_nil_fuel (c : Ctx) : Good c (.fuel, []) := ⟨by simp, trivial⟩
theorem good_ok {c : Ctx} {s : St} {cs : List Call} (h : B c s.pos) (hc : goodCalls c cs) : Good c (.ok s, cs) :=
  ⟨by intro s' hs; simp at hs; subst hs; exact h, hc⟩
theorem good_calls {c : Ctx} {r : R} {cs : List Call} (hr : ∀ s', r ≠ .ok s') (hc : goodCalls c cs) : Good c (r, cs) :=
  ⟨by intro s' hs; exact absurd hs (hr s'), hc⟩

/-- a leaf that is the reference's leaf with the forest forgotten. -/
theorem good_erase {c : Ctx} {x : Res} (h : ∀ s1 f, x = .ok s1 f → Valid c s1) :
    Good c (PestModel.Track.eraseR x, []) :=
  ⟨fun s' hs => by cases x <;> cases hs; exact h _ _ rfl, trivial⟩

structure IH (c : Ctx) (f : Nat) : Prop where
  den : ∀ m la e s, B c s.pos → Good c (denoteT c f m la e s)
  rep : ∀ m la e s acc, B c s.pos → goodCalls c acc → Good c (repLoopT c f m la e s acc)
  skp : ∀ m la s, B c s.pos → Good c (skipT c f m la s)
  star : ∀ la n s acc, B c s.pos → goodCalls c acc → Good c (starT c f la n s acc)
  cmt : ∀ la s acc, B c s.pos → goodCalls c acc → Good c (commentLoopT c f la s acc)
  call : ∀ m la n s, B c s.pos → Good c (callT c f m la n s)

theorem ih_zero (c : Ctx) : IH c 0 where
  den := by intros; simp only [denoteT]; exact good_nil_fuel c
  rep := by intro m la e s acc _ ha; simp only [repLoopT]; exact good_calls (by simp) ha
  skp := by intros; simp only [skipT]; exact good_nil_fuel c
  star := by intro la n s acc _ ha; simp only [starT]; exact good_calls (by simp) ha
  cmt := by intro la s acc _ ha; simp only [commentLoopT]; exact good_calls (by simp) ha
  call := by intros; simp only [callT]; exact good_nil_fuel c

/-- a result whose state component is not `ok` only needs good calls. -/
theorem good_of_cases {c : Ctx} (r : R) (cs : List Call) (hok : ∀ s', r = .ok s' → B c s'.pos) (hc : goodCalls c cs) :
    Good c (r, cs) := ⟨hok, hc⟩

/-- the shape in which a sub-result is used: its two components, named. -/
theorem Good.cases {c : Ctx} {t : T} (g : Good c t) :
    ∃ r cs, t = (r, cs) ∧ (∀ s', r = .ok s' → B c s'.pos) ∧ goodCalls c cs :=
  ⟨t.1, t.2, rfl, g⟩

theorem star_succ {c : Ctx} {f : Nat} (ih : IH c f) (la : LA) (n : String) (s : St) (acc : List Call) (hs : B c s.pos)
    (ha : goodCalls c acc) : Good c (starT c (f + 1) la n s acc) := by
  simp only [starT]
  obtain ⟨r, c1, e, g1, h1⟩ := (ih.call .nonAtomic la n s hs).cases
  rw [e]
  cases r with
  | ok s1 => exact ih.star la n s1 _ (g1 s1 rfl) (goodCalls_append ha h1)
  | fail => exact good_ok hs (goodCalls_append ha h1)
  | stuck | fuel => exact good_calls (by simp) (goodCalls_append ha h1)

theorem cmt_succ {c : Ctx} {f : Nat} (ih : IH c f) (la : LA) (s : St) (acc : List Call) (hs : B c s.pos)
    (ha : goodCalls c acc) : Good c (commentLoopT c (f + 1) la s acc) := by
  simp only [commentLoopT]
  obtain ⟨r, c1, e, g1, h1⟩ := (ih.call .nonAtomic la "COMMENT" s hs).cases
  rw [e]
  cases r with
  | ok s1 =>
    obtain ⟨r2, c2, e2, g2, h2⟩ := (ih.star la "WHITESPACE" s1 [] (g1 s1 rfl) trivial).cases
    simp only [e2]
    cases r2 with
    | ok s2 => exact ih.cmt la s2 _ (g2 s2 rfl) (goodCalls_append (goodCalls_append ha h1) h2)
    | fail | stuck | fuel => exact good_calls (by simp) (goodCalls_append (goodCalls_append ha h1) h2)
  | fail => exact good_ok hs (goodCalls_append ha h1)
  | stuck | fuel => exact good_calls (by simp) (goodCalls_append ha h1)

theorem skp_succ {c : Ctx} {f : Nat} (ih : IH c f) (m : Atomicity) (la : LA) (s : St) (hs : B c s.pos) :
    Good c (skipT c (f + 1) m la s) := by
  simp only [skipT]
  split
  · exact good_ok hs trivial
  · split
    · exact good_ok hs trivial
    · exact ih.star la "WHITESPACE" s [] hs trivial
    · exact ih.star la "COMMENT" s [] hs trivial
    · obtain ⟨r, c1, e, g1, h1⟩ := (ih.star la "WHITESPACE" s [] hs trivial).cases
      rw [e]
      cases r with
      | ok s1 => exact ih.cmt la s1 c1 (g1 s1 rfl) h1
      | fail | stuck | fuel => exact ⟨g1, h1⟩

theorem rep_succ {c : Ctx} {f : Nat} (ih : IH c f) (m : Atomicity) (la : LA) (e : Expr) (s : St) (acc : List Call)
    (hs : B c s.pos) (ha : goodCalls c acc) : Good c (repLoopT c (f + 1) m la e s acc) := by
  simp only [repLoopT]
  obtain ⟨r, c1, e1, g1, h1⟩ := (ih.skp m la s hs).cases
  rw [e1]
  cases r with
  | ok s1 =>
    obtain ⟨r2, c2, e2, g2, h2⟩ := (ih.den m la e s1 (g1 s1 rfl)).cases
    simp only [e2]
    cases r2 with
    | ok s2 => exact ih.rep m la e s2 _ (g2 s2 rfl) (goodCalls_append (goodCalls_append ha h1) h2)
    | fail => exact good_ok hs (goodCalls_append (goodCalls_append ha h1) h2)
    | stuck | fuel => exact good_calls (by simp) (goodCalls_append (goodCalls_append ha h1) h2)
  | fail => exact good_ok hs (goodCalls_append ha h1)
  | stuck | fuel => exact good_calls (by simp) (goodCalls_append ha h1)

theorem call_succ {c : Ctx} {f : Nat} (ih : IH c f) (m : Atomicity) (la : LA) (n : String) (s : St) (hs : B c s.pos) :
    Good c (callT c (f + 1) m la n s) := by
  cases hr : c.rule? n with
  | some p =>
    obtain ⟨id, r⟩ := p
    obtain ⟨res, kids, e, g1, h1⟩ := (ih.den (bodyMode r.name r.ty m) la r.expr s hs).cases
    rw [callT, hr]
    simp only [e]
    split
    · exact ⟨g1, h1⟩
    · exact ⟨g1, ⟨hs, h1⟩, trivial⟩
  | none =>
    by_cases hn : n = "EOI"
    · subst hn
      rw [callT, hr]
      refine ⟨fun s' h' => ?_, ⟨hs, trivial⟩, trivial⟩
      replace h' : (if s.pos = bLen c.input then R.ok s else R.fail) = R.ok s' := h'
      split at h'
      · cases h'; exact hs
      · cases h'
    · -- the other built-ins make no calls: the reference's step with the forest forgotten
      rw [PestModel.Track.callT_builtin hr, PestModel.Track.builtin_erase c m la false n s hr hn]
      refine good_erase fun s1 t h => inv_valid c (.ca m false n s) s1 t hs ?_
      show valCa c m false n s = _
      rw [valCa_unfold, hr]; exact h

theorem den_succ {c : Ctx} {f : Nat} (ih : IH c f) (m : Atomicity) (la : LA) (e : Expr) (s : St) (hs : B c s.pos) :
    Good c (denoteT c (f + 1) m la e s) := by
  cases e with
  | str _ | insens _ | range _ _ | peekSlice _ _ | skip _ | pushLiteral _ =>
    -- without sub-expressions: the reference's step with the forest forgotten
    rw [PestModel.Track.leaf_erase c m la false _ s f rfl]
    exact good_erase fun s1 t h => inv_valid c (.d m false _ s) s1 t hs h
  | ident n => simp only [denoteT]; exact ih.call m la n s hs
  | posPred e =>
    simp only [denoteT]
    obtain ⟨r, cs, e1, g1, h1⟩ := (ih.den m la.enterPos e s hs).cases
    rw [e1]
    cases r with
    | ok s1 => exact good_ok hs h1
    | fail | stuck | fuel => exact ⟨g1, h1⟩
  | negPred e =>
    simp only [denoteT]
    obtain ⟨r, cs, e1, g1, h1⟩ := (ih.den m la.enterNeg e s hs).cases
    rw [e1]
    cases r with
    | ok s1 => exact good_calls (by simp) h1
    | fail => exact good_ok hs h1
    | stuck | fuel => exact ⟨g1, h1⟩
  | seq a b =>
    simp only [denoteT]
    obtain ⟨r1, c1, e1, g1, h1⟩ := (ih.den m la a s hs).cases
    rw [e1]
    cases r1 with
    | ok s1 =>
      obtain ⟨r2, c2, e2, g2, h2⟩ := (ih.skp m la s1 (g1 s1 rfl)).cases
      simp only [e2]
      cases r2 with
      | ok s2 =>
        obtain ⟨r3, c3, e3, g3, h3⟩ := (ih.den m la b s2 (g2 s2 rfl)).cases
        simp only [e3]
        exact ⟨g3, goodCalls_append (goodCalls_append h1 h2) h3⟩
      | fail | stuck | fuel => exact good_calls (by simp) (goodCalls_append h1 h2)
    | fail | stuck | fuel => exact ⟨g1, h1⟩
  | choice a b =>
    simp only [denoteT]
    obtain ⟨r1, c1, e1, g1, h1⟩ := (ih.den m la a s hs).cases
    rw [e1]
    cases r1 with
    | fail =>
      obtain ⟨r2, c2, e2, g2, h2⟩ := (ih.den m la b s hs).cases
      simp only [e2]
      exact ⟨g2, goodCalls_append h1 h2⟩
    | ok _ | stuck | fuel => exact ⟨g1, h1⟩
  | opt e =>
    simp only [denoteT]
    obtain ⟨r1, c1, e1, g1, h1⟩ := (ih.den m la e s hs).cases
    rw [e1]
    cases r1 with
    | fail => exact good_ok hs h1
    | ok _ | stuck | fuel => exact ⟨g1, h1⟩
  | rep e =>
    simp only [denoteT]
    obtain ⟨r1, c1, e1, g1, h1⟩ := (ih.den m la e s hs).cases
    rw [e1]
    cases r1 with
    | ok s1 => exact ih.rep m la e s1 c1 (g1 s1 rfl) h1
    | fail => exact good_ok hs h1
    | stuck | fuel => exact ⟨g1, h1⟩
  | repOnce e =>
    simp only [denoteT]
    split
    · obtain ⟨r1, c1, e1, g1, h1⟩ := (ih.den m la e s hs).cases
      rw [e1]
      cases r1 with
      | ok s1 => exact ih.rep m la e s1 c1 (g1 s1 rfl) h1
      | fail | stuck | fuel => exact ⟨g1, h1⟩
    · exact ih.den m la _ s hs
  | push e =>
    simp only [denoteT]
    obtain ⟨r1, c1, e1, g1, h1⟩ := (ih.den m la e s hs).cases
    rw [e1]
    cases r1 with
    | ok s1 =>
      simp only []
      split
      · exact good_ok (g1 s1 rfl) h1
      · exact good_calls (by simp) h1
    | fail | stuck | fuel => exact ⟨g1, h1⟩
  | nodeTag e t => simp only [denoteT]; exact ih.den m la e s hs
  | repExact e _ | repMin e _ | repMax e _ | repMinMax e _ _ =>
    simp only [denoteT]
    split
    · exact ih.den m la _ s hs
    · exact good_nil_stuck c

theorem ih_all (c : Ctx) : ∀ f, IH c f
  | 0 => ih_zero c
  | f + 1 =>
    have ih := ih_all c f
    ⟨den_succ ih, rep_succ ih, skp_succ ih, star_succ ih, cmt_succ ih, call_succ ih⟩

theorem B_zero (c : Ctx) : B c 0 := by
  simp [B, restAt, splitAt?]

theorem B_max {c : Ctx} {a b : Nat} (ha : B c a) (hb : B c b) : B c (max a b) := by
  rcases Nat.le_total a b with h | h
  · rw [Nat.max_eq_right h]; exact hb
  · rw [Nat.max_eq_left h]; exact ha

mutual
  theorem furthest_B {c : Ctx} : ∀ (x : Call), goodCall c x → B c (furthest x)
    | .node r pos matched neg rep kids, h => by
      simp only [furthest]
      refine B_max ?_ (furthestList_B kids h.2)
      split
      · exact h.1
      · exact B_zero c
  theorem furthestList_B {c : Ctx} : ∀ (xs : List Call), goodCalls c xs → B c (furthestList xs)
    | [], _ => by simp only [furthestList]; exact B_zero c
    | x :: xs, h => by
      simp only [furthestList]
      exact B_max (furthest_B x h.1) (furthestList_B xs h.2)
end

/-- **every position of the trace is a UTF-8 boundary inside the input**, hence so is the position of the failure report the
property specifies (`specReport`). -/
theorem specReport_pos_boundary (rules : List Rule) (extras : Bool) (uni : String → Option CharSet) (fuel : Nat)
    (rule : String) (input : Str) :
    PestModel.LineCol.isBoundary input (specReport (traceMeaning rules extras uni fuel rule input).2).1 = true := by
  have g := (ih_all { rules, input, extras, uni } fuel).call .nonAtomic .none rule ⟨0, []⟩ (B_zero _)
  have hb := furthestList_B _ g.2
  unfold specReport
  simp only []
  unfold B at hb
  obtain ⟨rest, hr⟩ := Option.isSome_iff_exists.1 hb
  exact PestModel.PS.restAt_isBoundary hr
end PestModel.RefTrace
