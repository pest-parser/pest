import PestModel.Lemmas.ViewsRender
import PestModel.Lemmas.ViewsFlat
import PestModel.Lemmas.LineColBasic
/-! Helper lemmas for C04: the JSON renderer agrees with the tree-side function. -/
namespace PestModel.Views
open PestModel.PS (QTok)
open PestModel.LineCol (Str slice? isBoundary spanNew spanNew_iff)

variable {q : List QTok}

/-- every node's span can be sliced out of the input -/
def allStr (input : Str) (ts : List Tree) : Bool :=
  (preorderList ts).all fun t => (strOf input t).isSome

theorem allStr_cons (input : Str) (r p0 p1 : Nat) (tag : Option Str) (kids rest : List Tree) :
    allStr input (.node r p0 p1 tag kids :: rest) =
      ((slice? input p0 p1).isSome && allStr input kids && allStr input rest) := by
  simp [allStr, strOf, Tree.start, Tree.stop, Bool.and_assoc]

theorem jsonPairs_of_list {input : Str} {a b : Nat} {ts : List Tree} (h : Layout q a ts b) (f lvl : Nat)
    (hl : jsonPairList q input f (lvl + 2) (starts a ts) = jsonOfList input (lvl + 2) ts) :
    jsonPairs q input (f + 1) lvl a b = jsonOfForest input lvl ts := by
  rw [jsonPairs]
  simp only [jsonOfForest, pairsList_of_layout' h]
  cases ts with
  | nil =>
    have := h.nil_eq
    subst this
    simp only [Nat.lt_irrefl, if_false, hl, List.head?_nil]
    cases jsonOfList input (lvl + 2) [] <;> rfl
  | cons t ts =>
    obtain ⟨hlt, h1, h2⟩ := h.ends
    simp only [hlt, if_true, h1, h2, hl, List.head?_cons, List.getLast?_eq_some_getLast (List.cons_ne_nil t ts)]
    cases jsonOfList input (lvl + 2) (t :: ts) <;> rfl

theorem jsonPairs_of_list_none {input : Str} {a b : Nat} {ts : List Tree} (h : Layout q a ts b) (f lvl : Nat)
    (hl : jsonPairList q input f (lvl + 2) (starts a ts) = none) :
    jsonPairs q input (f + 1) lvl a b = none := by
  rw [jsonPairs]
  simp only [pairsList_of_layout' h]
  split
  · rename_i hk; cases hk; rw [hl]
  · rfl

/-- The exact value of the JSON renderer: `jsonPair` slices the span of *every* node (the Rust serializer
calls `as_str()` on every pair) whereas `jsonOfTree` slices only the leaves, so the renderer returns the
tree's JSON when all spans can be sliced and panics otherwise. -/
theorem jsonList_exact {input : Str} {a b : Nat} {ts : List Tree} (h : Layout q a ts b) :
    ∀ fuel lvl, 2 * (b - a) + 1 ≤ fuel →
    jsonPairList q input fuel lvl (starts a ts) = if allStr input ts then jsonOfList input lvl ts else none := by
  induction h with
  | nil a =>
    intro fuel lvl hf
    obtain ⟨f, rfl⟩ : ∃ f, fuel = f + 1 := ⟨fuel - 1, by omega⟩
    simp [starts, jsonPairList, jsonOfList, allStr]
  | cons h1 h2 hk hr ihk ihr =>
    rename_i a e b r p0 p1 tag kids rest
    intro fuel lvl hf
    have := hk.le; have := hr.le
    obtain ⟨f, rfl⟩ : ∃ f, fuel = f + 3 := ⟨fuel - 3, by omega⟩
    have hobs : PairObs q a (.node r p0 p1 tag kids) := pairObs_of h1 h2 hk
    have hp : jsonPair q input (f + 2) lvl a =
        if (slice? input p0 p1).isSome && allStr input kids then jsonOfTree input lvl (.node r p0 p1 tag kids)
        else none := by
      rw [jsonPair]
      simp only [hobs.1, hobs.2.1, pairEnd_of h1, pairStr_of_obs hobs, strOf, Tree.rule, Tree.start, Tree.stop]
      cases hstr : slice? input p0 p1 with
      | none => rfl
      | some str =>
        cases kids with
        | nil =>
          have : ¬ a + 1 < e := by have := hk.nil_eq; omega
          simp only [this, if_false, jsonOfTree, hstr, allStr]
          rfl
        | cons k ks =>
          have : a + 1 < e := hk.lt_of_ne_nil (by simp)
          have ih := ihk f (lvl + 1 + 2) (by omega)
          simp only [this, if_true, Option.isSome_some, Bool.true_and]
          cases hc : allStr input (k :: ks) <;> simp only [hc, if_true, if_false, Bool.false_eq_true] at ih ⊢
          · rw [jsonPairs_of_list_none hk f (lvl + 1) ih]
          · rw [jsonPairs_of_list hk f (lvl + 1) ih]
            simp only [jsonOfTree]
            cases jsonOfForest input (lvl + 1) (k :: ks) <;> rfl
    rw [starts_cons_of hk, jsonPairList, ihr (f + 2) lvl (by omega), hp, allStr_cons]
    simp only [jsonOfList]
    generalize jsonOfTree input lvl _ = x
    generalize ((slice? input p0 p1).isSome && allStr input kids) = c
    cases c
    · rfl
    · cases allStr input rest
      · cases x <;> rfl
      · rfl

theorem json_exact {input : Str} {v : Pairs} {trees : List Tree} (h : PairsRep q v trees) :
    v.json q input = if allStr input trees then jsonOfForest input 0 trees else none := by
  have hl := encodes_iff.1 h.1
  have hsz := hl.size_le_length
  have hlist := jsonList_exact (input := input) hl (4 * q.length + 7) 2 (by omega)
  cases hc : allStr input trees <;> simp only [hc, if_true, if_false, Bool.false_eq_true] at hlist ⊢
  · exact jsonPairs_of_list_none hl _ 0 hlist
  · exact jsonPairs_of_list hl _ 0 hlist

mutual
  theorem sliceable_of_nestedTree (input : Str) (lo hi : Nat) : (t : Tree) →
      nestedTree input lo hi t = true → ∀ u ∈ t.preorder, (strOf input u).isSome
    | .node r a b tag ks => by
      intro h u hu
      obtain ⟨_, h2, _, h4, h5, h6⟩ := nestedTree_node.1 h
      simp only [Tree.preorder_node, List.mem_cons] at hu
      rcases hu with rfl | hu
      · have := (spanNew_iff input a b).2 ⟨h2, h4, h5⟩
        simpa [strOf, Tree.start, Tree.stop, spanNew] using this
      · exact sliceable_of_nestedForest input a b ks h6 u hu
  theorem sliceable_of_nestedForest (input : Str) (lo hi : Nat) : (ts : List Tree) →
      nestedForest input lo hi ts = true → ∀ u ∈ preorderList ts, (strOf input u).isSome
    | [] => by intro _ u hu; simp at hu
    | t :: ts => by
      intro h u hu
      have h := nestedForest_cons.1 h
      simp only [preorderList_cons, List.mem_append] at hu
      rcases hu with hu | hu
      · exact sliceable_of_nestedTree input lo hi t h.1 u hu
      · exact sliceable_of_nestedForest input t.stop hi ts h.2 u hu
end

end PestModel.Views
