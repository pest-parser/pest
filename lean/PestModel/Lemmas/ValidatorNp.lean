import PestModel.Lemmas.ValidatorProg
/-! C06: what `isNonProgressing … = false` means once its fuel and trace
cut-offs are taken into account: the expression is `Prog`, or one of the rules of the trace is
reachable from it along the rule references the left-recursion check visits. -/
namespace PestModel.V
open PestModel.G
open PestModel.LineCol (Str)

theorem Expr.size_pos (e : Expr) : 0 < e.size := by
  cases e <;> simp only [Expr.size] <;> omega

/-- total weight of the keys that are not in `T`. -/
def budget {κ : Type} [DecidableEq κ] : List (κ × Nat) → List κ → Nat
  | [], _ => 0
  | (k, w) :: xs, T => (if k ∈ T then 0 else w) + budget xs T

theorem budget_mono {κ : Type} [DecidableEq κ] (L : List (κ × Nat)) {T T' : List κ} (h : ∀ x ∈ T, x ∈ T') :
    budget L T' ≤ budget L T := by
  induction L with
  | nil => simp [budget]
  | cons x xs ih =>
    obtain ⟨k, w⟩ := x
    simp only [budget]
    by_cases h1 : k ∈ T
    · simp [h1, h _ h1, ih]
    · by_cases h2 : k ∈ T' <;> simp [h1, h2] <;> omega

/-- putting a key on the list frees its weight. -/
theorem budget_step {κ : Type} [DecidableEq κ] {L : List (κ × Nat)} {T : List κ} {k : κ} {w : Nat}
    (hm : (k, w) ∈ L) (hk : k ∉ T) : w + budget L (T ++ [k]) ≤ budget L T := by
  induction L with
  | nil => simp at hm
  | cons x xs ih =>
    obtain ⟨k', w'⟩ := x
    simp only [budget]
    have hmono : budget xs (T ++ [k]) ≤ budget xs T := budget_mono xs (fun x hx => List.mem_append_left _ hx)
    rcases List.mem_cons.1 hm with heq | hm'
    · cases heq
      simp [hk]; omega
    · have := ih hm'
      by_cases h1 : k' ∈ T
      · simp [h1]; omega
      · by_cases h2 : k' = k
        · subst h2; simp [h1]; omega
        · simp [h1, h2]; omega

/-- size budget of the rules that are not being inlined. -/
def rem (rules : List Rule) (T : List String) : Nat := budget (rules.map fun r => (r.name, r.expr.size + 1)) T

theorem rem_mono (rules : List Rule) {T T' : List String} (h : ∀ x ∈ T, x ∈ T') : rem rules T' ≤ rem rules T :=
  budget_mono _ h

theorem rem_step {rules : List Rule} {T : List String} {n : String} {body : Expr}
    (hl : lookup rules n = some body) (hn : n ∉ T) : body.size + 1 + rem rules (T ++ [n]) ≤ rem rules T := by
  obtain ⟨r, hr, rfl, rfl⟩ := lookup_some_mem hl
  exact budget_step (List.mem_map.2 ⟨r, hr, rfl⟩) hn

theorem foldl_size (rules : List Rule) (a : Nat) :
    rules.foldl (fun n r => n + r.expr.size + 1) a = a + rem rules [] := by
  induction rules generalizing a with
  | nil => simp [rem, budget]
  | cons r rs ih =>
    simp only [List.foldl_cons, rem, List.map_cons, budget] at ih ⊢
    rw [ih]
    simp; omega

theorem rem_lt_rulesSize (rules : List Rule) (T : List String) : rem rules T < rulesSize rules := by
  have h1 : rem rules T ≤ rem rules [] := rem_mono rules (by simp)
  have h2 := foldl_size rules 1
  unfold rulesSize
  omega

theorem fuelFor_ok (rules : List Rule) (e : Expr) (T : List String) : e.size + rem rules T ≤ fuelFor rules e := by
  have := rem_lt_rulesSize rules T
  unfold fuelFor; omega

theorem np_mono (rules : List Rule) : ∀ (F' : Nat) (e : Expr) (T' : List String) (F : Nat) (T : List String),
    isNonProgressing rules F' e T' = true → (∀ x ∈ T, x ∈ T') → e.size + rem rules T ≤ F →
    isNonProgressing rules F e T = true := by
  intro F'
  induction F' with
  | zero => intro e T' F T h; simp [isNonProgressing] at h
  | succ F' ih =>
    intro e T' F T h hT hF
    have hpos := Expr.size_pos e
    obtain ⟨G, rfl⟩ : ∃ G, F = G + 1 := ⟨F - 1, by omega⟩
    cases e with
    | ident id =>
      simp only [isNonProgressing] at h ⊢
      by_cases hs : id = "SOI" ∨ id = "EOI"
      · simp [hs]
      · simp only [hs, if_false] at h ⊢
        by_cases hc : id ∈ T'
        · simp [hc] at h
        · have hc' : id ∉ T := fun hx => hc (hT _ hx)
          simp only [List.contains_eq_mem, hc, hc', decide_false, Bool.not_false, if_true] at h ⊢
          cases hl : lookup rules id with
          | none => simp [hl] at h
          | some body =>
            simp only [hl] at h ⊢
            have := rem_step hl hc'
            simp only [Expr.size] at hF
            refine ih body _ G _ h ?_ (by omega)
            intro x hx
            rw [List.mem_append] at hx ⊢
            exact hx.imp_left (hT x)
    | seq a b =>
      simp only [isNonProgressing, Bool.and_eq_true] at h ⊢
      simp only [Expr.size] at hF
      exact ⟨ih a _ G _ h.1 hT (by omega), ih b _ G _ h.2 hT (by omega)⟩
    | choice a b =>
      simp only [isNonProgressing, Bool.or_eq_true] at h ⊢
      simp only [Expr.size] at hF
      exact h.imp (fun h => ih a _ G _ h hT (by omega)) (fun h => ih b _ G _ h hT (by omega))
    | repExact x n | repMin x n | repMinMax x n k =>
      simp only [isNonProgressing, Bool.or_eq_true] at h ⊢
      simp only [Expr.size] at hF
      exact h.imp_right (fun h => ih x _ G _ h hT (by omega))
    | push x | repOnce x | nodeTag x t =>
      simp only [isNonProgressing] at h ⊢
      simp only [Expr.size] at hF
      exact ih x _ G _ h hT (by omega)
    | _ => simp only [isNonProgressing] at h ⊢ <;> exact h

/-- the decision `check_expr` takes at `lhs ~ rhs` inside the body of rule `cur`. -/
def cross (rules : List Rule) (cur : String) (a : Expr) : Bool :=
  isNonFailing rules (fuelFor rules a) a [cur] || isNonProgressing rules (fuelFor rules a) a [cur]

/-- a node of the left-recursion graph: a rule and whether implicit skips run inside it. -/
abbrev Key := String × Bool

/-- the pair entered for `n` from a place where skipping is `sk`. -/
abbrev key (rules : List Rule) (sk : Bool) (n : String) : Key := (n, skipsInside rules n sk)

/-- the implicit rules the grammar defines. -/
def wsNames (rules : List Rule) : List String :=
  (if (lookup rules "WHITESPACE").isSome then ["WHITESPACE"] else []) ++
  (if (lookup rules "COMMENT").isSome then ["COMMENT"] else [])

/-- the names `check_expr` enters in `e` (inside the body of rule `cur`, skipping `sk`), without
entering rules: the identifiers it looks at, plus the implicit calls. With `sk = false` these are the
rule references alone. -/
def lmS (extras : Bool) (rules : List Rule) (cur : String) (sk : Bool) : Expr → List String
  | .ident n => [n]
  | .seq a b =>
    if cross rules cur a then
      lmS extras rules cur sk a ++ ((if sk then wsNames rules else []) ++ lmS extras rules cur sk b)
    else lmS extras rules cur sk a
  | .choice a b => lmS extras rules cur sk a ++ lmS extras rules cur sk b
  | .rep e | .repOnce e | .opt e | .posPred e | .negPred e | .push e => lmS extras rules cur sk e
  | .repMin e _ => lmS extras rules cur sk e
  | .repExact e n =>
    lmS extras rules cur sk e ++ (if decide (2 ≤ n) && cross rules cur e && sk then wsNames rules else [])
  | .repMax e n => lmS extras rules cur sk e ++ (if decide (2 ≤ n) && sk then wsNames rules else [])
  | .repMinMax e lo hi =>
    lmS extras rules cur sk e ++
      (if decide (2 ≤ hi) && (lo == 0 || cross rules cur e) && sk then wsNames rules else [])
  | .nodeTag e _ => if extras then lmS extras rules cur sk e else []
  | _ => []

section lmS
variable {extras : Bool} {rules : List Rule} {cur : String} {sk : Bool} {n : String}

theorem mem_lmS_seq {a b : Expr} : n ∈ lmS extras rules cur sk (.seq a b) ↔
    n ∈ lmS extras rules cur sk a ∨
      (cross rules cur a = true ∧ ((sk = true ∧ n ∈ wsNames rules) ∨ n ∈ lmS extras rules cur sk b)) := by
  show n ∈ (if cross rules cur a = true then _ else _) ↔ _
  cases cross rules cur a <;> cases sk <;> simp

theorem mem_lmS_choice {a b : Expr} : n ∈ lmS extras rules cur sk (.choice a b) ↔
    n ∈ lmS extras rules cur sk a ∨ n ∈ lmS extras rules cur sk b :=
  List.mem_append

theorem mem_lmS_repMinMax {e : Expr} {lo hi : Nat} : n ∈ lmS extras rules cur sk (.repMinMax e lo hi) ↔
    n ∈ lmS extras rules cur sk e ∨
      (2 ≤ hi ∧ (lo = 0 ∨ cross rules cur e = true) ∧ sk = true ∧ n ∈ wsNames rules) := by
  show n ∈ _ ++ (if _ then _ else _) ↔ _
  rw [List.mem_append]
  split <;> simp_all

/-- for the check, `e{n}` is `e{n,n}` … -/
theorem lmS_repExact (e : Expr) (k : Nat) :
    lmS extras rules cur sk (.repExact e k) = lmS extras rules cur sk (.repMinMax e k k) := by
  show _ ++ (if decide (2 ≤ k) && _ && sk then _ else _) = _ ++ (if decide (2 ≤ k) && (k == 0 || _) && sk then _ else _)
  by_cases h : 2 ≤ k
  · rw [show (k == 0) = false from beq_eq_false_iff_ne.2 (by omega), Bool.false_or]
  · rw [decide_eq_false h]; rfl

/-- … and `e{,n}` is `e{0,n}`. -/
theorem lmS_repMax (e : Expr) (k : Nat) :
    lmS extras rules cur sk (.repMax e k) = lmS extras rules cur sk (.repMinMax e 0 k) := by
  show _ ++ (if decide (2 ≤ k) && sk then _ else _) = _ ++ (if decide (2 ≤ k) && true && sk then _ else _)
  rw [Bool.and_true]

theorem mem_lmS_nodeTag {e : Expr} {t : Str} : n ∈ lmS extras rules cur sk (.nodeTag e t) ↔
    extras = true ∧ n ∈ lmS extras rules cur sk e := by
  show n ∈ (if extras = true then _ else _) ↔ _
  cases extras <;> simp

/-- switching skipping on only adds the implicit calls. -/
theorem lmS_mono : ∀ e : Expr, n ∈ lmS extras rules cur false e → n ∈ lmS extras rules cur sk e := by
  intro e
  induction e with
  | seq a b iha ihb =>
    rw [mem_lmS_seq, mem_lmS_seq]
    rintro (h | ⟨hx, h | h⟩)
    · exact Or.inl (iha h)
    · exact absurd h.1 (by simp)
    · exact Or.inr ⟨hx, Or.inr (ihb h)⟩
  | choice a b iha ihb =>
    rw [mem_lmS_choice, mem_lmS_choice]
    exact Or.imp iha ihb
  | repExact a k ih | repMax a k ih | repMinMax a lo hi ih =>
    simp only [lmS_repExact, lmS_repMax, mem_lmS_repMinMax]
    rintro (h | h)
    · exact Or.inl (ih h)
    · exact absurd h.2.2.1 (by simp)
  | nodeTag a t ih =>
    rw [mem_lmS_nodeTag, mem_lmS_nodeTag]
    exact And.imp_right ih
  | rep a ih | repOnce a ih | opt a ih | posPred a ih | negPred a ih | push a ih | repMin a k ih =>
    exact ih
  | _ => exact id

end lmS

/-- `n` is entered from the body of rule `a` when skipping inside `a` is `sk`. -/
def ES (extras : Bool) (rules : List Rule) (a : String) (sk : Bool) (n : String) : Prop :=
  ∃ body, lookup rules a = some body ∧ n ∈ lmS extras rules a sk body

/-- edge of the name graph: `b` is looked at in the body of rule `a`. -/
def E (extras : Bool) (rules : List Rule) (a b : String) : Prop := ES extras rules a false b

/-- no `nodeTag` anywhere. -/
def NoTag : Expr → Bool
  | .nodeTag _ _ => false
  | .posPred e | .negPred e | .opt e | .rep e | .repOnce e | .push e => NoTag e
  | .repExact e _ | .repMin e _ | .repMax e _ | .repMinMax e _ _ => NoTag e
  | .seq a b | .choice a b => NoTag a && NoTag b
  | _ => true

/-- tags only occur with `grammar-extras`. -/
def TagOK (extras : Bool) (e : Expr) : Bool := extras || NoTag e

theorem tagOK_bin {extras : Bool} {a b : Expr} (h : (extras || (NoTag a && NoTag b)) = true) :
    TagOK extras a = true ∧ TagOK extras b = true := by
  unfold TagOK
  cases extras <;> simp_all

/-- the meaning of a negative answer of `isNonProgressing`, in a grammar whose name graph has no
cycle: `e` consumes, or a rule reference that the left-recursion check visits in `e` leads (through
bodies of rules, along visited references) to a rule of the trace. -/
theorem np_false_cases (extras : Bool) (rules : List Rule) (hsf : ∀ r ∈ rules, SF r.expr = true)
    (htag : ∀ r ∈ rules, TagOK extras r.expr = true)
    (hnc : ∀ id, ¬ Relation.TransGen (fun y x => E extras rules x y) id id) :
    ∀ (F : Nat) (e : Expr) (T : List String) (cur : String), SF e = true → TagOK extras e = true →
      (T ≠ [] → T.getLast? = some cur) → e.size + rem rules T ≤ F → isNonProgressing rules F e T = false →
      Prog rules e ∨ ∃ id ∈ T, ∃ n ∈ lmS extras rules cur false e,
        n = id ∨ Relation.TransGen (fun y x => E extras rules x y) id n := by
  intro F
  induction F with
  | zero => intro e T cur _ _ _ hF; have := Expr.size_pos e; omega
  | succ F ih =>
    intro e T cur hs ht hcur hF h
    -- a unary node whose answer is that of its body
    have un : ∀ {x : Expr}, x.size + 1 = e.size → SF x = true → TagOK extras x = true →
        isNonProgressing rules F x T = false → (Prog rules x → Prog rules e) →
        (∀ n, n ∈ lmS extras rules cur false x → n ∈ lmS extras rules cur false e) →
        Prog rules e ∨ ∃ id ∈ T, ∃ n ∈ lmS extras rules cur false e,
          n = id ∨ Relation.TransGen (fun y x => E extras rules x y) id n := by
      intro x hsz hsx htx hx hp hsub
      rcases ih x T cur hsx htx hcur (by omega) hx with h1 | ⟨id, hid, n, hn, h1⟩
      · exact Or.inl (hp h1)
      · exact Or.inr ⟨id, hid, n, hsub n hn, h1⟩
    cases e with
    | str s => exact Or.inl (.str (by intro hx; simp [isNonProgressing, hx] at h))
    | insens s => exact Or.inl (.insens (by intro hx; simp [isNonProgressing, hx] at h))
    | range a b => exact Or.inl (.range a b)
    | ident id =>
      simp only [isNonProgressing] at h
      by_cases hse : id = "SOI" ∨ id = "EOI"
      · simp [hse] at h
      · simp only [hse, if_false] at h
        by_cases hc : id ∈ T
        · exact Or.inr ⟨id, hc, id, List.mem_singleton_self _, Or.inl rfl⟩
        · simp only [List.contains_eq_mem, hc, decide_false, Bool.not_false, if_true] at h
          cases hl : lookup rules id with
          | none =>
            refine Or.inl (.builtin hl (fun hx => hse (Or.inl hx)) (fun hx => hse (Or.inr hx)) ?_)
            simpa [SF, stackNames] using hs
          | some body =>
            simp only [hl] at h
            obtain ⟨r, hr, hrn, hrb⟩ := lookup_some_mem hl
            have := rem_step hl hc
            simp only [Expr.size] at hF
            rcases ih body (T ++ [id]) id (hrb ▸ hsf r hr) (hrb ▸ htag r hr) (fun _ => by simp) (by omega) h
              with h1 | ⟨id', hid', n, hn, h1⟩
            · exact Or.inl (.rule hl h1)
            · -- `id` looks at `n` in its body, and `n` leads to `id'`
              have hreach : Relation.TransGen (fun y x => E extras rules x y) id' id := by
                have he : E extras rules id n := ⟨body, hl, hn⟩
                rcases h1 with rfl | h1
                · exact .single he
                · exact .tail h1 he
              rcases List.mem_append.1 hid' with hid' | hid'
              · exact Or.inr ⟨id', hid', id, List.mem_singleton_self _, Or.inr hreach⟩
              · rw [List.mem_singleton.1 hid'] at hreach
                exact absurd hreach (hnc id)
    | seq a b =>
      simp only [isNonProgressing] at h
      simp only [Expr.size] at hF
      have hs := Bool.and_eq_true_iff.1 hs
      obtain ⟨hta, htb⟩ := tagOK_bin ht
      cases ha : isNonProgressing rules F a T with
      | false =>
        rcases ih a T cur hs.1 hta hcur (by omega) ha with h1 | ⟨id, hid, n, hn, h1⟩
        · exact Or.inl (.seqL h1)
        · exact Or.inr ⟨id, hid, n, mem_lmS_seq.2 (Or.inl hn), h1⟩
      | true =>
        have hb : isNonProgressing rules F b T = false := by simpa [ha] using h
        rcases ih b T cur hs.2 htb hcur (by omega) hb with h1 | ⟨id, hid, n, hn, h1⟩
        · exact Or.inl (.seqR h1)
        · -- the trace is not empty, so it ends in `cur`, and `a` is non-progressing for `check_expr` too
          have hcT : cur ∈ T := List.mem_of_getLast? (hcur (List.ne_nil_of_mem hid))
          have hx : isNonProgressing rules (fuelFor rules a) a [cur] = true :=
            np_mono rules F a T _ [cur] ha (by intro x hx; simp at hx; subst hx; exact hcT) (fuelFor_ok rules a _)
          exact Or.inr ⟨id, hid, n, mem_lmS_seq.2 (Or.inr ⟨by simp [cross, hx], Or.inr hn⟩), h1⟩
    | choice a b =>
      simp only [isNonProgressing, Bool.or_eq_false_iff] at h
      simp only [Expr.size] at hF
      have hs := Bool.and_eq_true_iff.1 hs
      obtain ⟨hta, htb⟩ := tagOK_bin ht
      rcases ih a T cur hs.1 hta hcur (by omega) h.1 with h1 | ⟨id, hid, n, hn, h1⟩
      · rcases ih b T cur hs.2 htb hcur (by omega) h.2 with h2 | ⟨id, hid, n, hn, h2⟩
        · exact Or.inl (.choice h1 h2)
        · exact Or.inr ⟨id, hid, n, mem_lmS_choice.2 (Or.inr hn), h2⟩
      · exact Or.inr ⟨id, hid, n, mem_lmS_choice.2 (Or.inl hn), h1⟩
    | repOnce x => exact un rfl hs ht h .repOnce (fun _ hn => hn)
    | nodeTag x t =>
      have hex : extras = true := (Bool.or_false extras).symm.trans ht
      exact un rfl hs (by rw [TagOK, hex, Bool.true_or]) h .nodeTag (fun _ hn => mem_lmS_nodeTag.2 ⟨hex, hn⟩)
    | repExact x k =>
      simp only [isNonProgressing, Bool.or_eq_false_iff, beq_eq_false_iff_ne] at h
      exact un rfl hs ht h.2 (.repExact h.1) (fun _ hn => by rw [lmS_repExact]; exact mem_lmS_repMinMax.2 (Or.inl hn))
    | repMin x k =>
      simp only [isNonProgressing, Bool.or_eq_false_iff, beq_eq_false_iff_ne] at h
      exact un rfl hs ht h.2 (.repMin h.1) (fun _ hn => hn)
    | repMinMax x lo hi =>
      simp only [isNonProgressing, Bool.or_eq_false_iff, beq_eq_false_iff_ne] at h
      exact un rfl hs ht h.2 (.repMinMax h.1) (fun _ hn => mem_lmS_repMinMax.2 (Or.inl hn))
    | push x => exact absurd hs Bool.false_ne_true
    | peekSlice a b => exact absurd hs Bool.false_ne_true
    | pushLiteral s => exact absurd hs (by simp [SF])
    | posPred x | negPred x | opt x | rep x | repMax x k | skip strs => exact absurd h (by simp [isNonProgressing])

end PestModel.V
