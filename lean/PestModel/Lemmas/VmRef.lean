import PestModel.Model.Ref
import PestModel.Model.RefSpec
import PestModel.Model.Lower
import PestModel.Model.Views
import PestModel.Lemmas.VmRefDefs
import PestModel.Lemmas.PStateInv
import PestModel.Lemmas.PStateLimitTr
import PestModel.Lemmas.RefVal
import PestModel.Lemmas.RefStr
import PestModel.Lemmas.ViewsBuild
import PestModel.Lemmas.TrackState
import PestModel.Lemmas.VmRefMono
import PestModel.Lemmas.GenVmCleanVm
/-! Lemmas for C01: the lowered VM program over the `ParserState` model refines the reference denotation.
Here: the simulation relation `Sim`, the per-program specification `Spec`, its extension `SpecT` by the
calls of the instrumented reference and the attempt bookkeeping (C08), and queue facts. -/
namespace PestModel.VmRef
open PestModel.G PestModel.PS PestModel.Lower PestModel.Ref PestModel.Views PestModel.RefTrace PestModel.Track
open PestModel.LineCol (Str isBoundary bLen cLen splitAt? slice?)
open PestModel.Stack (StkInv)

theorem pushNodes_nil (q : List QTok) : pushNodes q [] = q := by rw [pushNodes]

theorem pushNodes_cons (q : List QTok) (t : Tree) (ts : List Tree) :
    pushNodes q (t :: ts) = pushNodes (pushNode q t) ts := by rw [pushNodes]

theorem pushNodes_append (q : List QTok) (f1 f2 : List Tree) :
    pushNodes q (f1 ++ f2) = pushNodes (pushNodes q f1) f2 := by
  induction f1 generalizing q with
  | nil => rw [pushNodes_nil]; rfl
  | cons t ts ih => rw [List.cons_append, pushNodes_cons, pushNodes_cons, ih]

theorem pushNodes_single (q : List QTok) (t : Tree) : pushNodes q [t] = pushNode q t := by
  rw [pushNodes_cons, pushNodes_nil]

theorem pushNodes_prefix (q : List QTok) (f : List Tree) : ∃ s, pushNodes q f = q ++ s :=
  (pushNodes_spec q f).1

theorem pushNode_node (q : List QTok) (r a b : Nat) (tag : Option Str) (cs : List Tree) :
    pushNode q (.node r a b tag cs) =
      PS.setAt (pushNodes (q ++ [.start 0 a]) cs) q.length
        (.start (pushNodes (q ++ [.start 0 a]) cs).length a) ++ [.end_ q.length r tag b] := by
  rw [pushNode]

/-- the VM state `st` stands for the reference state `σ` in atomicity mode `m`, inside (`la`) or
outside a predicate. -/
structure Sim (input : Str) (m : Atomicity) (la : Bool) (st : PState) (σ : St) : Prop where
  inp : st.input = input
  pos : st.pos = σ.pos
  stk : st.stack.cache = σ.stack
  inv : StkInv st.stack
  bnd : isBoundary input st.pos = true
  atom : st.atomicity = m
  la : st.lookahead = .none ↔ la = false
  calls : st.calls = none
  en : st.pa.enabled = false

/-- outcome `o` (of a run from `st`) matches the reference result `R`. What a failed program leaves behind is not said
here: that is a fact about the VM alone (`GenVm.ErrSpecN`). -/
def OutSpec (o : Out) (st : PState) (R : Res) : Prop :=
  match o with
  | .ok st' => ∃ σ' f, R = .ok σ' f ∧ st'.pos = σ'.pos ∧ st'.stack.cache = σ'.stack ∧
      st'.queue = pushNodes st.queue f
  | .err _ => R = .fail
  | .panic => R = .stuck
  | .fuel => True

theorem OutSpec.ok_nil {st st' : PState} {σ' : St} (hp : st'.pos = σ'.pos)
    (hk : st'.stack.cache = σ'.stack) (hq : st'.queue = st.queue) : OutSpec (.ok st') st (.ok σ' []) :=
  ⟨σ', [], rfl, hp, hk, by rw [pushNodes_nil]; exact hq⟩

/-- `run cfg n p` implements the reference function `D` (from related states, in mode `m`/`la`). -/
def Spec (cfg : Cfg) (input : Str) (n : Nat) (p : Prog) (m : Atomicity) (la : Bool) (D : St → Res) : Prop :=
  ∀ st σ, Sim input m la st σ → OutSpec (run cfg n p st) st (D σ)

variable {cfg : Cfg} {input : Str}

theorem Spec.zero (p : Prog) (m : Atomicity) (la : Bool) (D : St → Res) :
    Spec cfg input 0 p m la D := by
  intro st σ _
  rw [run_zero]; trivial

/-- fuel `0` is trivial, so a specification need only be shown at a successor. -/
theorem Spec.of_succ {n p m la D}
    (h : ∀ k, n = k + 1 → ∀ st σ, Sim input m la st σ → OutSpec (run cfg (k + 1) p st) st (D σ)) :
    Spec cfg input n p m la D := by
  cases n with
  | zero => exact Spec.zero _ _ _ _
  | succ k => exact h k rfl

theorem Sim.of_rel {m la} {st st' : PState} {σ σ' : St} (hs : Sim input m la st σ) (r : Rel st st')
    (hc : st'.calls = none) (hp : st'.pos = σ'.pos) (hk : st'.stack.cache = σ'.stack) :
    Sim input m la st' σ' where
  inp := r.input.trans hs.inp
  pos := hp
  stk := hk
  inv := (r.stk hs.inv).1
  bnd := by
    have := r.bnd (by rw [hs.inp]; exact hs.bnd)
    rwa [hs.inp] at this
  atom := r.atom.trans hs.atom
  la := by rw [r.la]; exact hs.la
  calls := hc
  en := r.en.trans hs.en

theorem calls_none_of_run {n p} {st st' : PState} (h : (run cfg n p st).state? = some st')
    (hc : st.calls = none) : st'.calls = none :=
  (run_callsMono cfg n p st st' h).1 hc

theorem Sim.incCall {m la} {st : PState} {σ : St} (hs : Sim input m la st σ) : incCall st = some st := by
  unfold PS.incCall
  rw [hs.calls]

/-! ### the traced specification

C08 needs, for the same run, what the instrumented reference `RefTrace` records and what the state's
attempt bookkeeping becomes. Both ride on the case analysis that `Spec` needs anyway, so the
combinator lemmas and the main induction are stated for `SpecT`. `Spec` is the form in which the
primitives are specified; `Spec.lift` takes them to `SpecT`. -/

end PestModel.VmRef

namespace PestModel.Track
open PestModel.G PestModel.PS PestModel.Ref PestModel.RefTrace PestModel.VmRef
open PestModel.LineCol (Str slice?)

variable {cfg : Cfg} {input : Str}

def toLA : Lookahead → LA
  | .none => .none
  | .positive => .pos
  | .negative => .neg

def _root_.PestModel.RefTrace.LA.b : LA → Bool
  | .none => false
  | _ => true

/-- `Sim` with the look-ahead mode known exactly, not only whether there is one. -/
structure SimT (input : Str) (m : Atomicity) (l : LA) (st : PState) (σ : St) : Prop
    extends Sim input m l.b st σ where
  laT : toLA st.lookahead = l

/-- when the second program never fails, a failure of `P.and_then(Q)` is a failure of `P`. -/
theorem _root_.PestModel.GenVm.es_andThen_never {C : Cfg} {n : Nat} {P Q : Prog} {D : Prop} (h : GenVm.ErrSpecN C n P D)
    (hq : ∀ f s s', GenVm.Good s → run C f Q s ≠ .err s') : GenVm.ErrSpecN C n (.andThen P Q) D :=
  GenVm.es_of_step fun f hf s s' hg hr => by
    rw [run_andThen] at hr
    cases e1 : run C f P s with
    | err x => rw [e1] at hr; cases hr; exact h f (by omega) s _ hg e1
    | ok x => rw [e1] at hr; exact absurd hr (hq f x s' (GenVm.good_run hg (by rw [e1]; rfl)))
    | panic => rw [e1] at hr; cases hr
    | fuel => rw [e1] at hr; cases hr

theorem SimT.next_ok {n p m la} {st st' : PState} {σ σ' : St} (hs : SimT input m la st σ)
    (hr : run cfg n p st = .ok st') (hp : st'.pos = σ'.pos) (hk : st'.stack.cache = σ'.stack) :
    SimT input m la st' σ' :=
  ⟨hs.toSim.of_rel (run_ok_rel hr) (calls_none_of_run (by rw [hr]; rfl) hs.calls) hp hk,
    (congrArg toLA (run_ok_rel hr).la).trans hs.laT⟩

theorem SimT.good {m la} {st : PState} {σ : St} (hs : SimT input m la st σ) : GenVm.Good st :=
  ⟨⟨by rw [hs.inp]; exact hs.bnd, hs.inv⟩, hs.calls⟩

/-- after a failure that left position, queue and stack contents alone the state stands for the same reference state. -/
theorem SimT.next_clean {n k p m la} {st st' : PState} {σ : St} (hs : SimT input m la st σ)
    (hc : GenVm.ErrSpecN cfg n p False) (hk : k ≤ n) (hr : run cfg k p st = .err st') :
    SimT input m la st' σ ∧ st'.queue = st.queue := by
  obtain ⟨a, b, c⟩ := hc k hk st st' hs.good hr
  exact ⟨⟨hs.toSim.of_rel (run_err_rel hr) (calls_none_of_run (by rw [hr]; rfl) hs.calls) (a.trans hs.pos)
    ((Classical.byContradiction c).trans hs.stk), (congrArg toLA (run_err_rel hr).la).trans hs.laT⟩, b⟩

end PestModel.Track

namespace PestModel.VmRef
open PestModel.G PestModel.PS PestModel.Lower PestModel.Ref PestModel.Views PestModel.RefTrace PestModel.Track
open PestModel.LineCol (Str isBoundary bLen cLen splitAt? slice?)
open PestModel.Stack (StkInv)

variable {cfg : Cfg} {input : Str}

/-- `OutSpec`, and moreover: the instrumented reference gives the same result with calls `cs`, and the
attempt bookkeeping has moved by `stepAtt · cs`. -/
def OutSpecT (o : Out) (st : PState) (res : Res) (T : R → List Call → Prop) : Prop :=
  match o with
  | .ok st' => ∃ σ' f cs, res = .ok σ' f ∧ T (.ok σ') cs ∧ st'.pos = σ'.pos ∧
      st'.stack.cache = σ'.stack ∧ st'.queue = pushNodes st.queue f ∧ att st' = stepAtt (att st) cs
  | .err st' => res = .fail ∧ ∃ cs, T .fail cs ∧ att st' = stepAtt (att st) cs
  | .panic => res = .stuck
  | .fuel => True

def SpecT (cfg : Cfg) (input : Str) (n : Nat) (p : Prog) (m : Atomicity) (la : LA) (D : St → Res) (T : DT) : Prop :=
  ∀ st σ, SimT input m la st σ → OutSpecT (run cfg n p st) st (D σ) (T σ)

theorem SpecT.zero (p : Prog) (m : Atomicity) (la : LA) (D : St → Res) (T : DT) :
    SpecT cfg input 0 p m la D T := by
  intro st σ _
  rw [run_zero]; trivial

theorem SpecT.of_succ {n p m la D T} (h : ∀ k, n = k + 1 → ∀ st σ, SimT input m la st σ →
      OutSpecT (run cfg (k + 1) p st) st (D σ) (T σ)) : SpecT cfg input n p m la D T := by
  cases n with
  | zero => exact SpecT.zero _ _ _ _ _
  | succ k => exact h k rfl

/-- with less fuel a run has the same outcome or none, and of none a specification says nothing. -/
theorem SpecT.anti {n k p m la D T} (h : SpecT cfg input n p m la D T) (hk : k ≤ n) :
    SpecT cfg input k p m la D T := by
  intro st σ hs
  by_cases hf : run cfg k p st = .fuel
  · rw [hf]; trivial
  · have := h st σ hs
    rw [run_mono hf hk] at this
    exact this

theorem SpecT.ok {n p m la D T} (h : SpecT cfg input n p m la D T) {st σ st'}
    (hs : SimT input m la st σ) (hr : run cfg n p st = .ok st') :
    ∃ σ' f cs, D σ = .ok σ' f ∧ T σ (.ok σ') cs ∧ st'.pos = σ'.pos ∧ st'.stack.cache = σ'.stack ∧
      st'.queue = pushNodes st.queue f ∧ att st' = stepAtt (att st) cs := by
  have := h st σ hs
  rw [hr] at this
  exact this

theorem SpecT.err {n p m la D T} (h : SpecT cfg input n p m la D T) {st σ st'}
    (hs : SimT input m la st σ) (hr : run cfg n p st = .err st') :
    D σ = .fail ∧ ∃ cs, T σ .fail cs ∧ att st' = stepAtt (att st) cs := by
  have := h st σ hs
  rw [hr] at this
  exact this

theorem SpecT.panic {n p m la D T} (h : SpecT cfg input n p m la D T) {st σ}
    (hs : SimT input m la st σ) (hr : run cfg n p st = .panic) : D σ = .stuck := by
  have := h st σ hs
  rw [hr] at this
  exact this

/-- weaken what is known of the calls. -/
theorem SpecT.monoT {n p m la D} {T T' : DT} (h : SpecT cfg input n p m la D T)
    (hT : ∀ σ r cs, T σ r cs → T' σ r cs) : SpecT cfg input n p m la D T' := by
  intro st σ hs
  have := h st σ hs
  cases hr : run cfg n p st <;> rw [hr] at this
  · obtain ⟨σ', f, cs, h1, h2, h3⟩ := this
    exact ⟨σ', f, cs, h1, hT _ _ _ h2, h3⟩
  · obtain ⟨h1, cs, h3, h4⟩ := this
    exact ⟨h1, cs, hT _ _ _ h3, h4⟩
  · exact this
  · trivial

theorem SpecT.congr {n p m la D D' T} (h : SpecT cfg input n p m la D T) (hD : ∀ σ, D σ = D' σ) :
    SpecT cfg input n p m la D' T := by
  have : D = D' := funext hD
  rw [← this]; exact h

/-- the traced reference function where the reference makes no calls. -/
def leafT (D : St → Res) : DT := fun σ r cs => r = eraseR (D σ) ∧ cs = []

/-- a program that never touches the attempt bookkeeping, and whose reference makes no calls. -/
theorem Spec.lift {n p m la} {D : St → Res} (hS : Spec cfg input n p m la.b D) (hF : Frame cfg p) :
    SpecT cfg input n p m la D (leafT D) := by
  intro st σ hs
  have := hS st σ hs.toSim
  cases hr : run cfg n p st <;> rw [hr] at this
  · obtain ⟨σ', f, hd, hp, hk, hq⟩ := this
    exact ⟨σ', f, [], hd, ⟨by rw [hd]; rfl, rfl⟩, hp, hk, hq,
      by rw [hF n st _ (by rw [hr]; rfl), stepAtt_nil]⟩
  · exact ⟨this, [], ⟨by rw [this]; rfl, rfl⟩, by rw [hF n st _ (by rw [hr]; rfl), stepAtt_nil]⟩
  · exact this
  · trivial

theorem Spec.liftS {n p m la} {D : St → Res} (hS : Spec cfg input n p m la.b D)
    (hp : simple p := by trivial) : SpecT cfg input n p m la D (leafT D) :=
  hS.lift (frame_simple p hp)

end PestModel.VmRef
