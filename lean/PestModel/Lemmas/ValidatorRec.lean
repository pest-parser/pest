import PestModel.Lemmas.ValidatorNp
/-! C06: `leftRecursion … = []` makes the graph of visited rule references
well founded. The nodes of the graph are (rule, skipping inside it) pairs; besides the rule references
the check visits, it has the implicit `WHITESPACE`/`COMMENT` calls behind a sequence head — or behind
the first copy of a bounded repetition — that may match nothing (where skipping is on). The name graph
(rule references only) of an accepted grammar is well founded as well: each of its edges lifts to the pairs. -/
namespace PestModel.V
open PestModel.G
open PestModel.LineCol (Str)

/-- edge of the left-recursion graph. -/
def E2 (extras : Bool) (rules : List Rule) (a b : Key) : Prop :=
  ∃ n, ES extras rules a.1 a.2 n ∧ b = key rules a.2 n

def rem2 : List Rule → List Key → Nat
  | [], _ => 0
  | r :: rs, T =>
    (if T.contains (r.name, true) then 0 else r.expr.size + 1) +
      (if T.contains (r.name, false) then 0 else r.expr.size + 1) + rem2 rs T

theorem rem2_eq_budget (rules : List Rule) (T : List Key) :
    rem2 rules T =
      budget (rules.flatMap fun r => [((r.name, true), r.expr.size + 1), ((r.name, false), r.expr.size + 1)]) T := by
  induction rules with
  | nil => rfl
  | cons r rs ih =>
    by_cases h1 : (r.name, true) ∈ T <;> by_cases h2 : (r.name, false) ∈ T <;>
      simp [rem2, budget, ih, h1, h2, Nat.add_assoc]

theorem rem2_step {rules : List Rule} {T : List Key} {n : String} {b : Bool} {body : Expr}
    (hl : lookup rules n = some body) (hn : (n, b) ∉ T) : body.size + 1 + rem2 rules (T ++ [(n, b)]) ≤ rem2 rules T := by
  obtain ⟨r, hr, rfl, rfl⟩ := lookup_some_mem hl
  rw [rem2_eq_budget, rem2_eq_budget]
  exact budget_step (List.mem_flatMap.2 ⟨r, hr, by cases b <;> simp⟩) hn

theorem rem2_le (rules : List Rule) (T : List Key) : rem2 rules T ≤ 2 * rem rules [] := by
  induction rules with
  | nil => simp [rem2, rem, budget]
  | cons r rs ih =>
    simp only [rem2, rem, List.map_cons, budget] at ih ⊢
    have h1 : (if T.contains (r.name, true) then 0 else r.expr.size + 1) ≤ r.expr.size + 1 := by split <;> omega
    have h2 : (if T.contains (r.name, false) then 0 else r.expr.size + 1) ≤ r.expr.size + 1 := by split <;> omega
    rw [if_neg (List.not_mem_nil)]
    omega

/-- what `check_expr` does with a rule it is about to enter. -/
def enterF (extras : Bool) (rules : List Rule) (G : Nat) (T : List Key) (sk : Bool) (other : String) : Bool :=
  checkExpr extras rules (G + 1) (.ident other) T sk

theorem checkExpr_ident (extras : Bool) (rules : List Rule) (G : Nat) (T : List Key) (sk : Bool) (n : String) :
    checkExpr extras rules (G + 1) (.ident n) T sk = enterF extras rules G T sk n := rfl

/-- entering a rule: found at the head of the trace; else, if new, its body is checked with the rule
appended; else (seen before, or no such rule) nothing is found. -/
theorem enterF_eq (extras : Bool) (rules : List Rule) (G : Nat) (T : List Key) (sk : Bool) (n : String) :
    enterF extras rules G T sk n =
      if T.head? = some (n, skipsInside rules n sk) then true
      else if !T.contains (n, skipsInside rules n sk) then
        match lookup rules n with
        | some body => checkExpr extras rules G body (T ++ [(n, skipsInside rules n sk)]) (skipsInside rules n sk)
        | none => false
      else false := rfl

theorem enterF_step {extras : Bool} {rules : List Rule} {G : Nat} {T : List Key} {sk : Bool} {n : String} {body : Expr}
    (hn : (n, skipsInside rules n sk) ∉ T) (hl : lookup rules n = some body) :
    enterF extras rules G T sk n =
      checkExpr extras rules G body (T ++ [(n, skipsInside rules n sk)]) (skipsInside rules n sk) := by
  have hh : T.head? ≠ some (n, skipsInside rules n sk) := fun hh => hn (List.mem_of_mem_head? hh)
  rw [enterF_eq, if_neg hh, if_pos (by simpa using hn), hl]

theorem enterF_eq_false {extras : Bool} {rules : List Rule} {G : Nat} {T : List Key} {sk : Bool} {n : String}
    (hh : T.head? ≠ some (n, skipsInside rules n sk))
    (h : (n, skipsInside rules n sk) ∈ T ∨ lookup rules n = none) : enterF extras rules G T sk n = false := by
  rw [enterF_eq, if_neg hh]
  rcases h with h | h
  · rw [if_neg (by simpa using h)]
  · rw [h]; split <;> rfl

/-- the implicit skip at this position. -/
def implF (extras : Bool) (rules : List Rule) (G : Nat) (T : List Key) (sk : Bool) : Bool :=
  sk && ((lookup rules "WHITESPACE").isSome && enterF extras rules G T sk "WHITESPACE" ||
         (lookup rules "COMMENT").isSome && enterF extras rules G T sk "COMMENT")

theorem checkExpr_seq (extras : Bool) (rules : List Rule) (G : Nat) (T : List Key) (sk : Bool) (a b : Expr) :
    checkExpr extras rules (G + 1) (.seq a b) T sk =
      if isNonFailing rules (fuelFor rules a) a (T.getLast?.map (·.1)).toList ||
          isNonProgressing rules (fuelFor rules a) a (T.getLast?.map (·.1)).toList then
        checkExpr extras rules G a T sk || implF extras rules G T sk || checkExpr extras rules G b T sk
      else checkExpr extras rules G a T sk := rfl

theorem checkExpr_repMinMax (extras : Bool) (rules : List Rule) (G : Nat) (T : List Key) (sk : Bool) (e : Expr)
    (lo hi : Nat) :
    checkExpr extras rules (G + 1) (.repMinMax e lo hi) T sk =
      (checkExpr extras rules G e T sk ||
        (decide (2 ≤ hi) &&
          (lo == 0 || (isNonFailing rules (fuelFor rules e) e (T.getLast?.map (·.1)).toList ||
            isNonProgressing rules (fuelFor rules e) e (T.getLast?.map (·.1)).toList)) &&
          implF extras rules G T sk)) := rfl

/-- inside the body of `cur` (the last rule entered) the "may match nothing" test is `cross`. -/
theorem cross_of_getLast? {rules : List Rule} {T : List Key} {cur : String} {skc : Bool}
    (hT : T.getLast? = some (cur, skc)) (a : Expr) :
    (isNonFailing rules (fuelFor rules a) a (T.getLast?.map (·.1)).toList ||
      isNonProgressing rules (fuelFor rules a) a (T.getLast?.map (·.1)).toList) = cross rules cur a := by
  simp only [hT, Option.map_some, Option.toList_some, cross]

/-- `check_expr` treats `e{n}` as `e{n,n}` … -/
theorem checkExpr_repExact (extras : Bool) (rules : List Rule) (F : Nat) (e : Expr) (n : Nat) (T : List Key) (sk : Bool) :
    checkExpr extras rules F (.repExact e n) T sk = checkExpr extras rules F (.repMinMax e n n) T sk := by
  cases F with
  | zero => rfl
  | succ G =>
    simp only [checkExpr]
    by_cases h : 2 ≤ n
    · have : (n == 0) = false := by simp; omega
      simp [h, this]
    · simp [h]

/-- … and `e{,n}` as `e{0,n}`. -/
theorem checkExpr_repMax (extras : Bool) (rules : List Rule) (F : Nat) (e : Expr) (n : Nat) (T : List Key) (sk : Bool) :
    checkExpr extras rules F (.repMax e n) T sk = checkExpr extras rules F (.repMinMax e 0 n) T sk := by
  cases F with
  | zero => rfl
  | succ G => simp [checkExpr]

theorem mem_wsNames {rules : List Rule} {n : String} :
    n ∈ wsNames rules ↔ (n = "WHITESPACE" ∨ n = "COMMENT") ∧ (lookup rules n).isSome = true := by
  unfold wsNames
  constructor
  · intro h
    rcases List.mem_append.1 h with h | h <;> split at h <;> simp at h <;> subst h <;> simp [*]
  · rintro ⟨rfl | rfl, h⟩ <;> simp [h]

/-- `check_expr` answers `true` with any adequate fuel. -/
def CT (extras : Bool) (rules : List Rule) (e : Expr) (T : List Key) (sk : Bool) : Prop :=
  ∀ F, e.size + rem2 rules T ≤ F → checkExpr extras rules F e T sk = true

section
variable {extras : Bool} {rules : List Rule}

/-- adequate fuel is positive. -/
theorem CT.of_succ {e : Expr} {T : List Key} {sk : Bool}
    (h : ∀ G, e.size + rem2 rules T ≤ G + 1 → checkExpr extras rules (G + 1) e T sk = true) : CT extras rules e T sk := by
  intro F hF
  obtain ⟨G, rfl⟩ : ∃ G, F = G + 1 := ⟨F - 1, by have := Expr.size_pos e; omega⟩
  exact h G hF

theorem ct_ident_head {T : List Key} {n : String} {sk : Bool} (h : T.head? = some (key rules sk n)) :
    CT extras rules (.ident n) T sk :=
  CT.of_succ fun G _ => by rw [checkExpr_ident, enterF_eq, if_pos h]

theorem ct_ident_step {T : List Key} {n : String} {sk : Bool} {body : Expr} (hn : key rules sk n ∉ T)
    (hl : lookup rules n = some body)
    (h : CT extras rules body (T ++ [key rules sk n]) (skipsInside rules n sk)) : CT extras rules (.ident n) T sk := by
  refine CT.of_succ fun G hF => ?_
  have := rem2_step hl hn
  simp only [Expr.size] at hF
  rw [checkExpr_ident, enterF_step hn hl]
  refine h G ?_
  show body.size + rem2 rules (T ++ [(n, skipsInside rules n sk)]) ≤ G
  omega

/-- a rule the check answers `true` on is found wherever the check enters it. The one case with an
idea is the implicit skip: there `n` is `WHITESPACE` or `COMMENT` and `hc` is what `implF` asks. -/
theorem ct_sub {T : List Key} {cur n : String} {skc sk : Bool} (hT : T.getLast? = some (cur, skc))
    (hc : CT extras rules (.ident n) T sk) :
    ∀ e : Expr, n ∈ lmS extras rules cur sk e → CT extras rules e T sk := by
  have himpl : ∀ G, sk = true → n ∈ wsNames rules → 1 + rem2 rules T ≤ G + 1 → implF extras rules G T sk = true := by
    rintro G rfl hn hG
    have h1 : enterF extras rules G T true n = true := hc (G + 1) hG
    obtain ⟨rfl | rfl, hs⟩ := mem_wsNames.1 hn <;> simp [implF, h1, hs]
  have bounded : ∀ (a : Expr) (lo hi : Nat), (n ∈ lmS extras rules cur sk a → CT extras rules a T sk) →
      n ∈ lmS extras rules cur sk (.repMinMax a lo hi) → CT extras rules (.repMinMax a lo hi) T sk := by
    intro a lo hi ih hn
    refine CT.of_succ fun G hF => ?_
    simp only [Expr.size] at hF
    rw [checkExpr_repMinMax, cross_of_getLast? hT]
    rcases mem_lmS_repMinMax.1 hn with hn | ⟨h2, hx, hsk, hn⟩
    · rw [ih hn G (by omega), Bool.true_or]
    · rw [himpl G hsk hn (by have := Expr.size_pos a; omega)]
      simp only [decide_eq_true h2, Bool.true_and, Bool.and_true, Bool.or_eq_true, beq_iff_eq]
      exact Or.inr hx
  intro e
  induction e with
  | ident m => intro hn; cases List.mem_singleton.1 hn; exact hc
  | seq a b iha ihb =>
    intro hn
    refine CT.of_succ fun G hF => ?_
    simp only [Expr.size] at hF
    rw [checkExpr_seq, cross_of_getLast? hT]
    rcases mem_lmS_seq.1 hn with hn | ⟨hx, ⟨hsk, hn⟩ | hn⟩
    · rw [iha hn G (by omega)]; simp
    · rw [if_pos hx, himpl G hsk hn (by have := Expr.size_pos a; omega)]; simp
    · rw [if_pos hx, ihb hn G (by omega)]; simp
  | choice a b iha ihb =>
    intro hn
    refine CT.of_succ fun G hF => ?_
    simp only [Expr.size] at hF
    exact Bool.or_eq_true_iff.2 ((mem_lmS_choice.1 hn).imp (fun h => iha h G (by omega)) (fun h => ihb h G (by omega)))
  | rep a ih | repOnce a ih | opt a ih | posPred a ih | negPred a ih | push a ih | repMin a k ih =>
    intro hn
    refine CT.of_succ fun G hF => ?_
    simp only [Expr.size] at hF
    exact ih hn G (by omega)
  | repMinMax a lo hi ih => exact bounded a lo hi ih
  | repExact a k ih =>
    intro hn F hF
    rw [checkExpr_repExact]
    exact bounded a k k ih (by rwa [lmS_repExact] at hn) F hF
  | repMax a k ih =>
    intro hn F hF
    rw [checkExpr_repMax]
    exact bounded a 0 k ih (by rwa [lmS_repMax] at hn) F hF
  | nodeTag a t ih =>
    intro hn
    obtain ⟨rfl, hn⟩ := mem_lmS_nodeTag.1 hn
    refine CT.of_succ fun G hF => ?_
    simp only [Expr.size] at hF
    exact ih hn G (by omega)
  | _ => intro hn; simp [lmS] at hn

/-- `a → p₁ → … → pₖ = b` in the graph. -/
def Path (extras : Bool) (rules : List Rule) : Key → List Key → Key → Prop
  | a, [], b => a = b
  | a, p :: ps, b => E2 extras rules a p ∧ Path extras rules p ps b

theorem path_snoc {a b n : Key} {ps : List Key} (h : Path extras rules a ps b) (he : E2 extras rules b n) :
    Path extras rules a (ps ++ [n]) n := by
  induction ps generalizing a with
  | nil => simp only [Path] at h; subst h; exact ⟨he, rfl⟩
  | cons p ps ih => exact ⟨h.1, ih h.2⟩

theorem e2_hasBody {a b : Key} (he : E2 extras rules a b) : ∃ body, lookup rules a.1 = some body := by
  obtain ⟨n, ⟨body, hb, _⟩, _⟩ := he
  exact ⟨body, hb⟩

theorem path_hasBody {a b h : Key} {ps : List Key} (hp : Path extras rules a ps b) (he : E2 extras rules b h) :
    ∃ body, lookup rules a.1 = some body := by
  cases ps with
  | nil => simp only [Path] at hp; subst hp; exact e2_hasBody he
  | cons p ps => exact e2_hasBody hp.1

/-- the check follows a simple path back to the pair under test. -/
theorem follow {cur h : Key} (he : E2 extras rules cur h) :
    ∀ (ps : List Key) (a : Key) (T : List Key) (body : Expr), Path extras rules a ps cur →
      T.getLast? = some a → T.head? = some h → (∀ p ∈ ps, p ∉ T) → ps.Nodup → lookup rules a.1 = some body →
      CT extras rules body T a.2 := by
  intro ps
  induction ps with
  | nil =>
    intro a T body hp hl hh _ _ hb
    simp only [Path] at hp
    subst hp
    obtain ⟨n, ⟨body', hb', hm⟩, hk⟩ := he
    rw [hb] at hb'
    cases hb'
    exact ct_sub (cur := a.1) (skc := a.2) hl (ct_ident_head (by rw [hh, hk])) body hm
  | cons p ps ih =>
    intro a T body hp hl hh hnot hnd hb
    obtain ⟨⟨n, ⟨body', hb', hm⟩, hk⟩, hp2⟩ := hp
    rw [hb] at hb'
    cases hb'
    obtain ⟨bp, hbp⟩ := path_hasBody hp2 he
    have hpT : p ∉ T := hnot p (by simp)
    have h1 : CT extras rules bp (T ++ [p]) p.2 := by
      refine ih p (T ++ [p]) bp hp2 (by simp) ?_ ?_ (List.nodup_cons.1 hnd).2 hbp
      · rw [List.head?_append]; rw [hh]; rfl
      · intro q hq
        simp only [List.mem_append, List.mem_singleton, not_or]
        refine ⟨hnot q (List.mem_cons_of_mem _ hq), ?_⟩
        intro hqp
        subst hqp
        exact (List.nodup_cons.1 hnd).1 hq
    subst hk
    exact ct_sub (cur := a.1) (skc := a.2) hl (ct_ident_step hpT hbp h1) body hm

/-- the check is silent iff it answers `false` on every rule, from both pairs it is started with. -/
theorem leftRecursion_eq_nil : leftRecursion extras rules = [] ↔ ∀ r ∈ rules, ∀ b : Bool,
    checkExpr extras rules (2 * rulesSize rules + r.expr.size + 2) r.expr [(r.name, skipsInside rules r.name b)]
      (skipsInside rules r.name b) = false := by
  unfold leftRecursion
  simp only [List.filterMap_eq_nil_iff]
  refine forall_congr' fun r => forall_congr' fun _ => ?_
  simp [Bool.forall_bool, and_comm]

/-- accepted grammars have no simple cycle. -/
theorem no_simple_cycle (hv : leftRecursion extras rules = []) {h cur : Key} {ps : List Key}
    (hp : Path extras rules h ps cur) (he : E2 extras rules cur h) (hnd : (h :: ps).Nodup) : False := by
  obtain ⟨body, hb⟩ := path_hasBody hp he
  have hct := follow he ps h [h] body hp rfl rfl
    (by intro p hp' hc; simp only [List.mem_singleton] at hc; subst hc; exact (List.nodup_cons.1 hnd).1 hp')
    (List.nodup_cons.1 hnd).2 hb
  obtain ⟨n, _, rfl⟩ := he
  obtain ⟨r, hr, hrn, rfl⟩ := lookup_some_mem hb
  change r.name = n at hrn
  subst hrn
  have h1 := leftRecursion_eq_nil.1 hv r hr cur.2
  rw [hct _ (by have := rem2_le rules [key rules cur.2 r.name]; have := rem_lt_rulesSize rules []; omega)] at h1
  cases h1

/-- number of pairs not yet on the chain. -/
def cnt (L V : List Key) : Nat := budget (L.map fun k => (k, 1)) V

/-- all pairs of defined rules. -/
def allKeys (rules : List Rule) : List Key := rules.flatMap fun r => [(r.name, true), (r.name, false)]

theorem mem_allKeys {p : Key} {body : Expr} (hb : lookup rules p.1 = some body) : p ∈ allKeys rules := by
  obtain ⟨r, hr, hrn, _⟩ := lookup_some_mem hb
  unfold allKeys
  rw [List.mem_flatMap]
  refine ⟨r, hr, ?_⟩
  obtain ⟨a, b⟩ := p
  simp only at hrn
  subst hrn
  cases b <;> simp

theorem path_suffix {a b n : Key} {l1 l2 : List Key} (h : Path extras rules a (l1 ++ n :: l2) b) :
    Path extras rules n l2 b := by
  induction l1 generalizing a with
  | nil => exact h.2
  | cons p ps ih => exact ih h.2

theorem acc_of_no_body {n : Key} (h : lookup rules n.1 = none) : Acc (fun b a => E2 extras rules a b) n :=
  Acc.intro n fun m hm => by obtain ⟨b', hb'⟩ := e2_hasBody hm; rw [h] at hb'; cases hb'

/-- the search for a cycle: `h :: ps` is the simple path walked so far, `cur` its end. A successor on the
path closes a simple cycle; one off the path extends it, and there are only so many pairs. -/
theorem acc_aux (hv : leftRecursion extras rules = []) :
    ∀ (k : Nat) (h : Key) (ps : List Key) (cur : Key), Path extras rules h ps cur → (h :: ps).Nodup →
      cnt (allKeys rules) (h :: ps) ≤ k → Acc (fun b a => E2 extras rules a b) cur := by
  intro k
  induction k using Nat.strongRecOn with
  | _ k ih =>
    intro h ps cur hp hnd hk
    refine Acc.intro cur fun n hE => ?_
    cases hln : lookup rules n.1 with
    | none => exact acc_of_no_body hln
    | some bn =>
      by_cases hn : n ∈ h :: ps
      · -- the part of the path from `n` on, with the edge back to `n`, is a simple cycle
        obtain ⟨l1, l2, heq⟩ := List.append_of_mem hn
        cases l1 with
        | nil => cases heq; exact (no_simple_cycle hv hp hE hnd).elim
        | cons x l1 =>
          cases heq
          exact (no_simple_cycle hv (path_suffix hp) hE (List.nodup_append.1 (List.nodup_cons.1 hnd).2).2.1).elim
      · have h1 : 1 + cnt (allKeys rules) ((h :: ps) ++ [n]) ≤ cnt (allKeys rules) (h :: ps) :=
          budget_step (List.mem_map.2 ⟨n, mem_allKeys hln, rfl⟩) hn
        refine ih (cnt (allKeys rules) (h :: (ps ++ [n]))) (by rw [List.cons_append] at h1; omega) h (ps ++ [n]) n
          (path_snoc hp hE) ?_ (Nat.le_refl _)
        rw [← List.cons_append, List.nodup_append]
        exact ⟨hnd, by simp, fun a ha b hb => by rw [List.mem_singleton.1 hb]; rintro rfl; exact hn ha⟩

/-- **the left-recursion graph of an accepted grammar is well founded.** -/
theorem acc_all (hv : leftRecursion extras rules = []) (p : Key) : Acc (fun b a => E2 extras rules a b) p :=
  acc_aux hv _ p [] p rfl (by simp) (Nat.le_refl _)

theorem acc_irrefl {α : Type} {r : α → α → Prop} {a : α} (h : Acc r a) : ¬ r a a := by
  induction h with
  | intro x _ ih => intro hx; exact ih x hx hx

/-- every edge of the name graph lifts to the pairs, whatever the flag at its source: accessibility
pulls back along the first projection. -/
theorem acc_name (p : Key) (h : Acc (fun b a => E2 extras rules a b) p) :
    Acc (fun b a => E extras rules a b) p.1 := by
  induction h with
  | intro p _ ih =>
    exact Acc.intro _ fun b ⟨body, hb, hm⟩ => ih (b, skipsInside rules b p.2) ⟨b, ⟨body, hb, lmS_mono body hm⟩, rfl⟩

/-- the name graph of an accepted grammar has no cycle. -/
theorem no_name_cycle (hv : leftRecursion extras rules = []) {a : String} :
    ¬ Relation.TransGen (fun y x => E extras rules x y) a a :=
  acc_irrefl (acc_name (a, false) (acc_all hv (a, false))).transGen

end
end PestModel.V
