import PestModel.Model.PStateSpec
import PestModel.Lemmas.LineColBasic
/-! The matching primitives of `position.rs`: `restAt` as a split of the input, the three searches of
`skip_until` agree, and `matchAll` matches the concatenation. -/
namespace PestModel.PS
open PestModel.LineCol

theorem restAt_iff (input rest : Str) (pos : Nat) :
    restAt input pos = some rest ↔ ∃ pre, input = pre ++ rest ∧ bLen pre = pos := by
  unfold restAt
  constructor
  · intro h
    cases hs : splitAt? input pos with
    | none => simp [hs] at h
    | some p =>
      obtain ⟨a, b⟩ := p
      simp [hs] at h
      subst h
      exact ⟨a, splitAt_some hs⟩
  · rintro ⟨pre, rfl, rfl⟩
    simp [splitAt_append]

theorem restAt_advance {input rest pre post : Str} {pos : Nat}
    (h : restAt input pos = some rest) (hp : rest = pre ++ post) :
    restAt input (pos + bLen pre) = some post := by
  obtain ⟨p0, rfl, rfl⟩ := (restAt_iff _ _ _).1 h
  subst hp
  exact (restAt_iff _ _ _).2 ⟨p0 ++ pre, by simp, by simp⟩

theorem restAt_isBoundary {input rest : Str} {pos : Nat} (h : restAt input pos = some rest) :
    isBoundary input pos = true := by
  obtain ⟨p0, rfl, rfl⟩ := (restAt_iff _ _ _).1 h
  exact (isBoundary_iff _ _).2 ⟨p0, rest, rfl, rfl⟩

/-! ### `skip_until` -/

theorem skipUntilBasicGo_spec (strs : List Str) (rest : Str) (off : Nat) :
    ∃ skipped rest', rest = skipped ++ rest' ∧
      (skipUntilBasicGo strs rest off).1 = off + bLen skipped ∧
      (rest' ≠ [] → strs.any (·.isPrefixOf rest') = true) ∧
      (∀ k, k < skipped.length → strs.any (·.isPrefixOf (rest.drop k)) = false) := by
  induction rest generalizing off with
  | nil => exact ⟨[], [], rfl, by simp [skipUntilBasicGo], by simp, by simp⟩
  | cons c cs ih =>
    unfold skipUntilBasicGo
    by_cases hc : strs.any (·.isPrefixOf (c :: cs)) = true
    · rw [if_pos hc]
      exact ⟨[], c :: cs, rfl, by simp, fun _ => hc, by simp⟩
    · rw [if_neg hc]
      obtain ⟨sk, r', hr, h1, h2, h3⟩ := ih (off + cLen c)
      refine ⟨c :: sk, r', by simp [hr], by rw [h1]; simp; omega, h2, ?_⟩
      intro k hk
      cases k with
      | zero => simpa using hc
      | succ k => simpa using h3 k (by simpa using hk)

/-- the needle search of `memmem` equals the basic search with a single string. -/
theorem memmemGo_eq_basic (s1 rest : Str) (off : Nat) :
    (memmemGo s1 rest off).getD (off + bLen rest) = (skipUntilBasicGo [s1] rest off).1 := by
  induction rest generalizing off with
  | nil =>
    unfold memmemGo skipUntilBasicGo
    split <;> simp
  | cons c cs ih =>
    unfold memmemGo skipUntilBasicGo
    by_cases hc : s1.isPrefixOf (c :: cs) = true
    · simp [hc]
    · have := ih (off + cLen c)
      simp [hc, Nat.add_assoc] at this ⊢
      exact this

theorem isPrefixOf_cons_head {a c : Char} {as cs : Str}
    (h : (a :: as).isPrefixOf (c :: cs) = true) : a = c := by
  simp [List.isPrefixOf] at h
  exact h.1

/-- the `memchr` candidate filter is lossless when all strings are non-empty and their lead bytes
are among the searched bytes. -/
theorem memchrGo_eq_basic (firsts : List UInt8) (strs : List Str) (rest : Str) (off : Nat)
    (hs : ∀ s ∈ strs, ∃ a as, s = a :: as ∧ leadByte a ∈ firsts) :
    (memchrGo firsts strs rest off).getD (off + bLen rest) = (skipUntilBasicGo strs rest off).1 := by
  induction rest generalizing off with
  | nil => simp [memchrGo, skipUntilBasicGo]
  | cons c cs ih =>
    unfold memchrGo skipUntilBasicGo
    by_cases hc : strs.any (·.isPrefixOf (c :: cs)) = true
    · have hf : firsts.contains (leadByte c) = true := by
        obtain ⟨s, hsm, hp⟩ := List.any_eq_true.1 hc
        obtain ⟨a, as, rfl, hm⟩ := hs s hsm
        have := isPrefixOf_cons_head hp
        subst this
        simpa using hm
      have hf' : leadByte c ∈ firsts := by simpa using hf
      simp [hc, hf']
    · have := ih (off + cLen c)
      simp [hc, Nat.add_assoc] at this ⊢
      exact this

theorem skipUntilBasicGo_nil (rest : Str) (off : Nat) :
    (skipUntilBasicGo [] rest off).1 = off + bLen rest := by
  induction rest generalizing off with
  | nil => simp [skipUntilBasicGo]
  | cons c cs ih => simp [skipUntilBasicGo, ih, Nat.add_assoc]

/-! ### `matchAll` -/

theorem posMatchString_eq {input rest : Str} {pos : Nat} (str : Str)
    (h : restAt input pos = some rest) :
    posMatchString input pos str =
      some (if str.isPrefixOf rest then (true, pos + bLen str) else (false, pos)) := by
  unfold posMatchString
  rw [h]
  simp only []
  split <;> rfl

theorem matchAll_spec' (input rest : Str) (pos : Nat) (xs : List Str)
    (h : restAt input pos = some rest) :
    ∃ b pos', matchAll input xs pos = some (b, pos') ∧
      (b = true ↔ xs.flatten.isPrefixOf rest = true) ∧ (b = true → pos' = pos + bLen xs.flatten) := by
  induction xs generalizing pos rest with
  | nil => exact ⟨true, pos, rfl, by simp, by simp⟩
  | cons x xs ih =>
    unfold matchAll
    rw [posMatchString_eq x h]
    by_cases hp : x.isPrefixOf rest = true
    · obtain ⟨t, rfl⟩ := List.isPrefixOf_iff_prefix.1 hp
      obtain ⟨b, pos', h1, h2, h3⟩ := ih t (pos + bLen x) (restAt_advance h rfl)
      refine ⟨b, pos', by simp [h1], ?_, ?_⟩
      · rw [h2]
        simp [List.isPrefixOf_iff_prefix, List.prefix_append_right_inj]
      · intro hb
        rw [h3 hb]
        simp [Nat.add_assoc]
    · refine ⟨false, pos, by simp [hp], ?_, by simp⟩
      simp only [Bool.false_eq_true, false_iff]
      intro hc
      apply hp
      rw [List.isPrefixOf_iff_prefix] at hc ⊢
      exact List.IsPrefix.trans (by simp) hc

end PestModel.PS
