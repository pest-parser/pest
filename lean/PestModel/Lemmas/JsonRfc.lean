import PestModel.Model.Json
import PestModel.Model.RefSpec
import PestModel.Gen.JsonGrammar
import PestModel.Lemmas.RefAll
/-!
The RFC side of C18 (`PestModel.Json`): cursors, partial functions on cursors and their combinators,
fuel-free forms of `ws` and `digits1`, and the translation of RFC trees to pest trees.
-/
namespace PestModel.Json
open PestModel.LineCol (Str cLen bLen)
open PestModel.PS (restAt restAt_iff restAt_advance)

/-- the cursor is a position of `input`: the rest of the input at byte offset `pos` is `rest`. -/
def At (input : Str) (c : Cur) : Prop := restAt input c.pos = some c.rest

/-- `c'` is reached from `c` by consuming `mid`. -/
def Reach (c c' : Cur) : Prop := ∃ mid, c.rest = mid ++ c'.rest ∧ c'.pos = c.pos + bLen mid

theorem Reach.refl (c : Cur) : Reach c c := ⟨[], by simp, by simp⟩

theorem Reach.trans {a b c : Cur} (h1 : Reach a b) (h2 : Reach b c) : Reach a c := by
  obtain ⟨m1, e1, p1⟩ := h1
  obtain ⟨m2, e2, p2⟩ := h2
  exact ⟨m1 ++ m2, by rw [e1, e2]; simp, by rw [p2, p1]; simp; omega⟩

theorem Reach.adv (c : Cur) : Reach c c.adv := by
  unfold Cur.adv
  split
  · exact Reach.refl c
  · rename_i ch cs h
    exact ⟨[ch], by simp [h], by simp⟩

theorem Reach.len {c c' : Cur} (h : Reach c c') : c'.rest.length ≤ c.rest.length := by
  obtain ⟨m, e, _⟩ := h
  rw [e]; simp

theorem Reach.pos_le {c c' : Cur} (h : Reach c c') : c.pos ≤ c'.pos := by
  obtain ⟨m, _, e⟩ := h
  omega

theorem At.reach {input : Str} {c c' : Cur} (h : At input c) (hr : Reach c c') : At input c' := by
  obtain ⟨m, e, p⟩ := hr
  unfold At at *
  rw [p]
  exact restAt_advance h e

theorem At.adv {input : Str} {c : Cur} (h : At input c) : At input c.adv := h.reach (Reach.adv c)

theorem adv_cons {c : Cur} {ch : Char} {cs : Str} (h : c.rest = ch :: cs) :
    c.adv = ⟨cs, c.pos + cLen ch⟩ := by
  unfold Cur.adv; simp [h]

theorem adv_len_lt {c : Cur} {ch : Char} {cs : Str} (h : c.rest = ch :: cs) :
    c.adv.rest.length < c.rest.length := by
  rw [adv_cons h, h]; simp

theorem At.start (input : Str) : At input ⟨input, 0⟩ :=
  (restAt_iff _ _ _).2 ⟨[], by simp, by simp⟩

theorem At.eoi {input : Str} {c : Cur} (h : At input c) : c.pos = bLen input ↔ c.rest = [] := by
  obtain ⟨pre, e, p⟩ := (restAt_iff _ _ _).1 h
  rw [e, ← p]
  simp only [PestModel.LineCol.bLen_append]
  constructor
  · intro h'
    exact PestModel.LineCol.bLen_eq_zero (by omega)
  · intro h'; rw [h']; simp

/-- one character of the class `p`. -/
def chL (p : Char → Bool) (c : Cur) : Option Cur :=
  match c.rest with
  | ch :: _ => if p ch then some c.adv else none
  | [] => none

theorem chL_nil {c : Cur} (hr : c.rest = []) (p : Char → Bool) : chL p c = none := by
  unfold chL; rw [hr]

theorem chL_cons {c : Cur} {ch : Char} {cs : Str} (hr : c.rest = ch :: cs) (p : Char → Bool) :
    chL p c = if p ch then some c.adv else none := by
  unfold chL; rw [hr]

theorem chL_eq_adv {p : Char → Bool} {c c' : Cur} (h : chL p c = some c') : c' = c.adv := by
  unfold chL at h
  split at h
  · split at h
    · cases h; rfl
    · cases h
  · cases h

theorem chL_reach {p : Char → Bool} {c c' : Cur} (h : chL p c = some c') : Reach c c' :=
  chL_eq_adv h ▸ Reach.adv c

abbrev Lex := Cur → Option Cur

def seqL (A B : Lex) : Lex := fun c => (A c).bind B

def orL (A B : Lex) : Lex := fun c =>
  match A c with
  | some c' => some c'
  | none => B c

def optL (A : Lex) : Lex := fun c => some ((A c).getD c)

/-- skip the longest run of characters of the class `p`. -/
def spanL (p : Char → Bool) : Str → Nat → Cur
  | [], q => ⟨[], q⟩
  | ch :: cs, q => if p ch then spanL p cs (q + cLen ch) else ⟨ch :: cs, q⟩

theorem spanL_cons (p : Char → Bool) (ch : Char) (cs : Str) (q : Nat) :
    spanL p (ch :: cs) q = if p ch then spanL p cs (q + cLen ch) else ⟨ch :: cs, q⟩ := rfl

def spanC (p : Char → Bool) (c : Cur) : Cur := spanL p c.rest c.pos

def manyL (p : Char → Bool) : Lex := fun c => some (spanC p c)

theorem spanL_reach (p : Char → Bool) (rest : Str) (q : Nat) : Reach ⟨rest, q⟩ (spanL p rest q) := by
  induction rest generalizing q with
  | nil => exact Reach.refl _
  | cons ch cs ih =>
    rw [spanL_cons]
    split
    · exact Reach.trans ⟨[ch], by simp, by simp⟩ (ih _)
    · exact Reach.refl _

theorem spanC_reach (p : Char → Bool) (c : Cur) : Reach c (spanC p c) := spanL_reach p _ _

theorem spanC_chL (p : Char → Bool) (c : Cur) :
    spanC p c = match chL p c with | some d => spanC p d | none => c := by
  obtain ⟨rest, q⟩ := c
  cases rest with
  | nil => rfl
  | cons ch cs => simp only [spanC, spanL_cons, chL]; cases p ch <;> rfl

theorem spanC_idem (p : Char → Bool) (c : Cur) : spanC p (spanC p c) = spanC p c := by
  obtain ⟨rest, q⟩ := c
  induction rest generalizing q with
  | nil => rfl
  | cons ch cs ih =>
    cases hp : p ch
    · simp [spanC, spanL_cons, hp]
    · have : spanC p ⟨ch :: cs, q⟩ = spanC p ⟨cs, q + cLen ch⟩ := by simp [spanC, spanL_cons, hp]
      rw [this]; exact ih _

/-- `L` only moves forward. -/
def Adv (L : Lex) : Prop := ∀ c c', L c = some c' → Reach c c'

theorem Adv.ch (p : Char → Bool) : Adv (chL p) := fun _ _ => chL_reach

theorem Adv.seq {A B : Lex} (hA : Adv A) (hB : Adv B) : Adv (seqL A B) := by
  intro c c' h
  unfold seqL at h
  cases hc : A c with
  | none => rw [hc] at h; cases h
  | some d => rw [hc] at h; exact (hA _ _ hc).trans (hB _ _ h)

theorem Adv.or {A B : Lex} (hA : Adv A) (hB : Adv B) : Adv (orL A B) := by
  intro c c' h
  unfold orL at h
  cases hc : A c with
  | none => rw [hc] at h; exact hB _ _ h
  | some d => rw [hc] at h; cases h; exact hA _ _ hc

theorem Adv.getD {A : Lex} (hA : Adv A) (c : Cur) : Reach c ((A c).getD c) := by
  cases h : A c with
  | none => exact Reach.refl c
  | some c' => exact hA c c' h

theorem Adv.opt {A : Lex} (hA : Adv A) : Adv (optL A) := fun c _ h => by cases h; exact hA.getD c

theorem Adv.many (p : Char → Bool) : Adv (manyL p) := fun c _ h => by cases h; exact spanC_reach p c

theorem chL_lit {c : Cur} {a : Char} {tl : Str} (hr : c.rest = a :: tl) : chL (· == a) c = some c.adv := by
  rw [chL_cons hr]; simp

theorem chL_lit_none {c : Cur} {a : Char} (h : ∀ tl, c.rest = a :: tl → False) : chL (· == a) c = none := by
  cases hr : c.rest with
  | nil => exact chL_nil hr _
  | cons ch cs =>
    have : ¬ ch = a := fun e => h cs (e ▸ hr)
    rw [chL_cons hr]; simp [this]

/-- the first character of the rest is `a`. -/
def hd (c : Cur) (a : Char) : Bool := (chL (· == a) c).isSome

theorem hd_cons {c : Cur} {ch : Char} {cs : Str} (hr : c.rest = ch :: cs) (a : Char) : hd c a = (ch == a) := by
  unfold hd; rw [chL_cons hr]; cases ch == a <;> rfl

theorem hd_nil {c : Cur} (hr : c.rest = []) (a : Char) : hd c a = false := by
  unfold hd; rw [chL_nil hr]; rfl

theorem hd_of_rest {c : Cur} {a : Char} {tl : Str} (hr : c.rest = a :: tl) : hd c a = true := by
  unfold hd; rw [chL_lit hr]; rfl

theorem hd_of_not_rest {c : Cur} {a : Char} (h : ∀ tl, c.rest = a :: tl → False) : hd c a = false := by
  unfold hd; rw [chL_lit_none h]; rfl

theorem chL_len_lt {p : Char → Bool} {c c' : Cur} (h : chL p c = some c') : c'.rest.length < c.rest.length := by
  cases hr : c.rest with
  | nil => rw [chL_nil hr] at h; cases h
  | cons ch cs => rw [chL_eq_adv h, ← hr]; exact adv_len_lt hr

theorem seqL_ch_len_lt {p : Char → Bool} {B : Lex} (hB : Adv B) {c c' : Cur} (h : seqL (chL p) B c = some c') :
    c'.rest.length < c.rest.length := by
  unfold seqL at h
  cases hc : chL p c with
  | none => rw [hc] at h; cases h
  | some d => rw [hc] at h; have := chL_len_lt hc; have := (hB _ _ h).len; omega

theorem seqL_ch (p : Char → Bool) (B : Lex) (c : Cur) :
    seqL (chL p) B c = match c.rest with | ch :: _ => if p ch then B c.adv else none | [] => none := by
  unfold seqL chL
  cases c.rest with
  | nil => rfl
  | cons ch cs => simp only []; cases p ch <;> rfl

theorem chL_of_hd_false {c : Cur} {a : Char} (h : hd c a = false) : chL (· == a) c = none := by
  unfold hd at h
  cases hc : chL (· == a) c with
  | none => rfl
  | some d => rw [hc] at h; cases h

theorem rest_of_hd {c : Cur} {a : Char} (h : hd c a = true) : ∃ cs, c.rest = a :: cs := by
  cases hr : c.rest with
  | nil => rw [hd_nil hr] at h; cases h
  | cons ch cs => rw [hd_cons hr] at h; exact ⟨cs, by rw [eq_of_beq h]⟩

theorem chL_lit_ne {c c' : Cur} {a b : Char} (h : chL (· == a) c = some c') (hab : b ≠ a) :
    chL (· == b) c = none := by
  obtain ⟨cs, hr⟩ := rest_of_hd (show hd c a = true by unfold hd; rw [h]; rfl)
  rw [chL_cons hr, if_neg]
  simpa using hab.symm

theorem chL_or (p q : Char → Bool) : orL (chL p) (chL q) = chL fun ch => p ch || q ch := by
  funext c
  unfold orL
  cases hr : c.rest with
  | nil => simp only [chL_nil hr]
  | cons ch cs => simp only [chL_cons hr]; cases p ch <;> rfl

def isWs (ch : Char) : Prop := ch = ' ' ∨ ch = '\t' ∨ ch = '\n' ∨ ch = '\r'

instance (ch : Char) : Decidable (isWs ch) := by unfold isWs; infer_instance

def wsC (c : Cur) : Cur := spanC (fun ch => isWs ch) c

theorem ws_eq_span (n : Nat) (rest : Str) (p : Nat) (h : rest.length ≤ n) :
    ws n ⟨rest, p⟩ = spanL (fun ch => isWs ch) rest p := by
  induction n generalizing rest p with
  | zero =>
    cases rest with
    | nil => rfl
    | cons ch cs => simp at h
  | succ n ih =>
    cases rest with
    | nil => rfl
    | cons ch cs =>
      show (if ch = ' ' ∨ ch = '\t' ∨ ch = '\n' ∨ ch = '\r' then ws n (Cur.adv ⟨ch :: cs, p⟩) else _) = _
      rw [spanL_cons]
      by_cases hw : isWs ch
      · rw [if_pos (decide_eq_true hw), if_pos (show _ ∨ _ from hw), adv_cons rfl]
        exact ih cs _ (by simpa using h)
      · rw [if_neg (fun e => hw (of_decide_eq_true e)), if_neg (show ¬ (_ ∨ _) from hw)]

theorem ws_eq (n : Nat) (c : Cur) (h : c.rest.length ≤ n) : ws n c = wsC c := by
  cases c; exact ws_eq_span n _ _ h

theorem wsC_reach (c : Cur) : Reach c (wsC c) := spanC_reach _ c

theorem wsC_idem (c : Cur) : wsC (wsC c) = wsC c := spanC_idem _ c

def digL : Str → Nat → Cur
  | [], p => ⟨[], p⟩
  | ch :: cs, p => if isDigit ch then digL cs (p + cLen ch) else ⟨ch :: cs, p⟩

def digC (c : Cur) : Cur := digL c.rest c.pos

theorem digL_eq_span : ∀ (rest : Str) (p : Nat), digL rest p = spanL isDigit rest p
  | [], _ => rfl
  | ch :: cs, p => by
    show (if isDigit ch then digL cs (p + cLen ch) else _) = _
    rw [spanL_cons, digL_eq_span cs]

theorem digC_reach (c : Cur) : Reach c (digC c) := by
  rw [digC, digL_eq_span]; exact spanC_reach isDigit c

theorem digits1_nil (n : Nat) (p : Nat) : digits1 n ⟨[], p⟩ = none := by
  cases n <;> rfl

theorem digits1_cons (n : Nat) (ch : Char) (cs : Str) (p : Nat) (h : cs.length < n) :
    digits1 n ⟨ch :: cs, p⟩ = if isDigit ch then some (spanL isDigit cs (p + cLen ch)) else none := by
  induction n generalizing ch cs p with
  | zero => omega
  | succ n ih =>
    show (if isDigit ch then (match digits1 n (Cur.adv ⟨ch :: cs, p⟩) with | some c' => _ | none => _) else _) = _
    split
    · rw [adv_cons rfl]
      cases cs with
      | nil => rw [digits1_nil]; rfl
      | cons d ds =>
        rw [ih d ds _ (by simpa using h)]
        rw [spanL_cons]
        by_cases hd : isDigit d = true <;> simp [hd]
    · rfl

/-- rule id of a label of the RFC tree (`EOI` = number of rules); `C18.ruleId` is the same definition, and
`JT` below is `C18.toTree` by structural recursion. -/
def ruleIdx (label : String) : Nat :=
  match PestModel.Gen.Json.rules.findIdx? (·.name = label) with
  | some i => i
  | none => PestModel.Gen.Json.rules.length

mutual
  def JT : JTree → PestModel.Views.Tree
    | .node l a b ks => .node (ruleIdx l) a b none (JTs ks)
  def JTs : List JTree → List PestModel.Views.Tree
    | [] => []
    | k :: ks => JT k :: JTs ks
end

theorem JTs_eq_map (ks : List JTree) : JTs ks = ks.map JT := by
  induction ks with
  | nil => rfl
  | cons k ks ih => exact congrArg (JT k :: ·) ih

theorem JT_node (l : String) (a b : Nat) (ks : List JTree) :
    JT (.node l a b ks) = .node (ruleIdx l) a b none (ks.map JT) := by
  exact congrArg (PestModel.Views.Tree.node (ruleIdx l) a b none) (JTs_eq_map ks)

end PestModel.Json
