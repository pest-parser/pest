import PestModel.Lemmas.RefLim
/-! The fuel-free semantics `val` (the components of `V c`): how it relates to the levels, to
`Evals` / `Equiv` / `Means`, and its defining equations. -/
namespace PestModel.Ref
open PestModel.G
open PestModel.LineCol (Str bLen cLen splitAt?)
open PestModel.Views (Tree)
open PestModel.PS (Atomicity CharSet restAt asciiLower eqIgnoreAsciiCase normalizeIndex)

noncomputable def val (c : Ctx) := (V c).d
noncomputable def valL (c : Ctx) := (V c).l
noncomputable def valK (c : Ctx) := (V c).k
noncomputable def valSt (c : Ctx) := (V c).st
noncomputable def valCl (c : Ctx) := (V c).cl
noncomputable def valCa (c : Ctx) := (V c).ca

theorem V_of_lev {c : Ctx} {n : Nat} {q : Q} {r : Res} (h : (lev c n).at q = r) (hr : r ≠ .fuel) :
    (V c).at q = r := by
  rcases lev_le_V c n q with h1 | h1
  · exact absurd (h ▸ h1) hr
  · exact h1 ▸ h

theorem exists_lev (c : Ctx) (q : Q) : ∃ n, (lev c n).at q = (V c).at q :=
  let ⟨N, hN⟩ := lev_conv c q
  ⟨N, hN N (Nat.le_refl _)⟩

/-- Fixpoint induction for the flat order: a property of results that `.fuel` has and one
unfolding keeps holds of the limit, since every value of the limit is reached at some level. -/
theorem V_induct (c : Ctx) {Φ : Q → Res → Prop} (h0 : ∀ q, Φ q .fuel)
    (hs : ∀ X : Fam, (∀ q, Φ q (X.at q)) → ∀ q, Φ q ((step c X).at q)) (q : Q) : Φ q ((V c).at q) := by
  obtain ⟨n, hn⟩ := exists_lev c q
  exact hn ▸ lev_induct c (P := fun X => ∀ q, Φ q (X.at q)) (fun _ h q => h q ▸ h0 q) hs n q

theorem valCa_of_call {c : Ctx} {n m la nm s r} (h : call c n m la nm s = r) (hr : r ≠ .fuel) :
    valCa c m la nm s = r := V_of_lev (q := .ca m la nm s) h hr

theorem exists_call (c : Ctx) m la nm s : ∃ n, call c n m la nm s = valCa c m la nm s := exists_lev c (.ca m la nm s)

theorem evals_iff (c : Ctx) m la e s r : Evals c m la e s r ↔ r ≠ .fuel ∧ val c m la e s = r := by
  constructor
  · rintro ⟨hr, n, hn⟩
    exact ⟨hr, V_of_lev (q := .d m la e s) hn hr⟩
  · rintro ⟨hr, hv⟩
    obtain ⟨n, hn⟩ := exists_lev c (.d m la e s)
    exact ⟨hr, n, hn.trans hv⟩

theorem equiv_iff (c : Ctx) m e e' : Equiv c m e e' ↔ ∀ la s, val c m la e s = val c m la e' s := by
  constructor
  · intro h la s
    have h1 := h la s (val c m la e s)
    have h2 := h la s (val c m la e' s)
    rw [evals_iff, evals_iff] at h1 h2
    by_cases hf : val c m la e s = .fuel
    · by_cases hf' : val c m la e' s = .fuel
      · rw [hf, hf']
      · exact (h2.2 ⟨hf', rfl⟩).2
    · exact (h1.1 ⟨hf, rfl⟩).2.symm
  · intro h la s r
    simp only [evals_iff, h la s]

theorem means_iff (rules : List Rule) extras uni rule input r :
    Means rules extras uni rule input r ↔
      r ≠ .fuel ∧ valCa { rules := rules, input := input, extras := extras, uni := uni } .nonAtomic false rule ⟨0, []⟩ = r := by
  unfold Means meaning
  constructor
  · rintro ⟨hr, n, hn⟩
    exact ⟨hr, valCa_of_call hn hr⟩
  · rintro ⟨hr, hv⟩
    obtain ⟨n, hn⟩ := exists_call { rules := rules, input := input, extras := extras, uni := uni } .nonAtomic false rule ⟨0, []⟩
    exact ⟨hr, n, hn.trans hv⟩

section
variable {rules rules' : List Rule} {extras : Bool} {uni : String → Option CharSet} {rule : String} {input : Str}

/-- whole parses under two rule sets, compared through the start rule's call. -/
theorem means_of_le (h : (valCa { rules := rules', input := input, extras := extras, uni := uni } .nonAtomic false rule ⟨0, []⟩).le
      (valCa { rules := rules, input := input, extras := extras, uni := uni } .nonAtomic false rule ⟨0, []⟩)) (r : Res) :
    Means rules' extras uni rule input r → Means rules extras uni rule input r := by
  rw [means_iff, means_iff]
  rintro ⟨hr, hv⟩
  rcases h with h | h
  · exact absurd (hv.symm.trans h) hr
  · exact ⟨hr, h.symm.trans hv⟩

theorem means_congr (h : valCa { rules := rules', input := input, extras := extras, uni := uni } .nonAtomic false rule ⟨0, []⟩ =
      valCa { rules := rules, input := input, extras := extras, uni := uni } .nonAtomic false rule ⟨0, []⟩) (r : Res) :
    Means rules extras uni rule input r ↔ Means rules' extras uni rule input r := by
  rw [means_iff, means_iff, h]

end

section
variable (c : Ctx) (m : Atomicity) (la : Bool)

theorem val_step (e : Expr) : val c m la e = denoteF c (V c) m la e := congrArg (fun X : Fam => X.d m la e) (V_fix c)
theorem valL_step (e : Expr) : valL c m la e = repLoopF (V c) m la e := congrArg (fun X : Fam => X.l m la e) (V_fix c)
theorem valK_step : valK c m la = skipWsF c (V c) m la := congrArg (fun X : Fam => X.k m la) (V_fix c)
theorem valSt_step (nm : String) : valSt c la nm = starF (V c) la nm := congrArg (fun X : Fam => X.st la nm) (V_fix c)
theorem valCl_step : valCl c la = commentLoopF (V c) la := congrArg (fun X : Fam => X.cl la) (V_fix c)
theorem valCa_step (nm : String) : valCa c m la nm = callF c (V c) m la nm := congrArg (fun X : Fam => X.ca m la nm) (V_fix c)

end

theorem val_eq (c : Ctx) m la e s : val c m la e s = denoteF c (V c) m la e s := congrFun (val_step c m la e) s
theorem valL_eq (c : Ctx) m la e s acc : valL c m la e s acc = repLoopF (V c) m la e s acc :=
  congrFun (congrFun (valL_step c m la e) s) acc
theorem valK_eq (c : Ctx) m la s : valK c m la s = skipWsF c (V c) m la s := congrFun (valK_step c m la) s
theorem valSt_eq (c : Ctx) la nm s acc : valSt c la nm s acc = starF (V c) la nm s acc :=
  congrFun (congrFun (valSt_step c la nm) s) acc
theorem valCl_eq (c : Ctx) la s acc : valCl c la s acc = commentLoopF (V c) la s acc :=
  congrFun (congrFun (valCl_step c la) s) acc
theorem valCa_eq (c : Ctx) m la nm s : valCa c m la nm s = callF c (V c) m la nm s := congrFun (valCa_step c m la nm) s

section
variable (c : Ctx) (m : Atomicity) (la : Bool) (s : St)

theorem val_str (str : Str) : val c m la (.str str) s = lit c s str := by rw [val_eq]; rfl
theorem val_range (a b : Char) : val c m la (.range a b) s = oneChar c s (fun ch => a ≤ ch ∧ ch ≤ b) := by
  rw [val_eq]; rfl
theorem val_ident (n : String) : val c m la (.ident n) s = valCa c m la n s := by rw [val_eq]; rfl
theorem val_posPred (e : Expr) : val c m la (.posPred e) s =
    match val c m true e s with
    | .ok _ _ => .ok s []
    | r => r := by rw [val_eq]; rfl
theorem val_negPred (e : Expr) : val c m la (.negPred e) s =
    match val c m true e s with
    | .ok _ _ => .fail
    | .fail => .ok s []
    | r => r := by rw [val_eq]; rfl
theorem val_seq (a b : Expr) : val c m la (.seq a b) s =
    match val c m la a s with
    | .ok s1 f1 =>
      match valK c m la s1 with
      | .ok s2 f2 =>
        match val c m la b s2 with
        | .ok s3 f3 => .ok s3 (f1 ++ f2 ++ f3)
        | r => r
      | r => r
    | r => r := by rw [val_eq]; rfl
theorem val_choice (a b : Expr) : val c m la (.choice a b) s =
    match val c m la a s with
    | .fail => val c m la b s
    | r => r := by rw [val_eq]; rfl
theorem val_opt (e : Expr) : val c m la (.opt e) s =
    match val c m la e s with
    | .fail => .ok s []
    | r => r := by rw [val_eq]; rfl
theorem val_rep (e : Expr) : val c m la (.rep e) s =
    match val c m la e s with
    | .ok s1 f1 => valL c m la e s1 f1
    | .fail => .ok s []
    | r => r := by rw [val_eq]; rfl
theorem val_repOnce (e : Expr) : val c m la (.repOnce e) s =
    if c.extras then
      match val c m la e s with
      | .ok s1 f1 => valL c m la e s1 f1
      | r => r
    else val c m la (.seq e (.rep e)) s := by rw [val_eq]; rfl
theorem val_skip (strs : List Str) : val c m la (.skip strs) s =
    match restAt c.input s.pos with
    | some rest => .ok { s with pos := search strs rest s.pos } []
    | none => .fail := by rw [val_eq]; rfl
theorem val_push (e : Expr) : val c m la (.push e) s =
    match val c m la e s with
    | .ok s1 f1 =>
      match PestModel.LineCol.slice? c.input s.pos s1.pos with
      | some str => .ok { s1 with stack := str :: s1.stack } f1
      | none => .stuck
    | r => r := by rw [val_eq]; rfl
theorem val_pushLiteral (str : Str) : val c m la (.pushLiteral str) s = .ok { s with stack := str :: s.stack } [] := by
  rw [val_eq]; rfl
theorem val_nodeTag (e : Expr) (t : Str) : val c m la (.nodeTag e t) s =
    match val c m la e s with
    | .ok s1 f1 => .ok s1 (if la then f1 else setLastTag f1 t)
    | r => r := by rw [val_eq]; rfl
theorem val_repExact (e : Expr) (n : Nat) : val c m la (.repExact e n) s =
    match seqOfList (List.replicate n e) with
    | some u => val c m la u s
    | none => .stuck := by rw [val_eq]; rfl
theorem val_repMin (e : Expr) (n : Nat) : val c m la (.repMin e n) s =
    match seqOfList (List.replicate n e ++ [.rep e]) with
    | some u => val c m la u s
    | none => .stuck := by rw [val_eq]; rfl
theorem val_repMax (e : Expr) (n : Nat) : val c m la (.repMax e n) s =
    match seqOfList (List.replicate n (.opt e)) with
    | some u => val c m la u s
    | none => .stuck := by rw [val_eq]; rfl
theorem val_repMinMax (e : Expr) (lo hi : Nat) : val c m la (.repMinMax e lo hi) s =
    match seqOfList ((List.range hi).map fun i => if i + 1 ≤ lo then e else .opt e) with
    | some u => val c m la u s
    | none => .stuck := by rw [val_eq]; rfl

theorem valL_unfold (e : Expr) (acc : List Tree) : valL c m la e s acc =
    match valK c m la s with
    | .ok s1 f1 =>
      match val c m la e s1 with
      | .ok s2 f2 => valL c m la e s2 (acc ++ f1 ++ f2)
      | .fail => .ok s acc
      | r => r
    | .fail => .ok s acc
    | r => r := by rw [valL_eq]; rfl

theorem valK_atomic (h : m ≠ .nonAtomic) : valK c m la s = .ok s [] := by
  rw [valK_eq]; simp [skipWsF, h]

theorem valCa_unfold (nm : String) : valCa c m la nm s =
    match c.rule? nm with
    | some (id, r) =>
      match val c (bodyMode r.name r.ty m) la r.expr s with
      | .ok s1 f1 =>
        if emitsFor r.ty m la then .ok s1 [.node id s.pos s1.pos none f1] else .ok s1 f1
      | res => res
    | none => builtin c m la nm s := by rw [valCa_eq]; rfl

theorem valSt_unfold (nm : String) (acc : List Tree) : valSt c la nm s acc =
    match valCa c .nonAtomic la nm s with
    | .ok s1 f1 => valSt c la nm s1 (acc ++ f1)
    | .fail => .ok s acc
    | r => r := by rw [valSt_eq]; rfl

theorem valCl_unfold (acc : List Tree) : valCl c la s acc =
    match valCa c .nonAtomic la "COMMENT" s with
    | .ok s1 f1 =>
      match valSt c la "WHITESPACE" s1 [] with
      | .ok s2 f2 => valCl c la s2 (acc ++ f1 ++ f2)
      | r => r
    | .fail => .ok s acc
    | r => r := by rw [valCl_eq]; rfl

theorem valK_unfold : valK c m la s =
    if m ≠ .nonAtomic then .ok s [] else
    match c.has "WHITESPACE", c.has "COMMENT" with
    | false, false => .ok s []
    | true, false => valSt c la "WHITESPACE" s []
    | false, true => valSt c la "COMMENT" s []
    | true, true =>
      match valSt c la "WHITESPACE" s [] with
      | .ok s1 f1 => valCl c la s1 f1
      | r => r := by rw [valK_eq]; rfl

/-! Bounded repetitions are unrolled into sequences; `e{n}` is `e{n,n}` and `e{,n}` is `e{0,n}`. -/

theorem val_repExact_eq (e : Expr) (n : Nat) : val c m la (.repExact e n) s = val c m la (.repMinMax e n n) s := by
  have : (List.range n).map (fun i => if i + 1 ≤ n then e else Expr.opt e) = List.replicate n e := by
    apply List.ext_getElem <;> simp
    intro i h1; omega
  rw [val_repExact, val_repMinMax, this]

theorem val_repMax_eq (e : Expr) (n : Nat) : val c m la (.repMax e n) s = val c m la (.repMinMax e 0 n) s := by
  have : (List.range n).map (fun i => if i + 1 ≤ 0 then e else Expr.opt e) = List.replicate n (Expr.opt e) := by
    apply List.ext_getElem <;> simp
  rw [val_repMax, val_repMinMax, this]

end

/-! ### definite results through the constructs

A result other than `.fuel` is *definite*. Each lemma says which sub-evaluations have to be definite. -/

section
variable {c : Ctx} {m : Atomicity} {la : Bool} {s : St}

theorem val_opt_ne_fuel {e : Expr} (h : val c m la e s ≠ .fuel) : val c m la (.opt e) s ≠ .fuel :=
  val_opt .. ▸ Res.orElse_ne h nofun

theorem val_posPred_ne_fuel {e : Expr} (h : val c m true e s ≠ .fuel) : val c m la (.posPred e) s ≠ .fuel :=
  val_posPred .. ▸ Res.bind_ne' h fun _ _ _ => nofun

theorem val_negPred_ne_fuel {e : Expr} (h : val c m true e s ≠ .fuel) : val c m la (.negPred e) s ≠ .fuel :=
  val_negPred .. ▸ Res.bind_ne h (fun _ _ _ => nofun) nofun

theorem val_nodeTag_ne_fuel {e : Expr} {t : Str} (h : val c m la e s ≠ .fuel) :
    val c m la (.nodeTag e t) s ≠ .fuel :=
  val_nodeTag .. ▸ Res.bind_ne' h fun _ _ _ => nofun

theorem val_choice_ne_fuel {a b : Expr} (ha : val c m la a s ≠ .fuel) (hb : val c m la b s ≠ .fuel) :
    val c m la (.choice a b) s ≠ .fuel :=
  val_choice .. ▸ Res.orElse_ne ha hb

theorem val_seq_ne_fuel {a b : Expr} (ha : val c m la a s ≠ .fuel)
    (hk : ∀ s1 f1, val c m la a s = .ok s1 f1 → valK c m la s1 ≠ .fuel)
    (hb : ∀ s1 f1 s2 f2, val c m la a s = .ok s1 f1 → valK c m la s1 = .ok s2 f2 → val c m la b s2 ≠ .fuel) :
    val c m la (.seq a b) s ≠ .fuel := by
  rw [val_seq]
  refine Res.bind_ne' ha fun s1 f1 h1 => ?_
  refine Res.bind_ne' (hk s1 f1 h1) fun s2 f2 h2 => ?_
  exact Res.bind_ne' (hb s1 f1 s2 f2 h1 h2) fun _ _ _ => nofun

/-- a successful sequence, taken apart. -/
theorem val_seq_ok {a b : Expr} {s' : St} {f : List Tree} (h : val c m la (.seq a b) s = .ok s' f) :
    ∃ s1 f1 s2 f2 f3, val c m la a s = .ok s1 f1 ∧ valK c m la s1 = .ok s2 f2 ∧ val c m la b s2 = .ok s' f3 := by
  rw [val_seq] at h
  obtain ⟨s1, f1, h1, h⟩ := Res.bind_eq_ok' h
  obtain ⟨s2, f2, h2, h⟩ := Res.bind_eq_ok' h
  obtain ⟨s3, f3, h3, h⟩ := Res.bind_eq_ok' h
  cases h
  exact ⟨s1, f1, s2, f2, f3, h1, h2, h3⟩

end

/-- a call that needs `d` more fuel whenever the calls it leads back to (those satisfying `P`) have not
finished needs unbounded fuel. -/
theorem call_diverges_of_step {c : Ctx} {nm : String} {d : Nat} {P : Atomicity → Bool → St → Prop}
    (hstep : ∀ k, (∀ m la s, P m la s → call c k m la nm s = .fuel) →
      ∀ m la s, P m la s → call c (k + d) m la nm s = .fuel) (hd : 0 < d) :
    ∀ k m la s, P m la s → call c k m la nm s = .fuel := by
  intro k
  induction k with
  | zero => intro m la s _; rfl
  | succ k ih =>
    intro m la s hP
    rcases (lev_mono c (show k + 1 ≤ k + d by omega)).ca m la nm s with h | h
    · exact h
    · exact h.trans (hstep k ih m la s hP)

end PestModel.Ref
