import PestModel.Lemmas.RefSim
/-! The optimizer pipeline (without `list`). -/
namespace PestModel.Ref
open PestModel.G
open PestModel.LineCol (Str bLen cLen splitAt?)
open PestModel.Views (Tree)
open PestModel.PS (Atomicity CharSet restAt asciiLower eqIgnoreAsciiCase normalizeIndex)

theorem ofOptimized_wrapBranching (extras : Bool) (rules : List ORule) (x : OExpr) :
    ofOptimized (wrapBranching extras rules x) = ofOptimized x := by
  cases x <;> simp only [wrapBranching] <;> try rfl
  case choice a b => split <;> split <;> rfl
  case opt e => split <;> rfl
  case rep e => split <;> rfl

theorem ofOptimized_omapBottomUp (extras : Bool) (f : OExpr → OExpr) (hf : ∀ x, ofOptimized (f x) = ofOptimized x)
    (o : OExpr) : ofOptimized (omapBottomUp extras f o) = ofOptimized o := by
  induction o <;> simp only [omapBottomUp] <;> try (rw [hf])
  case posPred e ih => simp only [ofOptimized, ih]
  case negPred e ih => simp only [ofOptimized, ih]
  case seq a b iha ihb => simp only [ofOptimized, iha, ihb]
  case choice a b iha ihb => simp only [ofOptimized, iha, ihb]
  case opt e ih => simp only [ofOptimized, ih]
  case rep e ih => simp only [ofOptimized, ih]
  case push e ih => simp only [ofOptimized, ih]
  case repOnce e ih => split <;> rw [hf] <;> simp only [ofOptimized, ih]
  case nodeTag e t ih => split <;> rw [hf] <;> simp only [ofOptimized, ih]

theorem ofOptimized_toOptimized (extras : Bool) (e : Expr) (o : OExpr) (h : toOptimized extras e = some o) :
    ofOptimized o = e := by
  induction e generalizing o <;> simp only [toOptimized, Option.some.injEq, Option.map_eq_some_iff,
    Option.bind_eq_some_iff] at h
  case str s => subst h; rfl
  case insens s => subst h; rfl
  case range a b => subst h; rfl
  case ident n => subst h; rfl
  case peekSlice a b => subst h; rfl
  case skip ss => subst h; rfl
  case pushLiteral s => subst h; rfl
  case posPred e ih => obtain ⟨o1, h1, rfl⟩ := h; simp only [ofOptimized, ih _ h1]
  case negPred e ih => obtain ⟨o1, h1, rfl⟩ := h; simp only [ofOptimized, ih _ h1]
  case seq a b iha ihb => obtain ⟨o1, h1, o2, h2, rfl⟩ := h; simp only [ofOptimized, iha _ h1, ihb _ h2]
  case choice a b iha ihb => obtain ⟨o1, h1, o2, h2, rfl⟩ := h; simp only [ofOptimized, iha _ h1, ihb _ h2]
  case opt e ih => obtain ⟨o1, h1, rfl⟩ := h; simp only [ofOptimized, ih _ h1]
  case rep e ih => obtain ⟨o1, h1, rfl⟩ := h; simp only [ofOptimized, ih _ h1]
  case push e ih => obtain ⟨o1, h1, rfl⟩ := h; simp only [ofOptimized, ih _ h1]
  case nodeTag e t ih => obtain ⟨o1, h1, rfl⟩ := h; simp only [ofOptimized, ih _ h1]
  case repOnce e ih =>
    split at h
    · simp only [Option.map_eq_some_iff] at h
      obtain ⟨o1, h1, rfl⟩ := h; simp only [ofOptimized, ih _ h1]
    · simp at h
  all_goals simp at h

/-! ### the passes are the identity on the expressions that `populate_choices` inlines -/

inductive LitChoice : Expr → Prop
  | str (s : Str) : LitChoice (.str s)
  | ident (n : String) : LitChoice (.ident n)
  | choiceStr (s : Str) {rhs : Expr} : LitChoice rhs → LitChoice (.choice (.str s) rhs)
  | choiceIdent (n : String) {rhs : Expr} : LitChoice rhs → LitChoice (.choice (.ident n) rhs)

theorem litChoice_of_pop {rules : List Rule} {e : Expr} {own : List Str} (h : Pop rules e own) : LitChoice e := by
  induction h with
  | str s => exact .str s
  | ident _ _ _ => exact .ident _
  | choiceStr s _ ih => exact .choiceStr s ih
  | choiceIdent _ _ _ _ ih => exact .choiceIdent _ ih

theorem mapTopDown_litChoice (f : Expr → Expr) (hf : ∀ x, LitChoice x → f x = x) {e : Expr} (he : LitChoice e) :
    ∀ n, mapTopDown f n e = e := by
  induction he with
  | str s => intro n; cases n <;> simp [mapTopDown, hf _ (.str s)]
  | ident nm => intro n; cases n <;> simp [mapTopDown, hf _ (.ident nm)]
  | choiceStr s hr ih =>
    intro n
    cases n with
    | zero => rfl
    | succ n =>
      rw [mapTopDown, hf _ (.choiceStr s hr)]
      simp only [ih n]
      cases n <;> simp [mapTopDown, hf _ (.str s)]
  | choiceIdent nm hr ih =>
    intro n
    cases n with
    | zero => rfl
    | succ n =>
      rw [mapTopDown, hf _ (.choiceIdent nm hr)]
      simp only [ih n]
      cases n <;> simp [mapTopDown, hf _ (.ident nm)]

theorem rotateInternal_litChoice {x : Expr} (hx : LitChoice x) (n : Nat) : rotateInternal n x = x := by
  cases n with
  | zero => rfl
  | succ n => cases hx <;> simp [rotateInternal]

theorem skipF_litChoice (rules : List Rule) {x : Expr} (hx : LitChoice x) : skipF rules x = x := by
  cases hx <;> simp [skipF]

theorem factorF_litChoice (ty : RuleType) {x : Expr} (hx : LitChoice x) : factorF ty x = x := by
  cases hx with
  | str s => simp [factorF]
  | ident n => simp [factorF]
  | choiceStr s hr => cases hr <;> simp [factorF]
  | choiceIdent n hr => cases hr <;> simp [factorF]

theorem unrollExpr_litChoice (extras : Bool) {x : Expr} (hx : LitChoice x) : unrollExpr extras x = some x := by
  induction hx with
  | str s => simp [unrollExpr, unrollF]
  | ident n => simp [unrollExpr, unrollF]
  | choiceStr s hr ih => simp [unrollExpr, unrollF, ih]
  | choiceIdent n hr ih => simp [unrollExpr, unrollF, ih]

theorem concat_litChoice {x : Expr} (hx : LitChoice x) : mapBottomUp concatF x = x := by
  induction hx with
  | str s => simp [mapBottomUp, concatF]
  | ident n => simp [mapBottomUp, concatF]
  | choiceStr s hr ih => simp [mapBottomUp, concatF, ih]
  | choiceIdent n hr ih => simp [mapBottomUp, concatF, ih]

/-- the AST passes leave a rule whose body is a choice of literals / identifiers unchanged. -/
theorem astPasses_litChoice (extras : Bool) (rules : List Rule) (r : Rule) (hr : LitChoice r.expr) :
    astPasses extras false rules r = some r := by
  have h1 : rotate r = r := by
    unfold rotate rotateExpr
    rw [mapTopDown_litChoice _ (fun x hx => rotateInternal_litChoice hx _) hr]
  have h2 : skip rules r = r := by
    unfold skip
    split
    · rw [mapTopDown_litChoice _ (fun x hx => skipF_litChoice rules hx) hr]
    · rfl
  have h3 : unroll extras r = some r := by
    unfold unroll
    rw [unrollExpr_litChoice extras hr]; rfl
  have h4 : concatenate r = r := by
    unfold concatenate
    split
    · rw [concat_litChoice hr]
    · rfl
  have h5 : factor r = r := by
    unfold factor
    rw [mapTopDown_litChoice _ (fun x hx => factorF_litChoice r.ty hx) hr]
  unfold astPasses
  rw [h1, h2, h3]
  simp only [Option.map_some, h4, h5]
  rfl

theorem skip_name (rules : List Rule) (r : Rule) : (skip rules r).name = r.name ∧ (skip rules r).ty = r.ty := by
  unfold skip; split <;> exact ⟨rfl, rfl⟩

theorem concatenate_name (r : Rule) : (concatenate r).name = r.name ∧ (concatenate r).ty = r.ty := by
  unfold concatenate; split <;> exact ⟨rfl, rfl⟩

theorem astPasses_rel (d : Ctx) (rules0 : List Rule) (hA : InlAgree rules0 d) (hany : d.has "ANY" = false)
    (r r5 : Rule) (h : astPasses d.extras false rules0 r = some r5) : RuleRel d r r5 := by
  unfold astPasses at h
  rw [Option.map_eq_some_iff] at h
  obtain ⟨r3, h3, h5⟩ := h
  unfold unroll at h3
  rw [Option.map_eq_some_iff] at h3
  obtain ⟨e3, he3, hr3⟩ := h3
  simp only [Bool.false_eq_true, if_false] at h5
  have hn2 := skip_name rules0 (rotate r)
  have hn4 := concatenate_name r3
  have hP := inv_valid d
  have n3 : r3.name = r.name := by rw [← hr3]; exact hn2.1
  have t3 : r3.ty = r.ty := by rw [← hr3]; exact hn2.2
  have n5 : r5.name = r.name := by rw [← h5]; exact hn4.1.trans n3
  have t5 : r5.ty = r.ty := by rw [← h5]; exact hn4.2.trans t3
  refine ⟨n5.symm, t5.symm, fun m => ?_⟩
  have q1 : EqOn (Valid d) d (bodyMode r.name r.ty m) r.expr (rotate r).expr := rotateExpr_eqOn hP r.expr
  have q2 : EqOn (Valid d) d (bodyMode r.name r.ty m) (rotate r).expr (skip rules0 (rotate r)).expr := by
    unfold skip
    split
    · rename_i hty
      have hty' : r.ty = .atomic := hty
      rw [hty', bodyMode_atomic]
      exact mapTopDown_eqOn hP _ (skipF_eqOn hA hany) _ _
    · exact EqOn.refl _
  have q3 : EqOn (Valid d) d (bodyMode r.name r.ty m) (skip rules0 (rotate r)).expr e3 :=
    unrollExpr_eqOn hP _ _ he3
  have e3eq : r3.expr = e3 := by rw [← hr3]
  have q4 : EqOn (Valid d) d (bodyMode r.name r.ty m) r3.expr (concatenate r3).expr := by
    unfold concatenate
    split
    · rename_i hty
      rw [t3] at hty
      rw [hty, bodyMode_atomic]
      exact mapBottomUp_eqOn hP _ (concatF_eqOn (by decide)) _
    · exact EqOn.refl _
  have q5 : EqOn (Valid d) d (bodyMode r.name r.ty m) (concatenate r3).expr r5.expr := by
    rw [← h5]
    unfold factor
    refine mapTopDown_eqOn hP _ (factorF_eqOn _ ?_) _ _
    rw [hn4.2, t3]
    rintro (hty | hty)
    · rw [hty, bodyMode_atomic]; decide
    · rw [hty, bodyMode_compound]; decide
  rw [e3eq] at q4
  exact q1.trans (q2.trans (q3.trans (q4.trans q5)))

theorem RuleRel.symm {c : Ctx} {r r' : Rule} (h : RuleRel c r r') : RuleRel c r' r := by
  obtain ⟨h1, h2, h3⟩ := h
  refine ⟨h1.symm, h2.symm, fun m => ?_⟩
  rw [← h1, ← h2]
  exact (h3 m).symm

/-- the result of the pipeline without `list`, read back, is rule-by-rule the result of the AST
passes. -/
theorem optimize_F2 (extras : Bool) (rules : List Rule) (orules : List ORule)
    (h : optimizeWith extras false rules = some orules) :
    F2 (fun r r' => astPasses extras false rules r = some r') rules (ofOptimizedRules orules) := by
  unfold optimizeWith at h
  split at h
  · simp at h
  · rename_i opt hm
    simp only [Option.some.injEq] at h
    subst h
    have h1 := F2.of_mapM _ _ _ hm
    unfold ofOptimizedRules
    refine (h1.map_right (g := restoreOnErr extras opt) (R' := fun r o =>
      astPasses extras false rules r = some ⟨o.name, o.ty, ofOptimized o.expr⟩) ?_).map_right ?_
    · intro r o ho
      simp only [Option.bind_eq_some_iff, Option.map_eq_some_iff] at ho
      obtain ⟨r5, h5, e, he, rfl⟩ := ho
      simp only [restoreOnErr]
      have hwrap : ∀ (c : Prop) [Decidable c] (x : OExpr),
          ofOptimized (if c then OExpr.restoreOnErr x else x) = ofOptimized x := by
        intro c _ x
        split
        · rfl
        · rfl
      rw [hwrap, ofOptimized_omapBottomUp _ _ (ofOptimized_wrapBranching extras opt),
        ofOptimized_toOptimized _ _ _ he]
      exact h5
    · intro r o ho
      exact ho

theorem go_none_of_forall (name : String) (rules : List Rule) (k : Nat) (h : ∀ r ∈ rules, r.name ≠ name) :
    Ctx.rule?.go name rules k = none :=
  Option.map_eq_none_iff.1 ((rule?_go_map name rules k).trans (List.find?_eq_none.2 fun r hr => by simpa using h r hr))

theorem lookup_agree {extras : Bool} {rules0 : List Rule} {name : String} {body : Expr} {l l' : List Rule}
    (h : F2 (fun r r' => astPasses extras false rules0 r = some r' ∧ r.name = r'.name) l l')
    (hl : lookupExpr l name = some body) (hb : LitChoice body) : lookupExpr l' name = some body := by
  induction h with
  | nil => simp [lookupExpr] at hl
  | @cons x y xs ys hx _ ih =>
    unfold lookupExpr at hl ⊢
    rw [List.find?_cons] at hl ⊢
    by_cases hxn : x.name = name
    · have hyn : y.name = name := hx.2 ▸ hxn
      simp only [hxn, hyn, decide_true, Option.map_some, Option.some.injEq] at hl ⊢
      subst hl
      have := astPasses_litChoice extras rules0 x hb
      rw [hx.1] at this
      cases this
      rfl
    · have hyn : ¬ y.name = name := hx.2 ▸ hxn
      simp only [hxn, hyn, decide_false] at hl ⊢
      exact ih hl

/-- before and after the pipeline the rules are related rule by rule, in either context. -/
theorem pipeline_rel (c : Ctx) (orules : List ORule) (hany : ∀ r ∈ c.rules, r.name ≠ "ANY")
    (h : optimizeWith c.extras false c.rules = some orules) :
    F2 (RuleRel c) c.rules (ofOptimizedRules orules) ∧
      F2 (RuleRel { c with rules := ofOptimizedRules orules }) (ofOptimizedRules orules) c.rules := by
  have hS := optimize_F2 c.extras c.rules orules h
  have hany1 : c.has "ANY" = false := by
    unfold Ctx.has Ctx.rule?
    rw [go_none_of_forall "ANY" c.rules 0 hany]; rfl
  have hrel := fun x y hxy => astPasses_rel c c.rules (inlAgree_self c) hany1 x y hxy
  have hR : F2 (RuleRel c) c.rules (ofOptimizedRules orules) := hS.mono hrel
  have hS' : F2 (fun r r' => astPasses c.extras false c.rules r = some r' ∧ r.name = r'.name) c.rules
      (ofOptimizedRules orules) :=
    hS.mono fun x y hxy => ⟨hxy, (hrel x y hxy).1⟩
  have hany2 : Ctx.has { c with rules := ofOptimizedRules orules } "ANY" = false := by
    unfold Ctx.has Ctx.rule?
    rcases rule?_go_rel (R := RuleRel c) (fun r r' h => h.1) hR "ANY" 0 with ⟨_, h2⟩ | ⟨id, r, r', h1, _, _⟩
    · simp only []; rw [h2]; rfl
    · rw [go_none_of_forall "ANY" c.rules 0 hany] at h1; cases h1
  have hA : InlAgree c.rules { c with rules := ofOptimizedRules orules } :=
    fun name body own hl hp => lookup_agree hS' hl (litChoice_of_pop hp)
  exact ⟨hR, (hS.mono fun x y hxy =>
    astPasses_rel { c with rules := ofOptimizedRules orules } c.rules hA hany2 x y hxy).flip.mono fun x y hxy => hxy.symm⟩

/-- the pipeline without `list`, for the limit semantics: every call on a boundary means the same before and after. -/
theorem pipeline_V_eq (c : Ctx) (orules : List ORule) (hany : ∀ r ∈ c.rules, r.name ≠ "ANY")
    (h : optimizeWith c.extras false c.rules = some orules) (q : Q) (hq : Valid c q.s) :
    (V { c with rules := ofOptimizedRules orules }).at q = (V c).at q :=
  let ⟨hR, hR'⟩ := pipeline_rel c orules hany h
  V_eq_of_rel c _ hR hR' q hq

end PestModel.Ref
