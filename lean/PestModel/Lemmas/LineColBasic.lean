import PestModel.Model.LineColSpec
/-! Byte offsets and character boundaries: `splitAt?`, `slice?`, `Span::new`, `Span::get`. -/
namespace PestModel.LineCol

theorem cLen_pos (c : Char) : 0 < cLen c := Char.utf8Size_pos c
theorem cLen_le (c : Char) : cLen c ≤ 4 := Char.utf8Size_le_four c

@[simp] theorem bLen_nil : bLen [] = 0 := rfl
@[simp] theorem bLen_cons (c : Char) (cs : Str) : bLen (c :: cs) = cLen c + bLen cs := rfl
@[simp] theorem bLen_append (a b : Str) : bLen (a ++ b) = bLen a + bLen b := by
  induction a with
  | nil => simp
  | cons c cs ih => simp [ih]; omega

theorem bLen_eq_zero {s : Str} (h : bLen s = 0) : s = [] := by
  cases s with
  | nil => rfl
  | cons c cs => have := cLen_pos c; simp at h; omega

theorem splitAt_some {s : Str} {off : Nat} {pre post : Str} (h : splitAt? s off = some (pre, post)) :
    s = pre ++ post ∧ bLen pre = off := by
  fun_induction splitAt? s off generalizing pre post <;> cases h
  · exact ⟨rfl, rfl⟩
  · rename_i hle _ _ hs ih
    obtain ⟨rfl, h2⟩ := ih hs
    exact ⟨rfl, by simp; omega⟩

theorem splitAt_append (pre post : Str) : splitAt? (pre ++ post) (bLen pre) = some (pre, post) := by
  induction pre with
  | nil => cases post <;> simp [splitAt?]
  | cons c cs ih =>
    have := cLen_pos c
    simp only [bLen_cons, List.cons_append]
    obtain ⟨n, hn⟩ : ∃ n, cLen c + bLen cs = n + 1 := ⟨cLen c + bLen cs - 1, by omega⟩
    rw [hn]
    simp only [splitAt?]
    have h2 : n + 1 - cLen c = bLen cs := by omega
    rw [h2, ih]
    simp; omega

theorem splitAt_iff (s pre post : Str) (off : Nat) :
    splitAt? s off = some (pre, post) ↔ s = pre ++ post ∧ bLen pre = off := by
  constructor
  · exact splitAt_some
  · rintro ⟨rfl, rfl⟩; exact splitAt_append _ _

theorem isBoundary_iff (s : Str) (off : Nat) :
    isBoundary s off = true ↔ ∃ pre post, s = pre ++ post ∧ bLen pre = off := by
  unfold isBoundary
  rw [Option.isSome_iff_exists]
  constructor
  · rintro ⟨⟨a, b⟩, h⟩; exact ⟨a, b, splitAt_some h⟩
  · rintro ⟨a, b, rfl, rfl⟩; exact ⟨_, splitAt_append _ _⟩

theorem prefix_of_bLen_le {p1 r1 p2 r2 : Str} (h : p1 ++ r1 = p2 ++ r2) (hle : bLen p1 ≤ bLen p2) :
    ∃ m, p2 = p1 ++ m ∧ r1 = m ++ r2 := by
  induction p1 generalizing p2 with
  | nil => exact ⟨p2, by simp, by simpa using h⟩
  | cons c cs ih =>
    cases p2 with
    | nil => have := cLen_pos c; simp at hle; omega
    | cons d ds =>
      simp at h
      obtain ⟨rfl, h⟩ := h
      simp at hle
      obtain ⟨m, rfl, rfl⟩ := ih h hle
      exact ⟨m, by simp, rfl⟩

theorem slice_append (x y z : Str) : slice? (x ++ y ++ z) (bLen x) (bLen x + bLen y) = some y := by
  unfold slice?
  rw [if_neg (by omega), List.append_assoc, splitAt_append]
  simp only
  rw [show bLen x + bLen y - bLen x = bLen y by omega, splitAt_append]

theorem slice_some {s : Str} {a b : Nat} {m : Str} (h : slice? s a b = some m) :
    ∃ x z, s = x ++ m ++ z ∧ bLen x = a ∧ a + bLen m = b := by
  unfold slice? at h
  split at h
  · simp at h
  · split at h
    · simp at h
    · rename_i p rest h1
      split at h
      · simp at h
      · rename_i mid r h2
        simp at h; subst h
        obtain ⟨rfl, rfl⟩ := splitAt_some h1
        obtain ⟨rfl, h3⟩ := splitAt_some h2
        exact ⟨p, r, by simp, rfl, by omega⟩

theorem spanNew_iff (s : Str) (a b : Nat) :
    spanNew s a b = true ↔ a ≤ b ∧ isBoundary s a = true ∧ isBoundary s b = true := by
  unfold spanNew
  rw [Option.isSome_iff_exists, isBoundary_iff, isBoundary_iff]
  constructor
  · rintro ⟨m, h⟩
    obtain ⟨x, z, rfl, rfl, rfl⟩ := slice_some h
    exact ⟨by omega, ⟨x, m ++ z, by simp, rfl⟩, ⟨x ++ m, z, rfl, by simp⟩⟩
  · rintro ⟨hab, ⟨p1, r1, rfl, rfl⟩, ⟨p2, r2, h2, rfl⟩⟩
    obtain ⟨m, rfl, rfl⟩ := prefix_of_bLen_le h2 hab
    refine ⟨m, ?_⟩
    have := slice_append p1 m r2
    simpa using this

theorem isBoundary_le {s : Str} {off : Nat} (h : isBoundary s off = true) : off ≤ bLen s := by
  obtain ⟨p, r, rfl, rfl⟩ := (isBoundary_iff _ _).1 h
  simp

theorem isBoundary_inner (X own Z : Str) (y : Nat) (hy : y ≤ bLen own) :
    isBoundary own y = true ↔ isBoundary (X ++ own ++ Z) (bLen X + y) = true := by
  rw [isBoundary_iff, isBoundary_iff]
  constructor
  · rintro ⟨p, r, rfl, rfl⟩
    exact ⟨X ++ p, r ++ Z, by simp, by simp⟩
  · rintro ⟨P, R, hs, hP⟩
    have h1 : X ++ (own ++ Z) = P ++ R := by rw [← hs]; simp
    obtain ⟨m, rfl, h2⟩ := prefix_of_bLen_le h1 (by omega)
    have hm : bLen m = y := by simp at hP; omega
    obtain ⟨m', rfl, _⟩ := prefix_of_bLen_le h2.symm (by omega)
    exact ⟨m, m', rfl, hm⟩

/-- `Span::get`: the sub-range is taken in the span's own text. -/
theorem spanGet_iff (s : Str) (a b x y : Nat) (h : spanNew s a b = true) (p : Nat × Nat) :
    spanGet s a b x y = some p ↔ p = (a + x, a + y) ∧ a + y ≤ b ∧ spanNew s (a + x) (a + y) = true := by
  unfold spanNew at h
  obtain ⟨own, ho⟩ := Option.isSome_iff_exists.1 h
  obtain ⟨X, Z, rfl, rfl, rfl⟩ := slice_some ho
  unfold spanGet
  rw [ho]
  simp only []
  rw [spanNew_iff (X ++ own ++ Z)]
  by_cases hs : spanNew own x y = true
  · rw [if_pos hs]
    obtain ⟨hxy, hx, hy⟩ := (spanNew_iff own x y).1 hs
    have hyl := isBoundary_le hy
    constructor
    · intro hp
      simp only [Option.some.injEq] at hp
      exact ⟨hp.symm, by omega, by omega, (isBoundary_inner X own Z x (by omega)).1 hx, (isBoundary_inner X own Z y hyl).1 hy⟩
    · rintro ⟨rfl, _⟩; rfl
  · rw [if_neg hs]
    constructor
    · intro hp; simp at hp
    · rintro ⟨_, hle, hxy, hx, hy⟩
      exfalso
      apply hs
      rw [spanNew_iff]
      have hyl : y ≤ bLen own := by omega
      exact ⟨by omega, (isBoundary_inner X own Z x (by omega)).2 hx, (isBoundary_inner X own Z y hyl).2 hy⟩

end PestModel.LineCol
