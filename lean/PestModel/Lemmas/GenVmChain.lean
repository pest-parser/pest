import PestModel.Lemmas.GenVmSim
/-! C02: the generator's flattened sequences and choices. `Prefix π C P0 X' X`: the program `X'`
behaves as `π.comb P0 X`, i.e. "`P0`, then (on success) `X`" for `π = ok` and "`P0`, else `X`" for
`π = err` — the left-nested `and_then` / `or_else` chains the generator emits have this shape with respect
to their first item. -/
namespace PestModel.GenVm
open PestModel.PS PestModel.Stack
open PestModel.LineCol (Str isBoundary slice?)
open PestModel.VmRef (run_mono)

structure Prefix (π : Pol) (C : Cfg) (P0 X' X : Prog) : Prop where
  elim : ∀ F s, run C F X' s ≠ .fuel →
    (∃ s1 F1, F1 ≤ F ∧ run C F1 P0 s = π.mk s1 ∧ run C F X s1 = run C F X' s) ∨
    (∃ F1, F1 ≤ F ∧ run C F1 P0 s = run C F X' s ∧ π.sel (run C F X' s) = none)
  intro_go : ∀ s s1 o, Ev C P0 s (π.mk s1) → Ev C X s1 o → Ev C X' s o
  intro_stop : ∀ s o, Ev C P0 s o → π.sel o = none → Ev C X' s o

variable {C : Cfg} {π : Pol}

theorem prefix_base (π : Pol) (P0 X : Prog) : Prefix π C P0 (π.comb P0 X) X where
  elim := fun F s hne => by
    obtain ⟨F, rfl⟩ := fuel_pos hne
    rw [run_comb] at hne ⊢
    cases h1 : π.sel (run C F P0 s) with
    | some s1 =>
      rw [h1] at hne
      exact Or.inl ⟨s1, F, Nat.le_succ _, Pol.sel_some h1, run_mono hne (Nat.le_succ _)⟩
    | none => exact Or.inr ⟨F, Nat.le_succ _, rfl, h1⟩
  intro_go := fun _ _ _ h1 h2 => ev_comb_go π h1 h2
  intro_stop := fun _ _ h1 h2 => ev_comb_stop π h1 h2

theorem prefix_step {P0 X' X : Prog} (T : Prog) (h : Prefix π C P0 X' X) :
    Prefix π C P0 (π.comb X' T) (π.comb X T) where
  elim := fun F s hne => by
    obtain ⟨F, rfl⟩ := fuel_pos hne
    rcases h.elim F s (run_comb_ne_fuel hne) with ⟨s1, F1, hF1, e1, e2⟩ | ⟨F1, hF1, e1, e2⟩
    · exact Or.inl ⟨s1, F1, by omega, e1, by rw [run_comb, run_comb, e2]⟩
    · refine Or.inr ⟨F1, by omega, ?_, ?_⟩
      · rw [run_comb, e2]; exact e1
      · rw [run_comb, e2]; exact e2
  intro_go := fun s s1 o h1 h2 => by
    obtain ⟨m, e, ne⟩ := h2
    obtain ⟨m, rfl⟩ := fuel_pos (by rw [e]; exact ne)
    have evX := h.intro_go s s1 _ h1 ⟨m, rfl, run_comb_ne_fuel (by rw [e]; exact ne)⟩
    rw [run_comb] at e
    cases hsel : π.sel (run C m X s1) with
    | some t =>
      rw [hsel] at e
      rw [Pol.sel_some hsel] at evX
      exact ev_comb_go π evX ⟨m, e, ne⟩
    | none =>
      rw [hsel] at e; subst e
      exact ev_comb_stop π evX hsel
  intro_stop := fun s o h1 h2 => ev_comb_stop π (h.intro_stop s o h1 h2) h2

/-- the generator's `while let Seq` loop. -/
def seqStep (atomicGen : Bool) (skipP : Prog) (g : G.OExpr → Prog) (acc : Prog) (t : G.OExpr) : Prog :=
  if atomicGen then .andThen acc (g t) else .andThen (.andThen acc skipP) (g t)

/-- what the loop puts in front of the next item. -/
def seqHead (atomicGen : Bool) (skipP acc : Prog) : Prog := if atomicGen then acc else .andThen acc skipP

theorem seqStep_eq (atomicGen : Bool) (skipP : Prog) (g : G.OExpr → Prog) (acc : Prog) (t : G.OExpr) :
    seqStep atomicGen skipP g acc t = .andThen (seqHead atomicGen skipP acc) (g t) := by
  cases atomicGen <;> rfl

/-- a step that keeps `Prefix` keeps it along a `foldl`. -/
theorem prefix_foldl {α : Type} (step : Prog → α → Prog) {P0 : Prog}
    (hstep : ∀ {X' X : Prog} (t : α), Prefix π C P0 X' X → Prefix π C P0 (step X' t) (step X t)) :
    ∀ (rest : List α) {X' X : Prog}, Prefix π C P0 X' X →
      Prefix π C P0 (rest.foldl step X') (rest.foldl step X)
  | [], _, _, h => h
  | t :: rest, _, _, h => prefix_foldl step hstep rest (hstep t h)

/-- a flattened sequence `a ~ b1 ~ rest…` behaves as "`a` (and the skip), then `b1 ~ rest…`". -/
theorem prefix_seq (atomicGen : Bool) (skipP : Prog) (g : G.OExpr → Prog) (a b1 : G.OExpr) (rest : List G.OExpr) :
    Prefix .ok C (seqHead atomicGen skipP (g a)) ((b1 :: rest).foldl (seqStep atomicGen skipP g) (g a))
      (rest.foldl (seqStep atomicGen skipP g) (g b1)) := by
  rw [List.foldl_cons, seqStep_eq]
  refine prefix_foldl _ (fun t h => ?_) rest (prefix_base .ok _ _)
  rw [seqStep_eq, seqStep_eq]
  unfold seqHead
  cases atomicGen with
  | true => exact prefix_step (π := .ok) _ h
  | false => exact prefix_step (π := .ok) _ (prefix_step (π := .ok) _ h)

/-- a flattened choice `a | b1 | rest…` behaves as "`a`, else `b1 | rest…`". -/
theorem prefix_choice (g : G.OExpr → Prog) (a b1 : G.OExpr) (rest : List G.OExpr) :
    Prefix .err C (g a) ((b1 :: rest).foldl (fun acc t => Prog.orElse acc (g t)) (g a))
      (rest.foldl (fun acc t => Prog.orElse acc (g t)) (g b1)) :=
  prefix_foldl (fun acc t => Prog.orElse acc (g t)) (fun t h => prefix_step (π := .err) (g t) h) rest
    (prefix_base .err (g a) (g b1))

variable {A B : Cfg} {n : Nat}

/-- a combinator in `A` against a program in `B` that behaves as that combinator. -/
theorem comb_VG {Av VB P0 X' X : Prog} (h1 : Sim A B n Av P0) (h2 : Sim A B n VB X)
    (hp : Prefix π B P0 X' X) : Sim A B n (π.comb Av VB) X' := by
  intro k hk s1 s2 hs hne
  obtain ⟨k, rfl⟩ := fuel_pos hne
  obtain ⟨o2, ev, oe⟩ := h1 k (by omega) s1 s2 hs (run_comb_ne_fuel hne)
  rw [run_comb] at hne ⊢
  cases hsel : π.sel (run A k Av s1) with
  | some t1 =>
    rw [hsel] at hne
    rw [Pol.sel_some hsel] at oe
    obtain ⟨t2, rfl, ht⟩ := oe.mk_inv
    obtain ⟨o2', ev', oe'⟩ := h2 k (by omega) t1 t2 ht hne
    exact ⟨o2', hp.intro_go _ _ _ ev ev', oe'⟩
  | none => exact ⟨o2, hp.intro_stop _ _ ev (oe.sel_none hsel), oe⟩

theorem comb_GV {Av VB P0 X' X : Prog} (h1 : Sim A B n P0 Av) (h2 : Sim A B n X VB)
    (hp : Prefix π A P0 X' X) : Sim A B n X' (π.comb Av VB) := by
  intro k hk s1 s2 hs hne
  rcases hp.elim k s1 hne with ⟨t1, F1, hF1, e1, e2⟩ | ⟨F1, hF1, e1, e2⟩
  · obtain ⟨o2, ev, oe⟩ := h1 F1 (by omega) s1 s2 hs (by rw [e1]; exact π.mk_ne_fuel t1)
    rw [e1] at oe
    obtain ⟨t2, rfl, ht⟩ := oe.mk_inv
    obtain ⟨o2', ev', oe'⟩ := h2 k hk t1 t2 ht (by rw [e2]; exact hne)
    rw [e2] at oe'
    exact ⟨o2', ev_comb_go π ev ev', oe'⟩
  · obtain ⟨o2, ev, oe⟩ := h1 F1 (by omega) s1 s2 hs (by rw [e1]; exact hne)
    rw [e1] at oe
    exact ⟨o2, ev_comb_stop π ev (oe.sel_none e2), oe⟩

theorem sim_comb (π : Pol) {P P' Q Q' : Prog} (hP : Sim A B n P P') (hQ : Sim A B n Q Q') :
    Sim A B n (π.comb P Q) (π.comb P' Q') := comb_VG hP hQ (prefix_base π P' Q')

end PestModel.GenVm
