import PestModel.Lemmas.JsonNum
/-!
Strings: `string` of the grammar (atomic) = RFC 8259 `string`.
-/
namespace PestModel.Json
open PestModel.Ref PestModel.G
open PestModel.LineCol (Str cLen bLen)
open PestModel.PS (Atomicity CharSet restAt restAt_iff restAt_advance)
open PestModel.Views (Tree)

def simpleEsc (e : Char) : Prop :=
  e = '"' ∨ e = '\\' ∨ e = '/' ∨ e = 'b' ∨ e = 'f' ∨ e = 'n' ∨ e = 'r' ∨ e = 't'

instance (e : Char) : Decidable (simpleEsc e) := by unfold simpleEsc; infer_instance

def hex4O : Lex := seqL (chL isHex) (seqL (chL isHex) (seqL (chL isHex) (chL isHex)))

theorem hex4O_adv : Adv hex4O := (Adv.ch _).seq ((Adv.ch _).seq ((Adv.ch _).seq (Adv.ch _)))

theorem ite_and_none {α} {a b : Prop} [Decidable a] [Decidable b] (x : Option α) :
    (if a ∧ b then x else none) = if a then (if b then x else none) else none := by
  by_cases a <;> simp [*]

theorem hex4O_eq (c : Cur) : hex4O c =
    match c.rest with
    | h1 :: h2 :: h3 :: h4 :: _ =>
      if isHex h1 ∧ isHex h2 ∧ isHex h3 ∧ isHex h4 then some c.adv.adv.adv.adv else none
    | _ => none := by
  obtain ⟨rest, p⟩ := c
  rcases rest with _ | ⟨h1, _ | ⟨h2, _ | ⟨h3, _ | ⟨h4, tl⟩⟩⟩⟩ <;>
    simp only [hex4O, seqL_ch, chL, Cur.adv, ite_and_none, ite_self]

/-- one escape sequence. -/
def escO : Lex :=
  seqL (chL (· == '\\')) (orL (chL fun e => simpleEsc e) (seqL (chL (· == 'u')) hex4O))

theorem escO_adv : Adv escO := (Adv.ch _).seq ((Adv.ch _).or ((Adv.ch _).seq hex4O_adv))

theorem escO_len_lt {c c' : Cur} (h : escO c = some c') : c'.rest.length < c.rest.length :=
  seqL_ch_len_lt ((Adv.ch _).or ((Adv.ch _).seq hex4O_adv)) h

theorem escO_bs {c : Cur} {e : Char} {tl : Str} (hr : c.rest = '\\' :: e :: tl) :
    escO c = if simpleEsc e then some c.adv.adv else if e = 'u' then hex4O c.adv.adv else none := by
  have hr1 : c.adv.rest = e :: tl := by rw [adv_cons hr]
  unfold escO seqL orL
  rw [chL_lit hr, Option.bind_some]
  simp only [chL_cons hr1]
  by_cases h1 : simpleEsc e
  · simp [h1]
  · by_cases h2 : e = 'u'
    · subst h2; simp [h1]
    · simp [h1, h2]

theorem escO_bs_nil {c : Cur} (hr : c.rest = ['\\']) : escO c = none := by
  have hr1 : c.adv.rest = [] := by rw [adv_cons hr]
  unfold escO seqL orL
  rw [chL_lit hr, Option.bind_some]
  simp [chL_nil hr1]

theorem escO_of_hd {c : Cur} (h : hd c '\\' = false) : escO c = none := by
  unfold escO seqL
  rw [chL_of_hd_false h]
  rfl

/-- unescaped character of a string. -/
def unesc (ch : Char) : Prop := ch ≠ '"' ∧ ch ≠ '\\' ∧ ¬ ch.toNat < 0x20

instance (ch : Char) : Decidable (unesc ch) := by unfold unesc; infer_instance

/-- one step of the RFC string body: an unescaped character or an escape sequence and on, else the
closing quote must follow (the three exclude one another). -/
theorem stringBody_succ (f : Nat) (c : Cur) : stringBody (f + 1) c =
    match orL (chL fun ch => unesc ch) escO c with
    | some d => stringBody f d
    | none => chL (· == '"') c := by
  have nu : ∀ {ch cs}, c.rest = ch :: cs → (ch = '"' ∨ ch = '\\') → chL (fun ch => unesc ch) c = none := by
    intro ch cs hr h
    rw [chL_cons hr, if_neg]
    rcases h with rfl | rfl <;> decide
  show (match c.rest with
    | [] => _ | '"' :: _ => _ | '\\' :: e :: _ => _ | '\\' :: [] => _ | ch :: _ => _) = _
  unfold orL
  split
  · rename_i hr
    simp only [chL_nil hr, escO_of_hd (hd_nil hr _)]
  · rename_i tl hr
    simp only [nu hr (.inl rfl), escO_of_hd ((hd_cons hr _).trans rfl), chL_lit hr]
  · rename_i e tl hr
    simp only [nu hr (.inr rfl), escO_bs hr, chL_lit_ne (chL_lit hr) (show '"' ≠ '\\' by decide)]
    by_cases h1 : simpleEsc e
    · rw [if_pos h1, if_pos (show _ ∨ _ from h1)]
    · rw [if_neg h1, if_neg (show ¬ (_ ∨ _) from h1)]
      by_cases h2 : e = 'u'
      · rw [if_pos h2, if_pos h2, hex4O_eq]
        generalize c.adv.adv.rest = r
        rcases r with _ | ⟨x1, _ | ⟨x2, _ | ⟨x3, _ | ⟨x4, tl⟩⟩⟩⟩
        · rfl
        · rfl
        · rfl
        · rfl
        · by_cases hx : isHex x1 = true ∧ isHex x2 = true ∧ isHex x3 = true ∧ isHex x4 = true
          · simp only [hx, and_self, if_true]
          · simp only [hx, if_false]
      · rw [if_neg h2, if_neg h2]
  · rename_i hr
    simp only [nu hr (.inr rfl), escO_bs_nil hr, chL_lit_ne (chL_lit hr) (show '"' ≠ '\\' by decide)]
  · rename_i ch tl hq hb1 hb2 hr
    have hb : ch ≠ '\\' := by
      rintro rfl
      cases tl with
      | nil => exact hb2 rfl rfl
      | cons e tl' => exact hb1 e tl' rfl rfl
    simp only [chL_cons hr, escO_of_hd ((hd_cons hr _).trans (beq_false_of_ne hb)), beq_false_of_ne hq]
    by_cases h3 : ch.toNat < 0x20
    · rw [if_pos h3, if_neg (by simp [unesc, h3])]; rfl
    · rw [if_neg h3, if_pos (decide_eq_true (show unesc ch from ⟨hq, hb, h3⟩))]

def runL : Str → Nat → Cur
  | [], p => ⟨[], p⟩
  | ch :: cs, p => if unesc ch then runL cs (p + cLen ch) else ⟨ch :: cs, p⟩

def runC (c : Cur) : Cur := runL c.rest c.pos

theorem runL_eq_span : ∀ (rest : Str) (p : Nat), runL rest p = spanL (fun ch => unesc ch) rest p
  | [], _ => rfl
  | ch :: cs, p => by
    show (if unesc ch then runL cs (p + cLen ch) else _) = _
    simp only [spanL_cons, runL_eq_span cs, decide_eq_true_eq]

theorem runC_reach (c : Cur) : Reach c (runC c) := by
  rw [runC, runL_eq_span]; exact spanC_reach _ c

theorem range_iff (ch : Char) : (Char.ofNat 0 ≤ ch ∧ ch ≤ Char.ofNat 31) ↔ ch.toNat < 0x20 := by
  have h0 : (Char.ofNat 0).val.toNat = 0 := by decide
  have h1 : (Char.ofNat 31).val.toNat = 31 := by decide
  simp only [Char.le_def, UInt32.le_iff_toNat_le, h0, h1, Char.toNat]
  omega

section
variable {input : Str} {uni : String → Option CharSet}

theorem any_call (m : Atomicity) (la : Bool) (s : St) :
    valCa (jctx input uni) m la "ANY" s = oneChar (jctx input uni) s (fun _ => true) := by
  rw [valCa_unfold]; rfl

theorem hex_call (m : Atomicity) (la : Bool) (s : St) :
    valCa (jctx input uni) m la "ASCII_HEX_DIGIT" s = oneChar (jctx input uni) s isHex := by
  rw [valCa_unfold]
  have : isHex = fun ch => decide (('0' ≤ ch ∧ ch ≤ '9') ∨ ('a' ≤ ch ∧ ch ≤ 'f') ∨ ('A' ≤ ch ∧ ch ≤ 'F')) := by
    funext ch; simp [isHex, isDigit]
  rw [this]; rfl

theorem lex_unesc (la : Bool) : Lexes input uni la eUnesc (chL fun ch => unesc ch) :=
  (Lexes.notThen (((Lexes.str1 true '"').choiceCh (Lexes.str1 true '\\')).choiceCh (Lexes.range true _ _))
    (Lexes.builtin (any_call .atomic la))).congrCh
    fun ch => by simp [unesc, range_iff, and_assoc]

theorem lex_hex (la : Bool) : Lexes input uni la (.ident "ASCII_HEX_DIGIT") (chL isHex) :=
  Lexes.builtin (hex_call .atomic la)

theorem lex_escape (la : Bool) : Lexes input uni la (.ident "escape") escO := by
  have simple := (((((((Lexes.str1 (input := input) (uni := uni) la '"').choiceCh (Lexes.str1 la '\\')).choiceCh
    (Lexes.str1 la '/')).choiceCh (Lexes.str1 la 'b')).choiceCh (Lexes.str1 la 'f')).choiceCh
    (Lexes.str1 la 'n')).choiceCh (Lexes.str1 la 'r')).choiceCh (Lexes.str1 la 't')
  have unicode : Lexes input uni la (.ident "unicode") (seqL (chL (· == 'u')) hex4O) :=
    Lexes.call (rule_unicode input uni) ((Lexes.str1 la 'u').seq
      (Lexes.repExact rfl ((lex_hex la).seq ((lex_hex la).seq ((lex_hex la).seq (lex_hex la))))))
  exact Lexes.call (rule_escape input uni) ((Lexes.str1 la '\\').seq
    ((simple.congrCh fun e => by
      simp only [Bool.or_eq_true, beq_iff_eq, decide_eq_true_eq, or_assoc]
      exact Iff.rfl).choice unicode))

theorem inner_unfold {c : Cur} (h : At input c) (la : Bool) (stk : List Str) :
    valCa (jctx input uni) .atomic la "inner" ⟨c.pos, stk⟩ =
      val (jctx input uni) .atomic la eInnerTail ⟨(spanC (fun ch => unesc ch) c).pos, stk⟩ := by
  rw [call_atomic (rule_inner input uni)]
  simp only [eInner, val_seq_atomic]
  rw [(lex_unesc la).many.val c h]
  simp only [manyL, toRes_some, List.nil_append]
  cases val (jctx input uni) .atomic la eInnerTail ⟨(spanC (fun ch => unesc ch) c).pos, stk⟩ <;> rfl

/-- `inner` always succeeds, at a cursor where the RFC string body needs the closing quote. -/
theorem inner_spec (la : Bool) (stk : List Str) (f : Nat) :
    ∀ c : Cur, At input c → c.rest.length < f →
      ∃ c', valCa (jctx input uni) .atomic la "inner" ⟨c.pos, stk⟩ = .ok ⟨c'.pos, stk⟩ [] ∧ Reach c c' ∧
        stringBody f c = chL (· == '"') c' := by
  induction f with
  | zero => intro c _ hl; omega
  | succ f ih =>
    intro c h hl
    rw [stringBody_succ, inner_unfold h, spanC_chL]
    unfold orL
    cases hu : chL (fun ch => unesc ch) c with
    | some d =>
      have hd := h.reach (chL_reach hu)
      obtain ⟨c', h1, h2, h3⟩ := ih d hd (by have := chL_len_lt hu; omega)
      exact ⟨c', by rw [← inner_unfold hd]; exact h1, (chL_reach hu).trans h2, h3⟩
    | none =>
      simp only [eInnerTail, val_opt, val_seq_atomic, (lex_escape la).val c h]
      cases he : escO c with
      | none => exact ⟨c, rfl, Reach.refl c, rfl⟩
      | some d =>
        obtain ⟨c', h1, h2, h3⟩ := ih d (h.reach (escO_adv _ _ he)) (by have := escO_len_lt he; omega)
        refine ⟨c', ?_, (escO_adv _ _ he).trans h2, h3⟩
        simp only [toRes_some, val_ident]
        rw [h1]
        rfl

theorem string_none {c : Cur} (h : hd c '"' = false) : string c = none := by
  unfold string
  split
  · rename_i tl hr; rw [hd_of_rest hr] at h; cases h
  · rfl

/-- **strings**: the grammar's `string` (called from a non-atomic rule) = RFC 8259 `string`,
with the same leaf. -/
theorem string_call {c : Cur} (h : At input c) (stk : List Str) :
    valCa (jctx input uni) .nonAtomic false "string" ⟨c.pos, stk⟩ = vRes (string c) stk := by
  rw [call_leaf (rule_string input uni)]
  simp only [eString, val_seq_atomic, val_str, val_ident]
  rw [lit1_at h]
  cases hh : hd c '"'
  · rw [chL_of_hd_false hh, string_none hh]; rfl
  · obtain ⟨cs, hr⟩ := rest_of_hd hh
    unfold string
    simp only [chL_lit hr, hr, toRes_some]
    obtain ⟨c', h1, h2, h3⟩ := inner_spec (input := input) (uni := uni) false stk (cs.length + 1 + 1) c.adv h.adv
      (by rw [adv_cons hr]; show cs.length < cs.length + 1 + 1; omega)
    rw [h1]
    simp only [List.length_cons]
    rw [h3, lit1_at (h.adv.reach h2)]
    cases chL (· == '"') c' with
    | none => rfl
    | some c'' => simp [JT_node, ruleIdx_eq input uni, rule_string]

theorem stringBody_adv (f : Nat) : Adv (stringBody f) := by
  induction f with
  | zero => intro c c' h; cases h
  | succ f ih =>
    intro c c' h
    rw [stringBody_succ] at h
    cases hm : orL (chL fun ch => unesc ch) escO c with
    | none => rw [hm] at h; exact chL_reach h
    | some d => rw [hm] at h; exact (((Adv.ch _).or escO_adv) _ _ hm).trans (ih _ _ h)

theorem string_reach {c : Cur} {t : JTree} {c' : Cur} (h : string c = some (t, c')) :
    Reach c c' ∧ c'.rest.length < c.rest.length := by
  unfold string at h
  split at h
  · rename_i tl hr
    cases hs : stringBody (c.rest.length + 1) c.adv with
    | none => rw [hs] at h; cases h
    | some d =>
      rw [hs] at h
      cases h
      have h1 := stringBody_adv _ _ _ hs
      exact ⟨(Reach.adv c).trans h1, by have := h1.len; have := adv_len_lt hr; omega⟩
  · simp at h

end
end PestModel.Json
