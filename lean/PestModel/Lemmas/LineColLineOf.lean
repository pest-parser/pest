import PestModel.Lemmas.LineColIndex
/-! `find_line_start`, `find_line_end` and `line_of` at a boundary. -/
namespace PestModel.LineCol

theorem charIndices_dropWhile_lt (pre post : Str) (o : Nat) :
    (charIndices (pre ++ post) o).dropWhile (fun p => decide (p.1 < o + bLen pre)) =
      charIndices post (o + bLen pre) := by
  rw [charIndices_append, List.dropWhile_append_of_pos, dropWhile_of_all_neg]
  · intro p hp; have := (charIndices_mem hp).1; simp; omega
  · intro p hp; have := charIndices_mem hp; have := cLen_pos p.2; simp; omega

theorem charIndices_rev_dropWhile_ge (pre post : Str) (o : Nat) :
    (charIndices (pre ++ post) o).reverse.dropWhile (fun p => decide (p.1 ≥ o + bLen pre)) =
      (charIndices pre o).reverse := by
  rw [charIndices_append, List.reverse_append, List.dropWhile_append_of_pos, dropWhile_of_all_neg]
  · intro p hp; have := charIndices_mem (List.mem_reverse.1 hp); have := cLen_pos p.2; simp; omega
  · intro p hp; have := (charIndices_mem (List.mem_reverse.1 hp)).1; simpa using this

theorem findLineStart_spec {A : Str} (hA : Closed A) {H : Str} (hH : '\n' ∉ H) (post : Str) :
    findLineStart (A ++ H ++ post) (bLen A + bLen H) = bLen A := by
  unfold findLineStart
  split
  · rename_i he
    simp at he
    simp [he.1]
  · have hdrop := charIndices_rev_dropWhile_ge (A ++ H) post 0
    simp only [Nat.zero_add, bLen_append] at hdrop
    rw [hdrop, charIndices_append, List.reverse_append, List.find?_append]
    have h3 : (charIndices H (0 + bLen A)).reverse.find? (fun p => decide (p.2 = '\n')) = none := by
      rw [List.find?_eq_none]
      intro p hp
      simpa using fun (e : p.2 = '\n') => hH (e ▸ (charIndices_mem (List.mem_reverse.1 hp)).2.2)
    rw [h3]
    rcases hA with rfl | ⟨d, rfl⟩
    · simp [charIndices]
    · simp [charIndices_append, charIndices]

theorem find_nl_charIndices (post : Str) (o : Nat) :
    (match (charIndices post o).find? (fun p => decide (p.2 = '\n')) with
      | some (i, _) => i + 1
      | none => o + bLen post) = o + bLen (lineTail post) := by
  induction post generalizing o with
  | nil => simp [charIndices, lineTail]
  | cons c cs ih =>
    simp only [charIndices, lineTail]
    by_cases hc : c = '\n'
    · subst hc; simp
    · rw [List.find?_cons_of_neg (by simpa using hc), if_neg hc]
      have := ih (o + cLen c)
      simp only [bLen_cons]
      rw [← Nat.add_assoc, ← Nat.add_assoc]
      exact this

/-- what follows the current line -/
def lineRest : Str → Str
  | [] => []
  | c :: cs => if c = '\n' then cs else lineRest cs

/-- `post` is its first line followed by the rest; the first line ends at the first newline, if there is one. -/
theorem lineTail_spec (post : Str) :
    lineTail post ++ lineRest post = post ∧
      (('\n' ∉ post ∧ lineRest post = []) ∨ ∃ d, lineTail post = d ++ ['\n']) := by
  induction post with
  | nil => exact ⟨rfl, .inl ⟨by simp, rfl⟩⟩
  | cons c cs ih =>
    simp only [lineTail, lineRest]
    by_cases hc : c = '\n'
    · subst hc; exact ⟨by simp, .inr ⟨[], by simp⟩⟩
    · obtain ⟨h1, h2⟩ := ih
      refine ⟨by simp [hc, h1], ?_⟩
      rcases h2 with ⟨h2, h3⟩ | ⟨d, hd⟩
      · exact .inl ⟨by simp [h2, Ne.symm hc], by simp [hc, h3]⟩
      · exact .inr ⟨c :: d, by simp [hc, hd]⟩

theorem lineTail_append_lineRest (post : Str) : lineTail post ++ lineRest post = post := (lineTail_spec post).1

theorem lineTail_closed {post : Str} (h : '\n' ∈ post) : ∃ d, lineTail post = d ++ ['\n'] :=
  (lineTail_spec post).2.resolve_left fun h' => h'.1 h

theorem lineRest_no_nl {post : Str} (h : '\n' ∉ post) : lineRest post = [] := by
  rcases (lineTail_spec post).2 with h' | ⟨d, hd⟩
  · exact h'.2
  · exact absurd (by rw [← lineTail_append_lineRest post, hd]; simp) h

theorem lineTail_ne_nil {post : Str} (h : post ≠ []) : lineTail post ≠ [] := by
  cases post with
  | nil => exact absurd rfl h
  | cons c cs => simp only [lineTail]; split <;> simp

theorem bLen_lineTail_le (post : Str) : bLen (lineTail post) ≤ bLen post := by
  have := congrArg bLen (lineTail_append_lineRest post); simp at this; omega

theorem lineTail_pos {post : Str} (h : post ≠ []) : 0 < bLen (lineTail post) :=
  Nat.pos_of_ne_zero fun e => lineTail_ne_nil h (bLen_eq_zero e)

theorem length_lineRest_lt {post : Str} (h : post ≠ []) : (lineRest post).length < post.length := by
  have := congrArg List.length (lineTail_append_lineRest post)
  have := List.length_pos_iff.2 (lineTail_ne_nil h)
  simp at *; omega

theorem findLineEnd_spec (pre post : Str) :
    findLineEnd (pre ++ post) (bLen pre) = bLen pre + bLen (lineTail post) := by
  unfold findLineEnd
  split
  · rename_i he
    simp at he
    simp [he.1, he.2, lineTail]
  · rename_i hne
    split
    · -- the `pos == len - 1` shortcut: `bLen post = 1` and `0 < bLen (lineTail post) ≤ bLen post`
      rename_i hlast
      simp only [bLen_append] at hlast ⊢
      have hpost : post ≠ [] := by
        rintro rfl
        have : pre = [] := bLen_eq_zero (by simp at hlast; omega)
        simp [this] at hne
      have := lineTail_pos hpost
      have := bLen_lineTail_le post
      omega
    · have hdrop := charIndices_dropWhile_lt pre post 0
      simp only [Nat.zero_add] at hdrop
      rw [hdrop, bLen_append]
      exact find_nl_charIndices post (bLen pre)

theorem lineOf_boundary (pre post : Str) :
    lineOf (pre ++ post) (bLen pre) = some (specLineOf pre post) := by
  induction pre using cut_cases with | _ A H hA hH _ eH =>
  rw [lineOf, if_neg (by simp), specLineOf, eH, findLineEnd_spec, bLen_append, findLineStart_spec hA hH]
  have := slice_append A (H ++ lineTail post) (lineRest post)
  simpa [List.append_assoc, lineTail_append_lineRest, Nat.add_assoc] using this

end PestModel.LineCol
