import PestModel.Lemmas.PStateLimitTw
/-!
The *trace* of a completed `run`, as far as the two bookkeeping components `calls` and `pa` are
concerned: every completed run is a composition of
* steps that touch neither `calls` nor `pa` (`post`),
* `incCall`,
* `handleToken` (inside `terminal`),
* `tryAddRuleToStack` at the end of a `rule` whose body started in a known state (`add`).

`run_tr` is proved once, by induction on fuel; the monotonicity facts of C12/C15 are then short
inductions on `Tr`.
-/
namespace PestModel.PS
open PestModel.LineCol PestModel.Stack

/-- the input is the same and a boundary position stays a boundary position. -/
def Bnd (a b : PState) : Prop :=
  b.input = a.input ∧ (isBoundary a.input a.pos = true → isBoundary a.input b.pos = true)

theorem Bnd.refl (s : PState) : Bnd s s := ⟨rfl, id⟩

theorem Bnd.trans {a b c : PState} (h1 : Bnd a b) (h2 : Bnd b c) : Bnd a c := by
  refine ⟨h2.1.trans h1.1, fun h => ?_⟩
  have := h2.2 (by rw [h1.1]; exact h1.2 h)
  rwa [h1.1] at this

theorem Rel.toBnd {s s' : PState} (r : Rel s s') : Bnd s s' := ⟨r.input, r.bnd⟩

theorem Bnd.of_eq {a b : PState} (h1 : b.input = a.input) (h2 : b.pos = a.pos) : Bnd a b :=
  ⟨h1, fun h => by rw [h2]; exact h⟩

theorem Core.bnd {a b : PState} (h : Core a b) : Bnd a b := Bnd.of_eq h.2.2.1 h.2.2.2

theorem Bnd.of_core {a a' b : PState} (h : Core a a') (hb : Bnd a b) : Bnd a' b :=
  ⟨hb.1.trans h.2.2.1.symm, by rw [h.2.2.1, h.2.2.2]; exact hb.2⟩

inductive Tr : PState → PState → Prop
  | refl (s : PState) : Tr s s
  | post {s ns ns' : PState} (h : Tr s ns) (hc : ns'.calls = ns.calls) (hp : ns'.pa = ns.pa)
      (hb : Bnd s ns') : Tr s ns'
  | inc {s s1 : PState} (h : incCall s = some s1) : Tr s s1
  | tok {s : PState} (start : Nat) (t : PTok) (succ : Bool) : Tr s (handleToken s start t succ)
  | add {s1 ns ns' : PState} (r : Nat) (h1 : Tr s1 ns)
      (h : tryAddRuleToStack ns r s1.pa.callStacks.length s1.pa.maxPos = some ns') : Tr s1 ns'
  | trans {a b c : PState} (h1 : Tr a b) (h2 : Tr b c) : Tr a c

theorem Tr.bnd {s s' : PState} (h : Tr s s') : Bnd s s' := by
  induction h with
  | refl s => exact Bnd.refl s
  | post _ _ _ hb _ => exact hb
  | inc h =>
    obtain ⟨c, rfl⟩ := incCall_some h
    exact Bnd.of_eq rfl rfl
  | tok start t succ =>
    rename_i s
    obtain ⟨pa', he, -⟩ := handleToken_eq s start t succ
    rw [he]; exact Bnd.of_eq rfl rfl
  | add r _ h ih =>
    obtain ⟨pa', rfl, -⟩ := tryAddRuleToStack_eq h
    exact ih.trans (Bnd.of_eq rfl rfl)
  | trans _ _ ih1 ih2 => exact ih1.trans ih2

theorem Tr.of_core {s s' : PState} (h : Core s s') : Tr s s' := Tr.post (Tr.refl s) h.1 h.2.1 h.bnd

theorem Tr.post_same {s ns ns' : PState} (h : Tr s ns) (hc : Core ns ns') : Tr s ns' :=
  Tr.post h hc.1 hc.2.1 (h.bnd.trans hc.bnd)

theorem terminal_tr (s s' : PState) (r : Option (Bool × Nat)) (tok : Option PTok)
    (hg : PosGood s.input s.pos r) (h : (terminal s r tok).state? = some s') : Tr s s' := by
  unfold terminal at h
  split at h
  · cases h
  · rename_i succ pos'
    obtain ⟨hle, hb⟩ := hg succ pos' rfl
    have h0 : Tr s { s with pos := pos' } := Tr.post (Tr.refl s) rfl rfl ⟨rfl, fun _ => hb⟩
    cases tok with
    | none => simp only [] at h; split at h <;> cases h <;> exact h0
    | some t => simp only [] at h; split at h <;> cases h <;> exact h0.trans (Tr.tok _ _ _)

abbrev TIH (cfg : Cfg) (fuel : Nat) : Prop :=
  ∀ p s s', (run cfg fuel p s).state? = some s' → Tr s s'

theorem tr_ok (s1 s' : PState) (h : (Out.ok s1).state? = some s') : Tr s1 s' := by
  cases h; exact Tr.refl _

theorem tr_err (s1 s' : PState) (h : (Out.err s1).state? = some s') : Tr s1 s' := by
  cases h; exact Tr.refl _

theorem TIH.ok {cfg fuel} (ih : TIH cfg fuel) {p s s'} (h : run cfg fuel p s = .ok s') : Tr s s' :=
  ih p s s' (by rw [h]; rfl)
theorem TIH.err {cfg fuel} (ih : TIH cfg fuel) {p s s'} (h : run cfg fuel p s = .err s') : Tr s s' :=
  ih p s s' (by rw [h]; rfl)

/-- What `run_tr` needs of a `K`: it completes only when the body did, and extends the body's
trace. -/
def KTr (pre : PState → PState) (K : PState → Out → Out) : Prop :=
  ∀ s1 o s', (K s1 o).state? = some s' →
    ∃ ns, o.state? = some ns ∧ (Tr (pre s1) ns → Bnd (pre s1) s' → Tr (pre s1) s')

theorem KCore.tr {K : PState → Out → Out} (h : KCore K) (pre : PState → PState) : KTr pre K :=
  fun s1 o s' hs =>
    let ⟨ns, hns, hc, hp⟩ := h s1 o s' hs
    ⟨ns, hns, fun ht hb => Tr.post ht hc hp hb⟩

theorem ruleK_tr (r : Nat) : KTr rulePre (ruleK r) := by
  intro s1 o s' h
  obtain ⟨ns, hns, x, y, hx, hy, hs⟩ := ruleK_shape h
  refine ⟨ns, hns, fun ht _ => ?_⟩
  have hx' := ht.post_same hx
  rcases hy with rfl | hy
  · exact hx'.post_same hs
  · exact (Tr.add r hx' hy).post_same hs

section cases
variable (cfg : Cfg) (fuel : Nat)

theorem tr_stackPeek (s s' : PState)
    (h : (run cfg (fuel+1) .stackPeek s).state? = some s') : Tr s s' := by
  rw [run] at h
  split at h
  · cases h; exact Tr.refl _
  split at h
  · cases h
  · exact terminal_tr _ _ _ _ (posMatchString_good _ _ _) h

theorem tr_stackPop (s s' : PState)
    (h : (run cfg (fuel+1) .stackPop s).state? = some s') : Tr s s' := by
  rw [run] at h
  split at h
  · cases h; exact Tr.refl _
  split at h
  · cases h
  · cases h
  · rename_i st str hp
    simp only [] at h
    exact (Tr.of_core (s := s) (s' := { s with stack := st }) ⟨rfl, rfl, rfl, rfl⟩).trans
      (terminal_tr { s with stack := st } _ _ _ (posMatchString_good _ _ _) h)

variable (ih : TIH cfg fuel)
include ih

theorem tr_thenK {fok ferr : PState → Out}
    (hfo : ∀ s1 s', (fok s1).state? = some s' → Tr s1 s')
    (hfe : ∀ s1 s', (ferr s1).state? = some s' → Tr s1 s') {p : Prog} {s s' : PState}
    (h : (thenK fok ferr (run cfg fuel p s)).state? = some s') : Tr s s' := by
  cases hp : run cfg fuel p s with
  | ok s1 => rw [hp] at h; exact (ih.ok hp).trans (hfo _ _ h)
  | err s1 => rw [hp] at h; exact (ih.err hp).trans (hfe _ _ h)
  | panic => rw [hp] at h; cases h
  | fuel => rw [hp] at h; cases h

theorem tr_call (i : Nat) (s s' : PState)
    (h : (run cfg (fuel+1) (.call i) s).state? = some s') : Tr s s' := by
  rw [run_call] at h
  split at h
  · exact ih _ _ _ h
  · cases h

theorem tr_bracket0 {body : Prog} {pre : PState → PState} {K : PState → Out → Out}
    (hpre : ∀ s1, Core s1 (pre s1)) (hK : KTr pre K) {s1 s' : PState}
    (h : (bracket0 cfg fuel body pre K s1).state? = some s') (hb : Bnd s1 s') : Tr s1 s' := by
  obtain ⟨ns, hns, hk⟩ := hK _ _ _ h
  exact (Tr.of_core (hpre s1)).trans (hk (ih _ _ _ hns) (hb.of_core (hpre s1)))

theorem tr_bracket {body : Prog} {pre : PState → PState} {K : PState → Out → Out}
    (hpre : ∀ s1, Core s1 (pre s1)) (hK : KTr pre K) {s s' : PState}
    (h : (bracket cfg fuel body pre K s).state? = some s') (hb : Bnd s s') : Tr s s' := by
  unfold bracket at h
  cases hic : incCall s with
  | none => rw [hic] at h; cases h; exact Tr.refl _
  | some s1 =>
    rw [hic] at h
    refine (Tr.inc hic).trans (tr_bracket0 cfg fuel ih hpre hK h ?_)
    obtain ⟨c, rfl⟩ := incCall_some hic
    exact hb

theorem tr_shape {X body : Prog} {inc : Bool} {pre : PState → PState} {K : PState → Out → Out}
    (hX : Shape X inc body pre K) {s s' : PState} (h : (run cfg (fuel+1) X s).state? = some s')
    (hb : Bnd s s') : Tr s s' := by
  rw [hX.run] at h
  cases inc
  · exact tr_bracket0 cfg fuel ih hX.pre_core (hX.kCore.tr _) h hb
  · exact tr_bracket cfg fuel ih hX.pre_core (hX.kCore.tr _) h hb

end cases
/-- **Every completed run is a trace.** -/
theorem run_tr (cfg : Cfg) : ∀ (fuel : Nat) (p : Prog) (s s' : PState),
    (run cfg fuel p s).state? = some s' → Tr s s'
  | 0, p, s, s', h => by rw [run_zero] at h; cases h
  | fuel + 1, p, s, s', h => by
    have ih : TIH cfg fuel := run_tr cfg fuel
    have hb : Bnd s s' := (run_rel cfg _ p s s' h).toBnd
    cases p with
    | sequence _ | restoreOnErr _ | optional _ | repeat_ _ | lookahead _ _ | atomic _ _ | stackPush _ =>
      exact tr_shape cfg fuel ih (by constructor) h hb
    | rule r p =>
      rw [run_rule_K] at h
      exact tr_bracket cfg fuel ih rulePre_core (ruleK_tr r) h hb
    | repLoop p => rw [run_repLoop_K] at h; exact tr_thenK cfg fuel ih (ih _) tr_ok h
    | andThen p q => rw [run_andThen_K] at h; exact tr_thenK cfg fuel ih (ih q) tr_err h
    | orElse p q => rw [run_orElse_K] at h; exact tr_thenK cfg fuel ih tr_ok (ih q) h
    | call i => exact tr_call cfg fuel ih i s s' h
    | matchString str => rw [run] at h; exact terminal_tr _ _ _ _ (posMatchString_good _ _ _) h
    | matchInsensitive str =>
      rw [run] at h; exact terminal_tr _ _ _ _ (posMatchInsensitive_good _ _ _) h
    | matchRange a b => rw [run] at h; exact terminal_tr _ _ _ _ (posMatchRange_good _ _ _ _) h
    | matchCharBy cs => rw [run] at h; exact terminal_tr _ _ _ _ (posMatchCharBy_good _ _ _) h
    | skip n => rw [run] at h; exact terminal_tr _ _ _ _ (posSkip_good _ _ _) h
    | stackPeek => exact tr_stackPeek cfg fuel s s' h
    | stackPop => exact tr_stackPop cfg fuel s s' h
    | _ =>
      obtain ⟨a, b⟩ := leaf_core cfg fuel _ s s' h trivial
      exact Tr.post (Tr.refl s) a b hb

/-! ### Consequences: the call counter -/

/-- the counter only grows and the limit is constant. -/
def CallsMono (s s' : PState) : Prop :=
  (s.calls = none → s'.calls = none) ∧
  (∀ c n, s.calls = some (c, n) → ∃ c', s'.calls = some (c', n) ∧ c ≤ c')

theorem CallsMono.refl (s : PState) : CallsMono s s :=
  ⟨id, fun c _ h => ⟨c, h, Nat.le_refl _⟩⟩

theorem CallsMono.of_eq {s s' : PState} (h : s'.calls = s.calls) : CallsMono s s' :=
  ⟨fun h0 => h.trans h0, fun c _ h0 => ⟨c, h.trans h0, Nat.le_refl _⟩⟩

theorem CallsMono.trans {a b c : PState} (h1 : CallsMono a b) (h2 : CallsMono b c) : CallsMono a c := by
  refine ⟨fun h => h2.1 (h1.1 h), fun x n h => ?_⟩
  obtain ⟨x1, e1, l1⟩ := h1.2 x n h
  obtain ⟨x2, e2, l2⟩ := h2.2 x1 n e1
  exact ⟨x2, e2, Nat.le_trans l1 l2⟩

theorem incCall_mono {s s1 : PState} (h : incCall s = some s1) : CallsMono s s1 := by
  obtain ⟨-, rfl⟩ := incCall_some' h
  exact ⟨fun h0 => by show s.calls.map _ = none; rw [h0]; rfl,
    fun c n h0 => ⟨c + 1, by show s.calls.map _ = _; rw [h0]; rfl, Nat.le_succ c⟩⟩

theorem Tr.callsMono {s s' : PState} (h : Tr s s') : CallsMono s s' := by
  induction h with
  | refl s => exact CallsMono.refl s
  | post _ hc _ _ ih => exact ih.trans (CallsMono.of_eq hc)
  | inc h => exact incCall_mono h
  | tok start t succ =>
    rename_i s
    obtain ⟨pa', he, -⟩ := handleToken_eq s start t succ
    rw [he]; exact CallsMono.of_eq rfl
  | add r _ h ih =>
    obtain ⟨pa', rfl, -⟩ := tryAddRuleToStack_eq h
    exact ih.trans (CallsMono.of_eq rfl)
  | trans _ _ ih1 ih2 => exact ih1.trans ih2

theorem run_callsMono (cfg : Cfg) (fuel : Nat) (p : Prog) (s s' : PState)
    (h : (run cfg fuel p s).state? = some s') : CallsMono s s' :=
  (run_tr cfg fuel p s s' h).callsMono

/-- a reached limit stays reached. -/
theorem CallsMono.reached {s s' : PState} (h : CallsMono s s') (hr : reachedCallLimit s = true) :
    reachedCallLimit s' = true := by
  unfold reachedCallLimit at hr ⊢
  split at hr
  · simp at hr
  · rename_i cur lim hc
    obtain ⟨c', e, l⟩ := h.2 cur lim hc
    rw [e]; simp at hr ⊢; omega

theorem CallsMono.not_reached {s s' : PState} (h : CallsMono s s') (hr : reachedCallLimit s' = false) :
    reachedCallLimit s = false := by
  cases h0 : reachedCallLimit s with
  | false => rfl
  | true => rw [h.reached h0] at hr; exact hr

/-! ### Consequences: the attempts bookkeeping -/

def PaMono (a b : PAttempts) : Prop :=
  a.maxPos ≤ b.maxPos ∧ (b.maxPos = a.maxPos → a.callStacks.length ≤ b.callStacks.length)

theorem PaMono.refl (a : PAttempts) : PaMono a a := ⟨Nat.le_refl _, fun _ => Nat.le_refl _⟩

theorem PaMono.trans {a b c : PAttempts} (h1 : PaMono a b) (h2 : PaMono b c) : PaMono a c := by
  refine ⟨Nat.le_trans h1.1 h2.1, fun h => ?_⟩
  have e1 : b.maxPos = a.maxPos := by have := h1.1; have := h2.1; omega
  have e2 : c.maxPos = b.maxPos := by omega
  exact Nat.le_trans (h1.2 e1) (h2.2 e2)

/-- a token attempt keeps `PaMono`, and moves `maxPos` nowhere but to the position `b`. -/
theorem tryAddNewToken_spec (pa : PAttempts) (tok : PTok) (a b : Nat) (n : Bool) :
    PaMono pa (pa.tryAddNewToken tok a b n) ∧
    ((pa.tryAddNewToken tok a b n).maxPos = pa.maxPos ∨ (pa.tryAddNewToken tok a b n).maxPos = b) := by
  unfold PAttempts.tryAddNewToken
  simp only []
  repeat' split
  all_goals first
    | exact ⟨PaMono.refl _, Or.inl rfl⟩
    | (refine ⟨⟨?_, fun h => ?_⟩, Or.inl rfl⟩ <;> simp at * <;> omega)
    | (refine ⟨⟨?_, fun h => ?_⟩, Or.inr rfl⟩ <;> simp at * <;> omega)

theorem handleToken_spec (s : PState) (start : Nat) (tok : PTok) (succ : Bool) :
    PaMono s.pa (handleToken s start tok succ).pa ∧
    ((handleToken s start tok succ).pa.maxPos = s.pa.maxPos ∨
      (handleToken s start tok succ).pa.maxPos = s.pos) := by
  unfold handleToken
  simp only []
  repeat' split
  all_goals first
    | exact ⟨PaMono.refl _, Or.inl rfl⟩
    | exact tryAddNewToken_spec _ _ _ _ _
    | (refine ⟨⟨?_, fun h => ?_⟩, Or.inr rfl⟩ <;> simp [PAttempts.nullify] at * <;> omega)

/-- in range, the `splice` keeps the first `st` call stacks and replaces the rest. -/
theorem tryAddNewStackRule_eq {pa : PAttempts} (r : Nat) {st : Nat} (h : st ≤ pa.callStacks.length) :
    ∃ tl, pa.tryAddNewStackRule r st = some { pa with callStacks := pa.callStacks.take st ++ tl } := by
  have e : ∀ x, (pa.callStacks.take st ++ x).take st = pa.callStacks.take st := fun x =>
    List.take_left' (List.length_take_of_le h)
  unfold PAttempts.tryAddNewStackRule
  rw [if_neg (Nat.not_lt.2 h)]
  simp only [e]
  split <;> split <;> exact ⟨_, rfl⟩

theorem tryAddNewStackRule_spec {pa pa' : PAttempts} {r st : Nat}
    (h : pa.tryAddNewStackRule r st = some pa') :
    pa'.maxPos = pa.maxPos ∧ st ≤ pa'.callStacks.length := by
  have hst : st ≤ pa.callStacks.length := Nat.not_lt.1 fun hlt => by
    unfold PAttempts.tryAddNewStackRule at h; rw [if_pos hlt] at h; cases h
  obtain ⟨tl, e⟩ := tryAddNewStackRule_eq r hst
  rw [e] at h; cases h
  exact ⟨rfl, by rw [List.length_append, List.length_take_of_le hst]; exact Nat.le_add_right _ _⟩

theorem tryAddRuleToStack_spec {s1 ns ns' : PState} {r : Nat} (h0 : PaMono s1.pa ns.pa)
    (h : tryAddRuleToStack ns r s1.pa.callStacks.length s1.pa.maxPos = some ns') :
    PaMono s1.pa ns'.pa ∧ ns'.pa.maxPos = ns.pa.maxPos := by
  unfold tryAddRuleToStack at h
  simp only [] at h
  split at h
  · split at h
    · rename_i pa hp
      cases h
      obtain ⟨e, l⟩ := tryAddNewStackRule_spec hp
      refine ⟨⟨by show _ ≤ pa.maxPos; rw [e]; exact h0.1, fun h => ?_⟩, e⟩
      have h' : ns.pa.maxPos = s1.pa.maxPos := by rw [← e]; exact h
      rw [if_neg (by omega)] at l
      exact l
    · cases h
  · cases h; exact ⟨h0, rfl⟩

/-- the `splice` in `try_add_rule_to_stack` is always in range. -/
theorem tryAddRuleToStack_isSome {s1 ns : PState} {r : Nat} (h0 : PaMono s1.pa ns.pa) :
    ∃ ns', tryAddRuleToStack ns r s1.pa.callStacks.length s1.pa.maxPos = some ns' := by
  unfold tryAddRuleToStack
  simp only []
  split
  · have : (if ns.pa.maxPos > s1.pa.maxPos then 0 else s1.pa.callStacks.length) ≤
        ns.pa.callStacks.length := by
      split
      · omega
      · exact h0.2 (by have := h0.1; omega)
    obtain ⟨tl, hp⟩ := tryAddNewStackRule_eq r this
    rw [hp]; exact ⟨_, rfl⟩
  · exact ⟨_, rfl⟩

theorem Tr.paMono {s s' : PState} (h : Tr s s') : PaMono s.pa s'.pa := by
  induction h with
  | refl s => exact PaMono.refl _
  | post _ _ hp _ ih => rw [hp]; exact ih
  | inc h =>
    obtain ⟨c, rfl⟩ := incCall_some h
    exact PaMono.refl _
  | tok start t succ => exact (handleToken_spec _ _ _ _).1
  | add r _ h ih => exact (tryAddRuleToStack_spec ih h).1
  | trans _ _ ih1 ih2 => exact ih1.trans ih2

theorem run_paMono (cfg : Cfg) (fuel : Nat) (p : Prog) (s s' : PState)
    (h : (run cfg fuel p s).state? = some s') : PaMono s.pa s'.pa :=
  (run_tr cfg fuel p s s' h).paMono

/-! ### Consequences: `max_position` is a boundary -/

theorem Tr.maxPosBnd {s s' : PState} (h : Tr s s') (hb : isBoundary s.input s.pos = true)
    (hm : isBoundary s.input s.pa.maxPos = true) : isBoundary s.input s'.pa.maxPos = true := by
  induction h with
  | refl s => exact hm
  | post _ _ hp _ ih => rw [hp]; exact ih hb hm
  | inc h =>
    obtain ⟨c, rfl⟩ := incCall_some h
    exact hm
  | tok start t succ =>
    rcases (handleToken_spec _ start t succ).2 with e | e <;> rw [e] <;> assumption
  | add r h1 h ih => rw [(tryAddRuleToStack_spec h1.paMono h).2]; exact ih hb hm
  | trans h1 _ ih1 ih2 =>
    have b1 := h1.bnd
    have := ih2 (by rw [b1.1]; exact b1.2 hb) (by rw [b1.1]; exact ih1 hb hm)
    rwa [b1.1] at this

end PestModel.PS
