import PestModel.Model.Grammar
import PestModel.Lemmas.RefSkip
/-! C05/C09: the skipper's bound — `populate_choices` with its early exit computes what the model's `skipF` states
(the bound applied to the finished list). -/
namespace PestModel.G
open PestModel.LineCol (Str)

/-- a list that is already too long stays too long: the result extends it. -/
theorem capResult_populate_long {cap : Nat} (rules : List Rule) (fuel : Nat) (e : Expr) {ch : List Str}
    (hc : cap < ch.length) : capResult cap (populateChoices rules fuel e ch) = none := by
  cases h : populateChoices rules fuel e ch with
  | none => rfl
  | some x =>
    obtain ⟨own, rfl, _⟩ := populate_pop rules fuel e ch x h
    simp only [capResult, List.length_append, if_pos (Nat.lt_add_right _ hc)]

/-- **giving up on the way is the same as refusing a final list that is too long**: the search list only grows, and every
inlined list ends up inside the final one. -/
theorem populateChoicesCapped_eq (cap : Nat) (rules : List Rule) : ∀ (fuel : Nat) (e : Expr) (ch : List Str),
    populateChoicesCapped cap rules fuel e ch = capResult cap (populateChoices rules fuel e ch)
  | 0, _, _ => by simp [populateChoicesCapped, populateChoices, capResult]
  | fuel + 1, e, ch => by
    have hskip := PestModel.Ref.populate_is_skip rules
    unfold populateChoicesCapped
    by_cases hc : cap < ch.length
    · rw [if_pos hc, capResult_populate_long rules _ e hc]
    · rw [if_neg hc]
      unfold populateChoices
      split
      · exact populateChoicesCapped_eq cap rules fuel _ _
      · rename_i name rhs
        cases hl : lookupExpr rules name with
        | none => simp [capResult]
        | some body =>
          simp only [Option.bind_some]
          rw [populateChoicesCapped_eq cap rules fuel body []]
          cases hin : populateChoices rules fuel body [] with
          | none => simp [capResult]
          | some x =>
            obtain ⟨inl, rfl⟩ := hskip _ _ _ _ hin
            by_cases hlong : cap < inl.length
            · simp only [capResult, hlong, if_true]
              exact (capResult_populate_long rules _ rhs (by rw [List.length_append]; omega)).symm
            · simp only [capResult, hlong, if_false]
              exact populateChoicesCapped_eq cap rules fuel _ _
      · simp [capResult]
      · simp [capResult]
      · rename_i name
        cases hl : lookupExpr rules name with
        | none => simp [capResult]
        | some body => simp only [Option.bind_some]; exact populateChoicesCapped_eq cap rules fuel _ _
      · simp [capResult]
/-- the model's `skipF` (bound applied to the finished list) is the transcription. -/
theorem skipF_as_written (rules : List Rule) (e : Expr) : skipF rules e = skipFAsWritten rules e := by
  unfold skipF skipFAsWritten
  split
  · rename_i inner
    cases hm : PestModel.Gen.Consts.maxSkipStrings with
    | none =>
      simp only []
      cases hp : populateChoices rules (rulesSize rules + inner.size + 1) inner [] with
      | none => rfl
      | some x =>
        obtain ⟨l, rfl⟩ := PestModel.Ref.populate_is_skip rules _ _ _ _ hp
        simp [skipTooLong, hm]
    | some c =>
      simp only []
      rw [populateChoicesCapped_eq]
      cases hp : populateChoices rules (rulesSize rules + inner.size + 1) inner [] with
      | none => rfl
      | some x =>
        obtain ⟨l, rfl⟩ := PestModel.Ref.populate_is_skip rules _ _ _ _ hp
        by_cases hl : c < l.length
        · simp [skipTooLong, hm, capResult, hl]
        · simp [skipTooLong, hm, capResult, hl]
  · rename_i hne
    first
      | rfl
      | (split
         · rename_i inner
           exact (hne inner rfl).elim
         · rfl)
end PestModel.G
