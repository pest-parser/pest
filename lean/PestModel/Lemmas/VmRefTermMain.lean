import PestModel.Lemmas.VmRefTerm
import PestModel.Lemmas.VmRefMain
/-! C01 (termination): the built-ins, and the statement `TF X` ("the VM reaches a definite outcome wherever
the family `X` of reference functions does") with its base case. -/
namespace PestModel.VmRef
open PestModel.G PestModel.PS PestModel.Lower PestModel.Ref PestModel.Views PestModel.Track
open PestModel.RefTrace (LA)
open PestModel.LineCol (Str isBoundary bLen cLen splitAt? slice?)

/-- an approximation that is definite is the limit. -/
theorem agree_of_le {a b : Res} (h : a.le b) (hf : a ≠ .fuel) : a = b := by
  rcases h with h | h
  · exact absurd h hf
  · exact h

theorem agree_seqD {D1n D1 D2n D2 : St → Res} (a1 : ∀ σ, D1n σ ≠ .fuel → D1n σ = D1 σ)
    (a2 : ∀ σ, D2n σ ≠ .fuel → D2n σ = D2 σ) (σ : St) (h : seqD D1n D2n σ ≠ .fuel) :
    seqD D1n D2n σ = seqD D1 D2 σ := by
  have h1 : D1n σ ≠ .fuel := by
    intro h'; apply h; simp [seqD, h']
  unfold seqD at h ⊢
  rw [← a1 σ h1]
  cases hd : D1n σ with
  | ok s1 f1 =>
    rw [hd] at h
    dsimp only at h ⊢
    have h2 : D2n s1 ≠ .fuel := by
      intro h'; apply h; simp [h']
    rw [← a2 s1 h2]
  | fail => rfl
  | stuck => rfl
  | fuel => rfl

variable {cfg : Cfg}

theorem leaf_stackPeek (st : PState) : run cfg 1 .stackPeek st ≠ .fuel := by
  rw [run]
  split
  · simp
  · split
    · simp
    · exact terminal_ne_fuel _ _ _
theorem leaf_stackPop (st : PState) : run cfg 1 .stackPop st ≠ .fuel := by
  rw [run]
  split
  · simp
  · split
    · simp
    · simp
    · exact terminal_ne_fuel _ _ _

theorem term_builtin {env : Env} {memchr : Bool} (hsize : env.rules.length ≤ 333333333) (name : String)
    (st : PState) (hg : GenVm.Good st) : Term (mkCfg env memchr) (Lower.builtin env name) st :=
  builtin_ind env name (M := fun p => ∀ st, GenVm.Good st → Term (mkCfg env memchr) p st)
    (fun _ _ => term_leaf) (fun _ hg => term_rule hg term_leaf) (fun _ _ => term_leaf)
    (fun st _ => ⟨1, leaf_stackPeek st⟩) (fun _ _ => term_leaf) (fun _ st _ => ⟨1, leaf_stackPop st⟩)
    (fun _ _ _ => term_leaf) (fun _ _ => term_leaf) (fun _ _ _ _ => term_leaf) (fun _ _ _ => term_leaf)
    (fun _ _ _ => term_leaf)
    (fun _ _ => term_call fun p hp => by rw [undefined_none (memchr := memchr) hsize] at hp; cases hp)
    (fun h1 h2 (st : PState) (hg : GenVm.Good st) => term_orElse (h1 st hg) fun _ st1 hr =>
      h2 st1 (GenVm.good_run hg (by rw [hr]; rfl))) st hg

section
variable {env : Env} {extras memchr : Bool} {input : Str}

/-- the VM reaches a definite outcome wherever the family `X` of reference functions does. -/
structure TF (env : Env) (extras memchr : Bool) (input : Str) (X : Fam) : Prop where
  e : ∀ (e : OExpr) (m : Atomicity) (la : LA), GoodE extras env.rules e → CtxOK env extras m e →
    TermS (mkCfg env memchr) input (vmExpr env m e) m la (X.d m la.b (ofOptimized e))
  ca : ∀ (name : String) (m : Atomicity) (la : LA), Reach env.rules name m →
    TermS (mkCfg env memchr) input (callRule env name m) m la (X.ca m la.b name)
  k : ∀ (m : Atomicity) (la : LA), TermS (mkCfg env memchr) input (skipProg env m) m la (X.k m la.b)
  l : ∀ (e : OExpr) (m : Atomicity) (la : LA), GoodE extras env.rules e → CtxOK env extras m e →
    TermS (mkCfg env memchr) input
      (.repLoop (.sequence (.andThen (skipProg env m) (vmExpr env m e)))) m la
      (fun σ => X.l m la.b (ofOptimized e) σ [])
  st : ∀ (name : String) (la : LA),
    TermS (mkCfg env memchr) input (.repLoop (callRule env name .nonAtomic)) .nonAtomic la
      (fun σ => X.st la.b name σ [])
  cl : ∀ (la : LA),
    TermS (mkCfg env memchr) input
      (.repLoop (.sequence (.andThen (callRule env "COMMENT" .nonAtomic)
        (.repeat_ (callRule env "WHITESPACE" .nonAtomic))))) .nonAtomic la
      (fun σ => X.cl la.b σ [])

theorem TF_bot {X : Fam} (h : ∀ q, X.at q = .fuel) : TF env extras memchr input X where
  e := fun e m la _ _ _ σ _ hd => absurd (h (.d m la.b (ofOptimized e) σ)) hd
  ca := fun n m la _ _ σ _ hd => absurd (h (.ca m la.b n σ)) hd
  k := fun m la _ σ _ hd => absurd (h (.k m la.b σ)) hd
  l := fun e m la _ _ _ σ _ hd => absurd (h (.l m la.b (ofOptimized e) σ [])) hd
  st := fun n la _ σ _ hd => absurd (h (.st la.b n σ [])) hd
  cl := fun la _ σ _ hd => absurd (h (.cl la.b σ [])) hd

end
end PestModel.VmRef
