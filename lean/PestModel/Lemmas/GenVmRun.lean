import PestModel.Lemmas.PStateInv
import PestModel.Lemmas.PStateLimitK
import PestModel.Lemmas.VmRefMono
/-! Definite runs: big-step evaluation with existential fuel (`Ev`), and the two shapes all combinators
have, with their one-step rules: `Pol.comb` (`and_then`, `or_else`) and `Br` (the bracketing ones, whose
continuations `K` satisfy `KOK`). Nothing here depends on the lowering of grammars. -/
namespace PestModel.GenVm
open PestModel.PS PestModel.Stack
open PestModel.LineCol (Str isBoundary)
open PestModel.VmRef (run_mono)

/-- well-formed, no call limit. -/
structure Good (s : PState) : Prop where
  wf : s.WF
  calls : s.calls = none

theorem good_run {cfg : Cfg} {n : Nat} {p : Prog} {s x : PState} (hg : Good s)
    (h : (run cfg n p s).state? = some x) : Good x :=
  ⟨(run_rel cfg n p s x h).wf hg.wf, (run_callsMono cfg n p s x h).1 hg.calls⟩

theorem Good.incCall {s : PState} (h : Good s) : incCall s = some s := by
  unfold PS.incCall; rw [h.calls]

theorem Good.notLimit {s : PState} (h : Good s) : reachedCallLimit s = false := by
  unfold reachedCallLimit; rw [h.calls]

theorem Good.of_rel {s s' : PState} (h : Good s) (r : Rel s s') (hc : s'.calls = none) : Good s' :=
  ⟨r.wf h.wf, hc⟩

/-- `p` run from `s` reaches the definite outcome `o`. -/
def Ev (cfg : Cfg) (p : Prog) (s : PState) (o : Out) : Prop := ∃ m, run cfg m p s = o ∧ o ≠ .fuel

variable {cfg : Cfg}

theorem Ev.of_run {m : Nat} {p : Prog} {s : PState} (h : run cfg m p s ≠ .fuel) :
    Ev cfg p s (run cfg m p s) := ⟨m, rfl, h⟩

theorem Ev.ne_fuel {p : Prog} {s : PState} {o : Out} (h : Ev cfg p s o) : o ≠ .fuel := by
  obtain ⟨_, _, n⟩ := h; exact n

theorem Ev.good {p : Prog} {s x : PState} {o : Out} (h : Ev cfg p s o) (hg : Good s)
    (hx : o.state? = some x) : Good x := by
  obtain ⟨m, rfl, -⟩ := h
  exact good_run hg hx

theorem Ev.rel_ok {p : Prog} {s x : PState} (h : Ev cfg p s (.ok x)) : Rel s x := by
  obtain ⟨m, e, -⟩ := h
  exact run_ok_rel e

theorem Ev.rel_err {p : Prog} {s x : PState} (h : Ev cfg p s (.err x)) : Rel s x := by
  obtain ⟨m, e, -⟩ := h
  exact run_err_rel e

/-! `and_then` and `or_else` differ only in which outcome of the first program lets the second one run. -/

/-- the outcome that continues: `ok` for `and_then`, `err` for `or_else`. -/
inductive Pol | ok | err

def Pol.comb : Pol → Prog → Prog → Prog
  | .ok => .andThen
  | .err => .orElse

def Pol.mk : Pol → PState → Out
  | .ok => .ok
  | .err => .err

/-- the state the second program starts from, if it runs. -/
def Pol.sel : Pol → Out → Option PState
  | .ok, .ok s => some s
  | .err, .err s => some s
  | _, _ => none

theorem run_comb (π : Pol) (k : Nat) (p q : Prog) (s : PState) :
    run cfg (k+1) (π.comb p q) s =
      match π.sel (run cfg k p s) with | some s' => run cfg k q s' | none => run cfg k p s := by
  cases π
  · show run cfg (k+1) (.andThen p q) s = _
    rw [run_andThen]; cases run cfg k p s <;> rfl
  · show run cfg (k+1) (.orElse p q) s = _
    rw [run_orElse]; cases run cfg k p s <;> rfl

theorem Pol.sel_mk (π : Pol) (s : PState) : π.sel (π.mk s) = some s := by cases π <;> rfl
theorem Pol.sel_fuel (π : Pol) : π.sel .fuel = none := by cases π <;> rfl
theorem Pol.mk_ne_fuel (π : Pol) (s : PState) : π.mk s ≠ .fuel := by cases π <;> exact Out.noConfusion

theorem Pol.sel_some {π : Pol} {o : Out} {s : PState} (h : π.sel o = some s) : o = π.mk s := by
  cases π <;> cases o <;> simp only [Pol.sel, Option.some.injEq, reduceCtorEq] at h <;> exact congrArg _ h

theorem run_comb_ne_fuel {π : Pol} {k : Nat} {p q : Prog} {s : PState}
    (h : run cfg (k+1) (π.comb p q) s ≠ .fuel) : run cfg k p s ≠ .fuel := by
  intro hf; rw [run_comb, hf, π.sel_fuel] at h; exact h rfl

/-- `K` passes `panic` / `fuel` through and is definite on definite outcomes. -/
structure KOK (K : PState → Out → Out) : Prop where
  fuel : ∀ s, K s .fuel = .fuel
  panic : ∀ s, K s .panic = .panic
  ne_fuel : ∀ s o, o ≠ .fuel → K s o ≠ .fuel

theorem KOK.of {K : PState → Out → Out} (hf : ∀ s, K s .fuel = .fuel) (hp : ∀ s, K s .panic = .panic)
    (hok : ∀ s x, K s (.ok x) ≠ .fuel) (herr : ∀ s x, K s (.err x) ≠ .fuel) : KOK K :=
  ⟨hf, hp, fun s o h => by
    cases o with
    | ok x => exact hok s x
    | err x => exact herr s x
    | panic => rw [hp]; exact Out.noConfusion
    | fuel => exact absurd rfl h⟩

/-- the continuations `K` of the bracketing combinators other than `rule` keep definite outcomes definite. -/
theorem _root_.PestModel.PS.Shape.K_ne_fuel {X body : Prog} {inc : Bool} {pre : PState → PState}
    {K : PState → Out → Out} (h : Shape X inc body pre K) (s1 : PState) {o : Out} (ho : o ≠ .fuel) :
    K s1 o ≠ .fuel := by
  cases h <;> cases o <;> try exact absurd rfl ho
  all_goals simp only [seqK, roeK, optK, idK, laK, atomK, pushK, pushSpan]
  all_goals (repeat' split) <;> simp

theorem _root_.PestModel.PS.Shape.kok {X body : Prog} {inc : Bool} {pre : PState → PState} {K : PState → Out → Out}
    (h : Shape X inc body pre K) : KOK K :=
  ⟨fun _ => by cases h <;> rfl, fun _ => by cases h <;> rfl, fun s _ ho => h.K_ne_fuel s ho⟩

theorem _root_.PestModel.VmRef.ruleOkPost_ne_fuel (s1 : PState) (r : Nat) (ns : PState) : ruleOkPost s1 r ns ≠ .fuel := by
  unfold ruleOkPost
  split
  · simp
  · unfold ruleFinish
    split
    · split <;> simp
    · simp

theorem _root_.PestModel.VmRef.ruleErrPost_ne_fuel (s1 : PState) (r : Nat) (ns : PState) : ruleErrPost s1 r ns ≠ .fuel := by
  unfold ruleErrPost
  split <;> simp

theorem ruleK_ok (r : Nat) : KOK (ruleK r) :=
  .of (fun _ => rfl) (fun _ => rfl) (fun _ _ => VmRef.ruleOkPost_ne_fuel _ _ _)
    (fun _ _ => VmRef.ruleErrPost_ne_fuel _ _ _)

theorem fuel_pos {k : Nat} {p : Prog} {s : PState} (h : run cfg k p s ≠ .fuel) : ∃ k', k = k' + 1 := by
  cases k with
  | zero => rw [run_zero] at h; exact absurd rfl h
  | succ k => exact ⟨k, rfl⟩

/-- one step of `X` from `s` runs `P` from `t` and hands the outcome to `K s`. -/
theorem ev_step {X P : Prog} {K : PState → Out → Out} (hK : KOK K) {s t : PState} {o : Out}
    (hrun : ∀ f, run cfg (f+1) X s = K s (run cfg f P t)) (h : Ev cfg P t o) : Ev cfg X s (K s o) := by
  obtain ⟨m, e, n⟩ := h
  exact ⟨m + 1, by rw [hrun, e], hK.ne_fuel _ _ n⟩

theorem ev_step_inv {X P : Prog} {K : PState → Out → Out} (hK : KOK K) {s t : PState} {o : Out}
    (hrun : ∀ f, run cfg (f+1) X s = K s (run cfg f P t)) (h : Ev cfg X s o) :
    ∃ o', Ev cfg P t o' ∧ o = K s o' := by
  obtain ⟨m, e, n⟩ := h
  obtain ⟨m, rfl⟩ := fuel_pos (by rw [e]; exact n)
  rw [hrun] at e
  refine ⟨run cfg m P t, ⟨m, rfl, ?_⟩, e.symm⟩
  intro hf
  rw [hf, hK.fuel] at e
  exact n e.symm

/-- `X` is a bracketing combinator: from a state without call limit it runs `body` from `pre s` and hands
the outcome to `K s`. -/
def Br (cfg : Cfg) (X body : Prog) (pre : PState → PState) (K : PState → Out → Out) : Prop :=
  ∀ (f : Nat) (s : PState), Good s → run cfg (f+1) X s = K s (run cfg f body (pre s))

theorem bracket_good {fuel : Nat} {body : Prog} {pre : PState → PState} {K : PState → Out → Out}
    {s : PState} (hg : Good s) :
    bracket cfg fuel body pre K s = K s (run cfg fuel body (pre s)) := by
  unfold bracket bracket0; rw [hg.incCall]

theorem _root_.PestModel.PS.Shape.br {X body : Prog} {inc : Bool} {pre : PState → PState} {K : PState → Out → Out}
    (h : Shape X inc body pre K) : Br cfg X body pre K := fun f s hg => by
  rw [h.run]
  cases inc
  · rfl
  · exact bracket_good hg
theorem br_rule (r : Nat) (p : Prog) : Br cfg (.rule r p) p rulePre (ruleK r) :=
  fun f s hg => by rw [run_rule_K, bracket_good hg]

/-- a definite run of a bracketing combinator contains a definite run of its body. -/
theorem br_ne_fuel {X P : Prog} {pre : PState → PState} {K : PState → Out → Out} (hrun : Br cfg X P pre K)
    (hK : KOK K) {s : PState} (hg : Good s) {k : Nat} (hne : run cfg k X s ≠ .fuel) :
    ∃ k', k = k' + 1 ∧ run cfg k' P (pre s) ≠ .fuel ∧ run cfg k X s = K s (run cfg k' P (pre s)) := by
  obtain ⟨k, rfl⟩ := fuel_pos hne
  refine ⟨k, rfl, fun hf => hne ?_, hrun k s hg⟩
  rw [hrun k s hg, hf, hK.fuel]

theorem ev_bracket {X P : Prog} {pre : PState → PState} {K : PState → Out → Out} (hrun : Br cfg X P pre K)
    (hK : KOK K) {s : PState} {o : Out} (hg : Good s) (h : Ev cfg P (pre s) o) : Ev cfg X s (K s o) :=
  ev_step hK (fun f => hrun f s hg) h

theorem ev_bracket_inv {X P : Prog} {pre : PState → PState} {K : PState → Out → Out} (hrun : Br cfg X P pre K)
    (hK : KOK K) {s : PState} {o : Out} (hg : Good s) (h : Ev cfg X s o) :
    ∃ o', Ev cfg P (pre s) o' ∧ o = K s o' :=
  ev_step_inv hK (fun f => hrun f s hg) h

theorem ev_bracket0_inv {X P : Prog} {pre : PState → PState} {K : PState → Out → Out}
    (hrun : ∀ (f : Nat) (s : PState), run cfg (f+1) X s = bracket0 cfg f P pre K s)
    (hK : KOK K) {s : PState} {o : Out} (h : Ev cfg X s o) :
    ∃ o', Ev cfg P (pre s) o' ∧ o = K s o' :=
  ev_step_inv hK (fun f => hrun f s) h

/-! ### composing definite runs (monotonicity in the fuel) -/

theorem Ev.det {p : Prog} {s : PState} {o o' : Out} (h1 : Ev cfg p s o) (h2 : Ev cfg p s o') : o = o' := by
  obtain ⟨m1, e1, n1⟩ := h1
  obtain ⟨m2, e2, n2⟩ := h2
  have a := run_mono (cfg := cfg) (F := m1) (F' := max m1 m2) (p := p) (s := s) (by rw [e1]; exact n1)
    (Nat.le_max_left _ _)
  have b := run_mono (cfg := cfg) (F := m2) (F' := max m1 m2) (p := p) (s := s) (by rw [e2]; exact n2)
    (Nat.le_max_right _ _)
  rw [← e1, ← e2, ← a, ← b]

theorem ev_two {p q : Prog} {s t : PState} {o o' : Out} (h1 : Ev cfg p s o) (h2 : Ev cfg q t o') :
    ∃ m, run cfg m p s = o ∧ run cfg m q t = o' := by
  obtain ⟨m1, e1, n1⟩ := h1
  obtain ⟨m2, e2, n2⟩ := h2
  refine ⟨max m1 m2, ?_, ?_⟩
  · rw [run_mono (by rw [e1]; exact n1) (Nat.le_max_left _ _), e1]
  · rw [run_mono (by rw [e2]; exact n2) (Nat.le_max_right _ _), e2]

theorem ev_comb_go (π : Pol) {p q : Prog} {s s' : PState} {o : Out} (h1 : Ev cfg p s (π.mk s'))
    (h2 : Ev cfg q s' o) : Ev cfg (π.comb p q) s o := by
  obtain ⟨m, e1, e2⟩ := ev_two h1 h2
  exact ⟨m + 1, by rw [run_comb, e1, π.sel_mk]; exact e2, h2.ne_fuel⟩

theorem ev_comb_stop (π : Pol) {p q : Prog} {s : PState} {o : Out} (h1 : Ev cfg p s o)
    (hn : π.sel o = none) : Ev cfg (π.comb p q) s o := by
  obtain ⟨m, e1, n1⟩ := h1
  exact ⟨m + 1, by rw [run_comb, e1, hn], n1⟩

theorem ev_call {i : Nat} {p : Prog} {s : PState} {o : Out} (hi : cfg.env[i]? = some p)
    (h : Ev cfg p s o) : Ev cfg (.call i) s o := by
  obtain ⟨m, e, n⟩ := h
  exact ⟨m + 1, by rw [run_call, hi]; exact e, n⟩

theorem ev_call_none {i : Nat} {s : PState} (hi : cfg.env[i]? = none) : Ev cfg (.call i) s .panic :=
  ⟨1, by rw [run_call, hi], by simp⟩

theorem ev_repLoop_ok {p : Prog} {s s' : PState} {o : Out} (h1 : Ev cfg p s (.ok s'))
    (h2 : Ev cfg (.repLoop p) s' o) : Ev cfg (.repLoop p) s o := by
  obtain ⟨m, e1, e2⟩ := ev_two h1 h2
  exact ⟨m + 1, by rw [run_repLoop, e1]; exact e2, h2.ne_fuel⟩

theorem ev_repLoop_err {p : Prog} {s s' : PState} (h1 : Ev cfg p s (.err s')) :
    Ev cfg (.repLoop p) s (.ok s') := by
  obtain ⟨m, e1, -⟩ := h1
  exact ⟨m + 1, by rw [run_repLoop, e1], by simp⟩

theorem ev_repLoop_panic {p : Prog} {s : PState} (h1 : Ev cfg p s .panic) :
    Ev cfg (.repLoop p) s .panic := by
  obtain ⟨m, e1, -⟩ := h1
  exact ⟨m + 1, by rw [run_repLoop, e1], by simp⟩

theorem good_checkpoint {s : PState} (h : Good s) : Good (checkpoint s) :=
  ⟨⟨h.wf.1, (snapshot_spec s.stack h.wf.2).1⟩, h.calls⟩

theorem good_atomPre (a : Atomicity) {s : PState} (h : Good s) : Good (atomPre a s) := by
  unfold atomPre; split
  · exact ⟨h.wf, h.calls⟩
  · exact h

theorem good_rulePre {s : PState} (h : Good s) : Good (rulePre s) :=
  h.of_rel (rulePre_rel s) ((rulePre_core s).1.trans h.calls)

end PestModel.GenVm
