import PestModel.Model.StackSpec
/-! Transaction bodies (`Balanced` histories) on the copy-at-snapshot specification. -/
namespace PestModel.Stack
variable {α : Type}

theorem Naive.run_append (n : Naive α) (a b : List (Op α)) :
    Naive.run n (a ++ b) =
      ((Naive.run (Naive.run n a).1 b).1, (Naive.run n a).2 ++ (Naive.run (Naive.run n a).1 b).2) := by
  induction a generalizing n with
  | nil => simp [Naive.run]
  | cons op a ih => simp [Naive.run, ih]

end PestModel.Stack
namespace PestModel.C11
open PestModel.Stack
variable {α : Type}

/-- Histories in which every `restore`/`clearSnapshot` closes a `snapshot` opened inside the
history itself (a transaction body, with nested transactions allowed). -/
inductive Balanced : List (Op α) → Prop where
  | nil : Balanced []
  | push (x : α) {b} : Balanced b → Balanced (.push x :: b)
  | pop {b} : Balanced b → Balanced (.pop :: b)
  | peek {b} : Balanced b → Balanced (.peek :: b)
  | abort {b c} : Balanced b → Balanced c → Balanced (.snapshot :: b ++ .restore :: c)
  | commit {b c} : Balanced b → Balanced c → Balanced (.snapshot :: b ++ .clearSnapshot :: c)

/-- A balanced body acts on the contents only: its result and outputs are a function of `cur`, and
whatever copies were saved before it are carried along untouched. -/
theorem naive_balanced (b : List (Op α)) (hb : Balanced b) (cur : List α) :
    ∃ cur' os, ∀ sv, Naive.run ⟨cur, sv⟩ b = (⟨cur', sv⟩, os) := by
  induction hb generalizing cur with
  | nil => exact ⟨cur, [], fun _ => rfl⟩
  | push x _ ih =>
    obtain ⟨c, os, h⟩ := ih (x :: cur)
    exact ⟨c, .unit :: os, fun sv => by simp only [Naive.run, Naive.step, h]⟩
  | pop _ ih =>
    obtain ⟨c, os, h⟩ := ih cur.tail
    exact ⟨c, .val cur.head? :: os, fun sv => by simp only [Naive.run, Naive.step, h]⟩
  | peek _ ih =>
    obtain ⟨c, os, h⟩ := ih cur
    exact ⟨c, .val cur.head? :: os, fun sv => by simp only [Naive.run, Naive.step, h]⟩
  | @abort b c _ _ ihb ihc =>
    obtain ⟨c1, o1, h1⟩ := ihb cur
    obtain ⟨c2, o2, h2⟩ := ihc cur
    refine ⟨c2, .unit :: o1 ++ .unit :: o2, fun sv => ?_⟩
    rw [Naive.run_append]
    simp only [Naive.run, Naive.step, h1, h2, List.cons_append]
  | @commit b c _ _ ihb ihc =>
    obtain ⟨c1, o1, h1⟩ := ihb cur
    obtain ⟨c2, o2, h2⟩ := ihc c1
    refine ⟨c2, .unit :: o1 ++ .unit :: o2, fun sv => ?_⟩
    rw [Naive.run_append]
    simp only [Naive.run, Naive.step, h1, h2, List.cons_append, List.tail_cons]

/-- On the specification a committed transaction is its body, bracketed by two `unit` outputs. -/
theorem naive_commit (n : Naive α) (b : List (Op α)) (hb : Balanced b) :
    Naive.run n (.snapshot :: b ++ [.clearSnapshot])
      = ((Naive.run n b).1, .unit :: (Naive.run n b).2 ++ [.unit]) := by
  obtain ⟨c, os, h⟩ := naive_balanced b hb n.cur
  rw [Naive.run_append]
  cases n
  simp only [Naive.run, Naive.step, h, List.tail_cons, List.cons_append]

end PestModel.C11
