import PestModel.Model.Pipeline
import PestModel.Lemmas.RefSliced
import PestModel.Lemmas.ReaderAgree
import PestModel.Lemmas.OptTotal
import PestModel.Lemmas.MetaRules
import PestModel.Lemmas.ReaderTrees
/-!
C09, the whole pipeline: **`parse_and_optimize` reaches none of its panic sites on any text** (`validate_pairs`' `unwrap`,
the reader's, the unroller's `unwrap`, `rule_to_optimized_rule`'s `unreachable!`).
-/
namespace PestModel.Pipeline
open PestModel.G PestModel.Reader PestModel.ReaderFull PestModel.ReaderP PestModel.ReaderShape PestModel.Ref
open PestModel.Views (Tree preorderList mem_preorder_self mem_preorder_children)
open PestModel.LineCol (Str)

/-- where the reader with panics returns rules, the reader of C07 returns the same. -/
theorem withSpans_full {extras : Bool} {text : Str} {forest : List Tree} {rules : List Rule}
    (hc : ReaderP.consumeRulesWithSpans extras text forest = .ok rules) :
    ReaderFull.consumeRulesWithSpans extras text forest = some rules := by
  have h := PestModel.ReaderAgree.consumeRulesGo_agree extras text (PestModel.Views.sizeList forest + 1) forest
  unfold ReaderP.consumeRulesWithSpans at hc
  rw [hc] at h
  exact h.symm

mutual
  theorem sliced_preorder {text : Str} : ∀ (t : Tree), treeSliced text t → ∀ x ∈ t.preorder, treeSliced text x
    | .node r a b tg cs, h, x, hx => by
      simp only [Tree.preorder, List.mem_cons] at hx
      rcases hx with rfl | hx
      · exact h
      · exact sliced_preorderList cs h.2 x hx
  theorem sliced_preorderList {text : Str} : ∀ (l : List Tree), slicedList text l → ∀ x ∈ preorderList l, treeSliced text x
    | [], _, x, hx => by simp [preorderList] at hx
    | t :: ts, h, x, hx => by
      simp only [preorderList, List.mem_append] at hx
      rcases hx with hx | hx
      · exact sliced_preorder t h.1 x hx
      · exact sliced_preorderList ts h.2 x hx
end

theorem mem_sliced {text : Str} : ∀ {l : List Tree}, slicedList text l → ∀ x ∈ l, treeSliced text x
  | [], _, x, hx => by simp at hx
  | t :: ts, h, x, hx => by
    rcases List.mem_cons.1 hx with rfl | hx
    · exact h.1
    · exact mem_sliced h.2 x hx

theorem namesOf_ok {text : Str} : ∀ (l : List Tree), (∀ x ∈ l, (strOf text x).isSome = true) → ∃ ns, namesOf text l = .ok ns
  | [], _ => ⟨[], rfl⟩
  | t :: ts, h => by
    obtain ⟨ns, hns⟩ := namesOf_ok ts (fun x hx => h x (by simp [hx]))
    have ht := h t (by simp)
    cases hs : strOf text t with
    | none => simp [hs] at ht
    | some s => exact ⟨String.ofList s :: ns, by simp [namesOf, hs, orPanic, R3.bind, R3.map, hns]⟩

theorem definitions_mem (forest : List Tree) : ∀ (defs : List Tree), definitions forest = .ok defs →
    ∀ d ∈ defs, d ∈ preorderList forest := by
  fun_induction definitions forest with
  | case1 => intro defs h; cases h; simp
  | case2 t ts hk hch => intro defs h; cases h
  | case3 t ts hk c cs hch ih =>
    intro defs h d hd
    obtain ⟨ds, hds, rfl⟩ := R3.map_eq_ok.1 h
    simp only [preorderList, List.mem_append]
    split at hd
    · exact .inr (ih ds hds d hd)
    · rcases List.mem_cons.1 hd with rfl | hd
      · exact .inl (mem_preorder_children t _ (by rw [hch]; simp [preorderList, mem_preorder_self]))
      · exact .inr (ih ds hds d hd)
  | case4 t ts hk ih =>
    intro defs h d hd
    simp only [preorderList, List.mem_append]
    exact .inr (ih defs h d hd)

theorem called_mem : ∀ (forest : List Tree), ∀ x ∈ called forest, x ∈ preorderList forest
  | [], x, hx => by simp [called] at hx
  | t :: ts, x, hx => by
    simp only [called] at hx
    simp only [preorderList, List.mem_append]
    split at hx
    · rcases List.mem_append.1 hx with hx | hx
      · have h1 := (List.mem_filter.1 hx).1
        exact .inl (mem_preorder_children t x (List.mem_of_mem_drop h1))
      · exact .inr (called_mem ts x hx)
    · exact .inr (called_mem ts x hx)

theorem definitions_ok {text : Str} (forest : List Tree) : GrammarForest text forest → ∃ defs, definitions forest = .ok defs := by
  fun_induction definitions forest with
  | case1 => exact fun _ => ⟨[], rfl⟩
  | case2 t ts hk hch =>
    intro hs
    rcases hs t (by simp) hk with ⟨c, rest, hc, _⟩ | ⟨id, asg, mods, ob, e, cb, hc, _⟩ <;> simp [hch] at hc
  | case3 t ts hk c cs hch ih =>
    intro hs
    obtain ⟨defs, hd⟩ := ih fun x hx => hs x (by simp [hx])
    exact ⟨_, by rw [hd]; rfl⟩
  | case4 t ts hk ih => exact fun hs => ih fun x hx => hs x (by simp [hx])

/-- the pairs `validate_pairs` takes names from are pairs of the parse, so their spans are slices of the text. -/
theorem strOf_of_mem {text : Str} {forest : List Tree} (h : slicedList text forest) {x : Tree} (hx : x ∈ preorderList forest) :
    (strOf text x).isSome = true := by
  have := sliced_preorderList forest h x hx
  cases x
  exact this.1

theorem validatePairs_ok {text : Str} (forest : List Tree) (hs : GrammarForest text forest) (hsl : slicedList text forest) :
    ∃ errs, validatePairs text forest = .ok errs := by
  obtain ⟨defs, hd⟩ := definitions_ok forest hs
  obtain ⟨names, hn⟩ := namesOf_ok defs fun d hdm => strOf_of_mem hsl (definitions_mem forest defs hd d hdm)
  obtain ⟨used, hu⟩ := namesOf_ok (called forest) fun x hx => strOf_of_mem hsl (called_mem forest x hx)
  simp only [validatePairs, hd, hn, hu, R3.bind]
  exact ⟨_, rfl⟩

theorem afterParse_np (extras : Bool) (text : Str) (forest : List Tree) (hs : GrammarForest text forest)
    (hsl : slicedList text forest) : afterParse extras text forest ≠ .panic := by
  obtain ⟨errs, he⟩ := validatePairs_ok forest hs hsl
  unfold afterParse
  rw [he]
  simp only []
  split
  · simp
  · have hp := consumeRulesWithSpans_post (extras := extras) hs
    cases hc : ReaderP.consumeRulesWithSpans extras text forest with
    | panic => exact absurd hc hp.1
    | err => simp
    | ok rules =>
      simp only []
      split
      · simp
      · have hrv := hp.2 rules hc
        have hopt := PestModel.OptTotal.optimizeWith_total extras true rules (PestModel.OptTotal.posCounts_rulesV hrv)
        cases ho : optimize extras rules with
        | none => unfold optimize at ho; rw [ho] at hopt; simp at hopt
        | some rs => simp

/-- **`parse_and_optimize` never panics**: for every text and both feature settings the pipeline model returns rules or
errors. -/
theorem pipeline_no_panic (extras : Bool) (text : Str) : parseAndOptimize extras text ≠ some .panic := by
  unfold parseAndOptimize
  generalize hm : PestModel.Ref.meaning PestModel.Gen.Meta.rules false noUni 1000000 "grammar_rules" text = m
  cases m with
  | ok s' forest =>
    intro hc
    exact afterParse_np extras text forest (PestModel.MetaPost.meta_forest text _ s' forest hm)
      (meaning_sliced _ _ _ _ _ _ s' forest hm) (Option.some.inj hc)
  | _ => simp

end PestModel.Pipeline
