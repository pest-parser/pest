import PestModel.Lemmas.DebuggerInv
/-!
`Inv` is preserved by the controller, hence holds in every reachable state.

A controller step that leaves the thread alone keeps `Static` (it reads `received`, `bpsAt`, `entries`,
`finalOk` and, monotonically, `isDone`); what remains is how `Phase` moves along the micro-steps of
`run`: `RJ` when the restart is issued, `RU` once the stop flag is set, `RG` once the thread is unparked.
-/
namespace PestModel.Dbg

theorem park_match_eq (pc : PPc) : (match pc with | .park _ => true | _ => false) = isPark pc := by
  cases pc <;> rfl

theorem PcData.mono {s s' : State} {sent : List Event} {pc : PPc} (h : PcData s sent pc)
    (hb : s'.bpsAt = s.bpsAt) (he : s'.entries = s.entries) (hf : s'.finalOk = s.finalOk)
    (hd : s.isDone = true → s'.isDone = true) : PcData s' sent pc := by
  cases pc <;> simp only [PcData, FinalShape, finalEv, hb, he, hf] at h ⊢
  case abortCheck => exact ⟨hd h.1, h.2⟩
  case checkCancel => exact ⟨h.1, h.2.imp_left hd⟩
  all_goals exact h

theorem Static.mono {s s' : State} {t : Thread} (h : Static s t) (hr : s'.received = s.received)
    (hb : s'.bpsAt = s.bpsAt) (he : s'.entries = s.entries) (hf : s'.finalOk = s.finalOk)
    (hd : s.isDone = true → s'.isDone = true) : Static s' t := by
  obtain ⟨h1, h2, h3, h4⟩ := h
  refine ⟨hr ▸ h1, h2.mono hb he hf hd, ?_, h4⟩
  rw [hb, he]; simpa only [pendEv, he] using h3

/-- An unpark keeps `Static`: the token it sets is paid for by the count of unparks. -/
theorem Static.unpark {s : State} {t : Thread} (h : Static s t) :
    Static s { t with token := true, unparks := t.unparks + 1 } := by
  obtain ⟨h1, h2, h3, h4⟩ := h
  refine ⟨h1, h2, h3, ?_⟩
  unfold TokOk at h4 ⊢
  split at h4 <;> simp only [↓reduceIte] <;> omega

theorem RJ_of_clean {t : Thread}
    (h : (t.chan.isEmpty && (!t.token || (match t.pc with | .park _ => true | _ => false))) = true) : RJ t := by
  rw [park_match_eq] at h
  cases hpc : t.pc <;> simp_all [RJ, quietPc, isPark]

theorem RU_of_RJ {t : Thread} (h : RJ t) : RU t := by
  cases hpc : t.pc <;> simp_all [RJ, RU, quietPc, needsEmpty]

theorem RG_of_RU {t : Thread} (h : RU t) : RG { t with token := true, unparks := t.unparks + 1 } := by
  simp_all [RU, RG]

theorem RG_of_exited {t : Thread} (h : isExited t.pc = true) : RG t := by
  cases hpc : t.pc <;> simp_all [RG, isExited, needsEmpty, needsTok]

/-- between commands and during `cont` the controller asks nothing of itself and, of the thread, only
that it has exited once the stop flag is set. -/
def Quiet (c : CPc) : Prop := c = .idle ∨ c = .contLoadDone ∨ c = .contUnpark

theorem CtrlInv.quiet {s : State} (hc : 0 < s.cap) (h : Quiet s.cpc) : CtrlInv s := by
  refine ⟨hc, ?_, ?_, ?_, ?_⟩ <;> rcases h with h | h | h <;> simp [h]

theorem Inv.of_noCur {s : State} (hc : CtrlInv s) (h : s.cur = none) : Inv s :=
  (Inv_iff s).2 ⟨hc, fun t ht => by rw [h] at ht; cases ht⟩

theorem Phase.quiet {c c' : CPc} {done clean : Bool} {t t' : Thread} (hp : Phase c done clean t) (h : Quiet c)
    (h' : Quiet c') (hpc : t'.pc = t.pc) : Phase c' done clean t' := by
  refine ⟨fun hd _ => hpc ▸ hp.1 hd (by rcases h with h | h | h <;> simp [h]), ?_, ?_, ?_⟩ <;>
    rcases h' with h' | h' | h' <;> simp [h']

/-- A controller step that leaves the thread and what `Static` reads of the state alone: only the
controller's part and `Phase` have to be followed. -/
theorem Inv.of_phase {s s' : State} (hi : Inv s) (hcur : s'.cur = s.cur) (hr : s'.received = s.received)
    (hb : s'.bpsAt = s.bpsAt) (he : s'.entries = s.entries) (hf : s'.finalOk = s.finalOk)
    (hd : s.isDone = true → s'.isDone = true) (hc : CtrlInv s')
    (hp : ∀ t, s.cur = some t → Phase s.cpc s.isDone s.cleanRestart t → Phase s'.cpc s'.isDone s'.cleanRestart t) :
    Inv s' :=
  (Inv_iff s').2 ⟨hc, fun t ht =>
    have h := ((Inv_iff s).1 hi).2 t (hcur ▸ ht)
    ⟨h.1.mono hr hb he hf hd, hp t (hcur ▸ ht) h.2⟩⟩

theorem Inv_ctrl {s s' : State} (hi : Inv s) (h : controllerStep s = some s') : Inv s' := by
  obtain ⟨⟨c1, c2, c3, c4, c5⟩, ht⟩ := (Inv_iff s).1 hi
  cases hcpc : s.cpc <;> simp only [controllerStep, hcpc] at h
  case idle =>
    split at h
    · cases h
    · split at h <;> cases h
      · rename_i t hc
        refine hi.of_phase rfl rfl rfl rfl rfl id (by simp [CtrlInv, hc, c1]) fun t' hc' hp => ?_
        cases hc.symm.trans hc'
        refine ⟨fun hd _ => hp.1 hd (.inl hcpc), fun h _ => RJ_of_clean h, ?_, ?_⟩ <;> simp
      · rename_i hc
        exact .of_noCur (by simp [CtrlInv, hc, c1]) hc
    -- `cont`, `add`, `del`, `clear`: nothing `Inv` reads changes except `cpc` (idle or `contLoadDone`)
    · cases h
      exact hi.of_phase rfl rfl rfl rfl rfl id (.quiet c1 (.inr (.inl rfl))) fun t _ hp => hp.quiet (.inl hcpc) (.inr (.inl rfl)) rfl
    iterate 3
      · cases h
        exact hi.of_phase rfl rfl rfl rfl rfl id (.quiet c1 (.inl rfl)) fun t _ hp => hp.quiet (.inl hcpc) (.inl rfl) rfl
    · split at h
      · rename_i t hc
        split at h
        · rename_i ev more hch
          cases h
          refine (Inv_iff _).2 ⟨.quiet c1 (.inl rfl), fun t' hc' => ?_⟩
          cases hc'
          obtain ⟨⟨h1, h2, h3, h4⟩, hp⟩ := ht t hc
          exact ⟨⟨by simp [← h1, hch], h2, h3, h4⟩, hp.quiet (.inl hcpc) (.inl rfl) rfl⟩
        · split at h <;> cases h
          exact hi.of_phase rfl rfl rfl rfl rfl id (.quiet c1 (.inl rfl)) fun t _ hp => hp.quiet (.inl hcpc) (.inl rfl) rfl
      · rename_i hc
        cases h
        exact .of_noCur (.quiet c1 (.inl rfl)) hc
  case runLoadDone =>
    cases h
    refine hi.of_phase rfl rfl rfl rfl rfl id ?_ fun t _ hp => ?_
    · cases hd : s.isDone <;> simp [CtrlInv, c1, c4, hcpc]
    · cases hd : s.isDone
      · simpa [Phase, hcpc, hd] using hp
      · refine ⟨?_, ?_, ?_, fun _ _ => RG_of_exited (hp.1 hd (.inr (.inr (.inr (.inl hcpc)))))⟩ <;> simp
  case runStoreDone =>
    cases h
    refine hi.of_phase rfl rfl rfl rfl rfl (fun _ => rfl) (by simp [CtrlInv, c1, c4, hcpc]) fun t _ hp => ?_
    refine ⟨?_, ?_, fun hcl _ => RU_of_RJ (hp.2.1 hcl (.inr hcpc)), ?_⟩ <;> simp
  case runUnpark =>
    split at h <;> cases h
    rename_i t hc
    obtain ⟨hs, hp⟩ := ht t hc
    refine (Inv_iff _).2 ⟨by simp [CtrlInv, c1, c5, hcpc], fun t' hc' => ?_⟩
    cases hc'
    refine ⟨hs.unpark, ?_, ?_, ?_, fun hcl _ => RG_of_RU (hp.2.2.1 hcl hcpc)⟩ <;> simp
  case runJoin =>
    split at h
    · split at h <;> cases h <;> exact .of_noCur (by simp [CtrlInv, c1]) rfl
    · cases h
  case runStoreFalse =>
    cases h
    exact .of_noCur (by simp [CtrlInv, c1, c2, hcpc]) (c2 (.inl hcpc))
  case runSpawn =>
    cases h
    refine (Inv_iff _).2 ⟨.quiet c1 (.inl rfl), fun t hc' => ?_⟩
    cases hc'
    simp [Static, Phase, Thread.fresh, PcData, pendEv, TokOk, isPark, allBp, expectedEvents_nil, c3 hcpc]
  case contLoadDone =>
    split at h <;> cases h
    · exact hi.of_phase rfl rfl rfl rfl rfl id (.quiet c1 (.inl rfl)) fun t _ hp => hp.quiet (.inr (.inl hcpc)) (.inl rfl) rfl
    · exact hi.of_phase rfl rfl rfl rfl rfl id (.quiet c1 (.inr (.inr rfl))) fun t _ hp =>
        hp.quiet (.inr (.inl hcpc)) (.inr (.inr rfl)) rfl
  case contUnpark =>
    split at h <;> cases h
    · rename_i t hc
      obtain ⟨hs, hp⟩ := ht t hc
      refine (Inv_iff _).2 ⟨.quiet c1 (.inl rfl), fun t' hc' => ?_⟩
      cases hc'
      exact ⟨hs.unpark, hp.quiet (.inr (.inr hcpc)) (.inl rfl) rfl⟩
    · rename_i hc
      exact .of_noCur (.quiet c1 (.inl rfl)) hc

theorem Inv_reach {s0 s : State} (h0 : Inv s0) (hr : Reach s0 s) : Inv s := by
  induction hr with
  | refl => exact h0
  | step _ hs ih => exact hs.elim (Inv_ctrl ih) (Inv_parser ih)

theorem Inv_ctrl_idle_clear {s s' : State} {rest : List Cmd} (hi : Inv s) (hcpc : s.cpc = .idle)
    (htd : s.todo = .clear :: rest) (h : controllerStep s = some s') : Inv s' := by
  have _ := hcpc; have _ := htd
  exact Inv_ctrl hi h

end PestModel.Dbg
