import PestModel.Lemmas.VmRefMono
import PestModel.Lemmas.VmRefEnv
import PestModel.Lemmas.VmRefD
import PestModel.Lemmas.RefPipe
/-! C01: divergence lemmas for `run`, the concrete diverging parse that refutes `C01.VmTerminatesStmt`
(a node tag on `POP_ALL` without `grammar-extras`), and the grammar whose "undefined rule" slot is
occupied. -/
namespace PestModel.VmRef
open PestModel.G PestModel.PS PestModel.Lower PestModel.Ref

def Div (cfg : Cfg) (p : Prog) (st : PState) : Prop := ∀ F, run cfg F p st = .fuel

variable {cfg : Cfg}

theorem run_fuel_or {F0 : Nat} {p : Prog} {st : PState} {o : Out} (h : run cfg F0 p st = o)
    (ho : o ≠ .fuel) (k : Nat) : run cfg k p st = .fuel ∨ run cfg k p st = o := by
  by_cases hk : run cfg k p st = .fuel
  · exact Or.inl hk
  · right
    have h1 := run_mono hk (Nat.le_max_left k F0)
    have h2 := run_mono (by rw [h]; exact ho) (Nat.le_max_right k F0)
    rw [← h1, h2, h]

theorem Div.of_succ {p : Prog} {st : PState} (h : ∀ k, run cfg (k + 1) p st = .fuel) : Div cfg p st
  | 0 => run_zero _ _ _
  | k + 1 => h k

theorem div_repLoop {p : Prog} {st : PState} (hA : ∃ F0, run cfg F0 p st = .ok st) :
    Div cfg (.repLoop p) st := by
  obtain ⟨F0, hF0⟩ := hA
  intro F
  induction F with
  | zero => exact run_zero _ _ _
  | succ k ih =>
    rw [run_repLoop]
    rcases run_fuel_or hF0 (by simp) k with h | h
    · rw [h]
    · rw [h]; exact ih

theorem div_andThen_right {p q : Prog} {st s1 : PState} (hp : ∃ F0, run cfg F0 p st = .ok s1)
    (hq : Div cfg q s1) : Div cfg (.andThen p q) st := by
  obtain ⟨F0, hF0⟩ := hp
  refine .of_succ fun k => ?_
  rw [run_andThen]
  rcases run_fuel_or hF0 (by simp) k with h | h
  · rw [h]
  · rw [h]; exact hq k

theorem div_andThen_left {p q : Prog} {st : PState} (hp : Div cfg p st) : Div cfg (.andThen p q) st :=
  .of_succ fun k => by rw [run_andThen, hp k]

/-- a bracketing combinator diverges when its body does. -/
theorem div_shape {X body : Prog} {inc : Bool} {pre : PState → PState} {K : PState → Out → Out}
    (h : Shape X inc body pre K) {st : PState} (hi : incCall st = some st) (hp : Div cfg body (pre st)) :
    Div cfg X st :=
  .of_succ fun k => by
    have e : K st (run cfg k body (pre st)) = .fuel := by rw [hp k]; cases h <;> rfl
    rw [h.run]
    cases inc
    · exact e
    · simp only [cond, PS.bracket, hi]; exact e

theorem div_call {i : Nat} {p : Prog} {st : PState} (hi : cfg.env[i]? = some p) (hp : Div cfg p st) :
    Div cfg (.call i) st :=
  .of_succ fun k => by rw [run_call, hi]; exact hp k

/-! ### the diverging parse: `r = _{ PUSH("a") ~ (#t = POP_ALL)? ~ "b" ~ POP_ALL* }` on `"ab"`, WITHOUT
`grammar-extras`

(`WHITESPACE = _{ POP_ALL }  r = _{ PUSH("a") ~ "b" ~ "c" }` does not diverge: the restorer wraps a
stack-modifying `WHITESPACE`/`COMMENT` body in `restore_on_err`, see `wsPopAll` below and
`C01.ws_popall_example_agrees`.) -/

def cexDivSrc : List Rule :=
  [⟨"r", .silent, .seq (.push (.str ['a'])) (.seq (.opt (.nodeTag (.ident "POP_ALL") ['t']))
    (.seq (.str ['b']) (.rep (.ident "POP_ALL"))))⟩]

def cexDiv : List ORule :=
  [⟨"r", .silent, .seq (.push (.str ['a'])) (.seq (.opt (.nodeTag (.ident "POP_ALL") ['t']))
    (.seq (.str ['b']) (.rep (.restoreOnErr (.ident "POP_ALL")))))⟩]

/-- without `grammar-extras` the restorer does not look inside `#t = POP_ALL`: the `?` operand stays
unwrapped (the `*` operand is wrapped). -/
theorem cexDiv_opt : optimizeWith false true cexDivSrc = some cexDiv := by decide

def divEnv : Env := { rules := cexDiv, uni := fun _ => none }
def divCfg : Cfg := { memchr := true, env := lowerAll .vm divEnv }

def okSt (o : Out) : PState := match o with | .ok s => s | _ => PState.new [] none false

def divPush : Prog := .andThen (.stackPush (.matchString ['a'])) .ok
def divOpt : Prog := .andThen (.optional (.andThen .stackMatchPop (.tagNode ['t']))) .ok
def divB : Prog := .andThen (.matchString ['b']) .ok
def divPop : Prog := .restoreOnErr .stackMatchPop
def divBody : Prog := .sequence (.andThen .ok divPop)
def divS0 : PState := PState.new ['a', 'b'] none false
/-- after `PUSH("a")`: stack `["a"]`. -/
def divS1 : PState := okSt (run divCfg 10 divPush (checkpoint divS0))
/-- after `(#t = POP_ALL)?`: the failed, unrestored `POP_ALL` has emptied the stack. -/
def divS2 : PState := okSt (run divCfg 10 divOpt (checkpoint divS1))
def divS3 : PState := okSt (run divCfg 10 divB (checkpoint divS2))
/-- after the first `POP_ALL` of `POP_ALL*`: on the empty stack it succeeds without consuming … -/
def divS4 : PState := okSt (run divCfg 10 divPop (checkpoint divS3))

theorem divS2_stack : divS2.stack.cache = [] ∧ divS1.stack.cache = [['a']] := by decide +kernel

/-- … and so does every further iteration: `POP_ALL*` never ends. -/
theorem cexDiv_diverges : Div divCfg (entry divEnv "r") (PState.new ['a', 'b'] none false) := by
  refine div_call (p := .sequence (.andThen divPush (.sequence (.andThen divOpt (.sequence (.andThen divB
    (.sequence (.optional (.andThen divPop (.repeat_ divBody))))))))))
    rfl ?_
  refine div_shape (.sequence _) rfl ?_
  refine div_andThen_right (s1 := divS1) ⟨10, rfl⟩ ?_
  refine div_shape (.sequence _) rfl ?_
  refine div_andThen_right (s1 := divS2) ⟨10, rfl⟩ ?_
  refine div_shape (.sequence _) rfl ?_
  refine div_andThen_right (s1 := divS3) ⟨10, rfl⟩ ?_
  refine div_shape (.sequence _) rfl ?_
  refine div_shape (.optional _) rfl ?_
  refine div_andThen_right (s1 := divS4) ⟨10, rfl⟩ ?_
  exact div_shape (.repeat_ _) rfl (div_repLoop ⟨10, rfl⟩)

/-! ### the terminating parse `WHITESPACE = _{ POP_ALL }  r = _{ PUSH("a") ~ "b" ~ "c" }` on `"abc"` -/

def wsPopAllSrc : List Rule :=
  [⟨"WHITESPACE", .silent, .ident "POP_ALL"⟩,
   ⟨"r", .silent, .seq (.push (.str ['a'])) (.seq (.str ['b']) (.str ['c']))⟩]

/-- the restorer wraps the whole `WHITESPACE` body. -/
def wsPopAll : List ORule :=
  [⟨"WHITESPACE", .silent, .restoreOnErr (.ident "POP_ALL")⟩,
   ⟨"r", .silent, .seq (.push (.str ['a'])) (.seq (.str ['b']) (.str ['c']))⟩]

theorem wsPopAll_opt (b : Bool) : optimizeWith b true wsPopAllSrc = some wsPopAll := by cases b <;> decide

/-! ### the "undefined rule" slot: a reference to an undefined name in a grammar with `N + 1` rules,
`3 * N + 1 = 1000000000` (stated for a variable `N` so that nothing ever evaluates the rule list) -/

def bigSrc (N : Nat) : List Rule := ⟨"r0", .silent, .ident "NOSUCH"⟩ :: List.replicate N ⟨"x", .silent, .str []⟩
def bigRs (N : Nat) : List ORule := ⟨"r0", .silent, .ident "NOSUCH"⟩ :: List.replicate N ⟨"x", .silent, .str []⟩

theorem mapM_replicate {α β : Type} (f : α → Option β) (a : α) (b : β) (h : f a = some b) (n : Nat) :
    (List.replicate n a).mapM f = some (List.replicate n b) := by
  induction n with
  | zero => rfl
  | succ n ih => rw [List.replicate_succ, List.mapM_cons, h, ih]; rfl

def optF (rules : List Rule) (r : Rule) : Option ORule :=
  (astPasses true true rules r).bind fun r => (toOptimized true r.expr).map fun e => (⟨r.name, r.ty, e⟩ : ORule)

theorem big_opt (N : Nat) : optimizeWith true true (bigSrc N) = some (bigRs N) := by
  have h0 : ∀ rules : List Rule, optF rules ⟨"r0", .silent, .ident "NOSUCH"⟩ = some ⟨"r0", .silent, .ident "NOSUCH"⟩ :=
    fun _ => rfl
  have h1 : ∀ rules : List Rule, optF rules ⟨"x", .silent, .str []⟩ = some ⟨"x", .silent, .str []⟩ :=
    fun _ => rfl
  have hm : (bigSrc N).mapM (optF (bigSrc N)) = some (bigRs N) := by
    unfold bigSrc bigRs
    rw [List.mapM_cons, h0, mapM_replicate (optF _) _ _ (h1 _)]
    rfl
  show (match (bigSrc N).mapM (optF (bigSrc N)) with | none => none | some opt => some (opt.map (restoreOnErr true opt))) = _
  rw [hm]
  simp [bigRs, restoreOnErr, omapBottomUp, wrapBranching]

def bigEnv (N : Nat) : Env := { rules := bigRs N, uni := fun _ => none }

theorem big_index_r0 (N : Nat) : (bigEnv N).index "r0" = some 0 := by
  simp [bigEnv, bigRs, Env.index, Env.index.go]

theorem big_rule_none (N : Nat) (extras : Bool) (input : List Char) :
    (mkCtx (bigEnv N) extras input).rule? "NOSUCH" = none := by
  unfold Ctx.rule?
  apply go_none_of_forall
  intro r hr
  simp [mkCtx, bigEnv, bigRs, ofOptimizedRules] at hr
  rcases hr with rfl | ⟨_, rfl⟩ <;> simp

theorem big_index_none (N : Nat) : (bigEnv N).index "NOSUCH" = none := by
  cases h : (bigEnv N).index "NOSUCH" with
  | none => rfl
  | some i =>
    obtain ⟨r, -, -, -, hr, -⟩ := index_some (extras := true) (input := []) h
    rw [big_rule_none] at hr
    cases hr

theorem big_vm (N : Nat) (hN : 3 * N + 1 = 1000000000) :
    ∃ st, run (mkCfg (bigEnv N) true) 3 (entry (bigEnv N) "r0") (PState.new [] none false) = .ok st := by
  have e0 : entry (bigEnv N) "r0" = .call 0 := by
    simp [entry, callRule, big_index_r0, ctxIdx]
  have g0 : (bigEnv N).rules[0]? = some ⟨"r0", .silent, .ident "NOSUCH"⟩ := by simp [bigEnv, bigRs]
  have gN : (bigEnv N).rules[N]? = some ⟨"x", .silent, .str []⟩ := by
    cases N with
    | zero => omega
    | succ k => simp [bigEnv, bigRs]
  have c0 := env_get (memchr := true) .nonAtomic g0
  have cN := env_get (memchr := true) .atomic gN
  have e1 : vmRule (bigEnv N) 0 ⟨"r0", .silent, .ident "NOSUCH"⟩ .nonAtomic = .call 1000000000 := by
    show callRule (bigEnv N) "NOSUCH" .nonAtomic = _
    unfold callRule
    rw [big_index_none]
    rfl
  have e2 : vmRule (bigEnv N) N ⟨"x", .silent, .str []⟩ .atomic = .matchString [] := rfl
  have hidx : 3 * N + ctxIdx .atomic = 1000000000 := by simp [ctxIdx]; omega
  rw [hidx] at cN
  simp only [Nat.mul_zero, ctxIdx, Nat.add_zero] at c0
  rw [e0, run_call, c0]
  dsimp only
  rw [e1, run_call, cN]
  dsimp only
  rw [e2]
  exact ⟨_, rfl⟩

theorem big_ref (N : Nat) (extras : Bool) :
    Ref.meaning (ofOptimizedRules (bigRs N)) extras (fun _ => none) 3 "r0" [] = .stuck := by
  have hr0 : (mkCtx (bigEnv N) extras []).rule? "r0" = some (0, ⟨"r0", .silent, .ident "NOSUCH"⟩) := by
    simp [mkCtx, bigEnv, bigRs, ofOptimizedRules, Ctx.rule?, Ctx.rule?.go, ofOptimized]
  show call (mkCtx (bigEnv N) extras []) 3 .nonAtomic false "r0" ⟨0, []⟩ = .stuck
  rw [call_succ, callF_eq, hr0]
  show ruleD 0 _ (denote (mkCtx (bigEnv N) extras []) 2 _ false (.ident "NOSUCH")) _ = _
  rw [denote_succ, denoteF_ident]
  show ruleD 0 _ (call (mkCtx (bigEnv N) extras []) 1 _ false "NOSUCH") _ = _
  rw [call_succ, callF_eq, big_rule_none]
  rfl

end PestModel.VmRef
