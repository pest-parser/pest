import PestModel.Lemmas.LineColRender
/-! Helper lemmas for C10 (umbrella module). -/
