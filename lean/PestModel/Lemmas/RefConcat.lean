import PestModel.Lemmas.RefLaws
import PestModel.Lemmas.RefStr
/-! The concatenation law (atomic mode). -/
namespace PestModel.Ref
open PestModel.G
open PestModel.LineCol (Str bLen cLen splitAt?)
open PestModel.Views (Tree)
open PestModel.PS (Atomicity CharSet restAt asciiLower eqIgnoreAsciiCase normalizeIndex)

theorem val_insens (c : Ctx) (m : Atomicity) (la : Bool) (s : St) (str : Str) :
    val c m la (.insens str) s = insensM c s str := by rw [val_eq]; rfl

section
variable {P : St → Prop} {c : Ctx} {m : Atomicity}

theorem concat_str (hm : m ≠ .nonAtomic) (a b : Str) : EqOn P c m (.seq (.str a) (.str b)) (.str (a ++ b)) := by
  intro la s _
  simp only [val_seq, val_str, lit_append]
  cases h1 : lit c s a <;> simp only []
  rename_i s1 f1
  rw [valK_atomic _ _ _ _ hm]
  simp only []
  cases h2 : lit c s1 b <;> simp only []
  rename_i s3 f3
  rw [(lit_word h1).2.2, (lit_word h2).2.2]; rfl

theorem concat_insens (hm : m ≠ .nonAtomic) (a b : Str) :
    EqOn P c m (.seq (.insens a) (.insens b)) (.insens (a ++ b)) := by
  intro la s _
  simp only [val_seq, val_insens, insensM_append]
  cases h1 : insensM c s a <;> simp only []
  rename_i s1 f1
  rw [valK_atomic _ _ _ _ hm]
  simp only []
  cases h2 : insensM c s1 b <;> simp only []
  rename_i s3 f3
  obtain ⟨_, _, _, _, _, rfl⟩ := insensM_word h1
  obtain ⟨_, _, _, _, _, rfl⟩ := insensM_word h2
  rfl

theorem concatF_eqOn (hm : m ≠ .nonAtomic) (x : Expr) : EqOn P c m x (concatF x) := by
  unfold concatF
  split
  · exact concat_str hm _ _
  · exact concat_insens hm _ _
  · exact EqOn.refl _

end
end PestModel.Ref
