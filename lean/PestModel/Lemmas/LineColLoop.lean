import PestModel.Lemmas.LineColBasic
/-! `Position::line_col`: the loop with its `pos` counter computes the counting definition. -/
namespace PestModel.LineCol

def lcStep (lc : Nat × Nat) (ch : Char) : Nat × Nat :=
  if ch = '\n' then (lc.1 + 1, 1) else (lc.1, lc.2 + 1)

@[simp] theorem cLen_cr : cLen '\r' = 1 := by decide
@[simp] theorem cLen_nl : cLen '\n' = 1 := by decide

theorem lineColLoop_eq_foldl (chars : Str) (lc : Nat × Nat) :
    lineColLoop (bLen chars) chars lc = some (chars.foldl lcStep lc) := by
  generalize hn : bLen chars = n
  fun_induction lineColLoop n chars lc
  case case1 => rw [bLen_eq_zero hn]; rfl
  all_goals simp only [bLen_cons, bLen_nil, cLen_cr, cLen_nl] at hn
  -- the three `none`/shortcut branches (chars exhausted, `\r\n` at `pos = 1`, underflow) contradict `hn`
  case case2 | case3 | case7 => omega
  all_goals rename_i ih; rw [ih (by omega)]; simp [lcStep, *]

theorem snocInd {α : Type} {P : List α → Prop} (nil : P [])
    (snoc : ∀ xs x, P xs → P (xs ++ [x])) (l : List α) : P l := by
  have : ∀ r : List α, P r.reverse := by
    intro r
    induction r with
    | nil => exact nil
    | cons x xs ih => simpa using snoc _ x ih
  simpa using this l.reverse

theorem lcStep_foldl_spec (pre : Str) : pre.foldl lcStep (1, 1) = lineColSpecChars pre := by
  induction pre using snocInd with
  | nil => simp [lineColSpecChars]
  | snoc xs x ih =>
    rw [List.foldl_append, ih]
    simp only [List.foldl_cons, List.foldl_nil, lcStep, lineColSpecChars, List.reverse_append,
      List.reverse_cons, List.reverse_nil, List.nil_append, List.singleton_append,
      List.takeWhile_cons, List.count_append]
    by_cases hx : x = '\n'
    · subst hx; simp; omega
    · simp [hx]; omega

theorem lineCol_eq_spec (s : Str) (off : Nat) : lineCol s off = lineColSpec s off := by
  unfold lineCol lineColSpec
  cases h : splitAt? s off with
  | none => rfl
  | some p =>
    obtain ⟨pre, post⟩ := p
    obtain ⟨-, rfl⟩ := splitAt_some h
    simp [lineColLoop_eq_foldl, lcStep_foldl_spec]

theorem lineCol_boundary (pre post : Str) :
    lineCol (pre ++ post) (bLen pre) = some (lineColSpecChars pre) := by
  simp [lineCol_eq_spec, lineColSpec, splitAt_append]

end PestModel.LineCol
