import PestModel.Lemmas.TrackEv
import PestModel.Lemmas.PStateInv
import PestModel.Lemmas.PStateLimitTr
/-! Lemmas for C08: the attempt bookkeeping of a `PState`; what `rule` does to it; programs that leave
it alone. -/
namespace PestModel.Track
open PestModel.G PestModel.PS PestModel.Ref PestModel.RefTrace
open PestModel.LineCol (Str isBoundary bLen cLen splitAt? slice?)

theorem track_att (s : PState) (rule pos pai nai prev : Nat) :
    att (track s rule pos pai nai prev) =
      trackA (decide (s.atomicity = .atomic)) (decide (s.lookahead = .negative)) (att s) rule pos pai nai prev := by
  rw [track_norm]; rfl

theorem rulePre_att (st : PState) : att (rulePre st) = att st := by
  unfold rulePre; split <;> rfl

theorem rulePai_fst (st : PState) :
    (rulePai st).1 = if st.pos = st.attemptPos then st.posAtt.length else 0 := by
  unfold rulePai; split <;> rfl
theorem rulePai_snd (st : PState) :
    (rulePai st).2 = if st.pos = st.attemptPos then st.negAtt.length else 0 := by
  unfold rulePai; split <;> rfl

theorem rulePrev (st : PState) : attemptsAt (rulePre st) st.pos =
    if st.attemptPos = st.pos then st.posAtt.length + st.negAtt.length else 0 := by
  unfold rulePre attemptsAt; split <;> rfl

/-- what `rule` does to the bookkeeping on either exit, given that it calls `track` exactly when
`c` holds: `mt` is whether the interior matched, and `track` is called when that agrees with being
under a negative look-ahead. One statement for the three cases: no call, atomic, reported attempt. -/
theorem ruleTrack_node {st ns : PState} {r : Nat} {kids : List Call} {c : Prop} [Decidable c] (mt : Bool)
    (hc : c ↔ decide (ns.lookahead = .negative) = mt) (hatt : att ns = stepAtt (att st) kids) :
    (if c then att (ruleTrack st r ns) else att ns) =
      stepAtt (att st) [.node r st.pos mt (decide (ns.lookahead = .negative))
        (decide (ns.atomicity ≠ .atomic)) kids] := by
  by_cases h : c
  · rw [if_pos h, ← hc.1 h]
    unfold ruleTrack
    rw [track_att, hatt]
    by_cases hat : ns.atomicity = .atomic
    · rw [stepAtt_node_skip _ _ _ _ _ _ _ (by rw [isAttempt_node, decide_eq_false (not_not_intro hat)]; rfl),
        decide_eq_true hat]
      rfl
    · rw [rulePai_fst, rulePai_snd, rulePrev, decide_eq_false hat, decide_eq_true hat]
      exact trackA_spec st.attemptPos st.posAtt st.negAtt r st.pos _ _ kids
        (by rw [isAttempt_node, beq_self_eq_true]; rfl)
  · rw [if_neg h, hatt]
    refine (stepAtt_node_skip _ _ _ _ _ _ _ ?_).symm
    rw [isAttempt_node, beq_eq_false_iff_ne.2 fun e => h (hc.2 e.symm), Bool.and_false]

theorem ruleEmit_att {s1 x y : PState} {r : Nat} (h : ruleEmit s1 r x = some y) :
    att y = att x ∧ y.pos = x.pos ∧ y.stack = x.stack := by
  unfold ruleEmit at h
  split at h
  · split at h
    · simp at h; subst h; exact ⟨rfl, rfl, rfl⟩
    · simp at h
  · simp at h; subst h; exact ⟨rfl, rfl, rfl⟩

theorem ruleTrackIf_fields (st : PState) (r : Nat) (ns : PState) :
    (ruleTrackIf st r ns).pos = ns.pos ∧ (ruleTrackIf st r ns).stack = ns.stack ∧
      (ruleTrackIf st r ns).pa = ns.pa := by
  obtain ⟨a, b, c, h⟩ := ruleTrackIf_eq st r ns
  rw [h]; exact ⟨rfl, rfl, rfl⟩

theorem ruleOkPost_att {st ns s' : PState} {r : Nat} (hen : ns.pa.enabled = false)
    (h : ruleOkPost st r ns = .ok s') :
    att s' = (if ns.lookahead = .negative then att (ruleTrack st r ns) else att ns) ∧
      s'.pos = ns.pos ∧ s'.stack = ns.stack := by
  unfold ruleOkPost at h
  obtain ⟨f1, f2, f3⟩ := ruleTrackIf_fields st r ns
  cases he : ruleEmit st r (ruleTrackIf st r ns) with
  | none => rw [he] at h; simp at h
  | some y =>
    rw [he] at h
    dsimp only at h
    obtain ⟨e1, e2, e3⟩ := ruleEmit_att he
    have hy : y.pa.enabled = false := by rw [(ruleEmit_core he).2.1, f3]; exact hen
    rw [ruleFinish_no_panic hy] at h
    simp only [Out.ok.injEq] at h
    subst h
    exact ⟨e1.trans (apply_ite att _ _ _), e2.trans f1, e3.trans f2⟩

theorem ruleTrack_fields (st : PState) (r : Nat) (ns : PState) :
    (ruleTrack st r ns).pa = ns.pa ∧ (ruleTrack st r ns).lookahead = ns.lookahead ∧
      (ruleTrack st r ns).atomicity = ns.atomicity := by
  obtain ⟨a, b, c, h⟩ : ∃ a b c, ruleTrack st r ns =
      { ns with posAtt := a, negAtt := b, attemptPos := c } := track_eq _ _ _ _ _ _
  rw [h]; exact ⟨rfl, rfl, rfl⟩

theorem ruleErrTrunc_att (st ns : PState) : att (ruleErrTrunc st ns) = att ns := by
  unfold ruleErrTrunc; split <;> rfl

theorem ruleErrPost_att {st ns s' : PState} {r : Nat} (hen : ns.pa.enabled = false)
    (h : ruleErrPost st r ns = .err s') :
    att s' = if ns.lookahead ≠ .negative then att (ruleTrack st r ns) else att ns := by
  unfold ruleErrPost ruleErrAdd at h
  have hen' : (ruleTrack st r ns).pa.enabled = false := by rw [(ruleTrack_fields st r ns).1]; exact hen
  by_cases hl : ns.lookahead ≠ .negative
  · rw [if_pos hl] at h ⊢
    simp only [hen', Bool.false_eq_true, if_false, Out.err.injEq] at h
    subst h
    exact ruleErrTrunc_att _ _
  · rw [if_neg hl] at h ⊢
    simp only [Out.err.injEq] at h
    subst h
    exact ruleErrTrunc_att _ _

/-! ### programs that leave the bookkeeping alone -/

theorem terminal_att {s s' : PState} {r : Option (Bool × Nat)} {tok : Option PTok}
    (h : (terminal s r tok).state? = some s') : att s' = att s := by
  cases r with
  | none => exact nomatch h
  | some bp =>
    obtain ⟨pa', he, -⟩ := terminal_some s bp.1 bp.2 tok
    rw [he] at h
    cases hb : bp.1 <;> rw [hb] at h <;> cases h <;> rfl

/-- `p` never touches the attempt bookkeeping. -/
def Frame (cfg : Cfg) (p : Prog) : Prop :=
  ∀ n s s', (run cfg n p s).state? = some s' → att s' = att s

variable {cfg : Cfg}

theorem Frame.of_succ {p : Prog}
    (h : ∀ n s s', (run cfg (n + 1) p s).state? = some s' → att s' = att s) : Frame cfg p := by
  intro n s s' hr
  cases n with
  | zero => rw [run_zero] at hr; simp at hr
  | succ k => exact h k s s' hr

theorem frame_stackPeek : Frame cfg .stackPeek :=
  Frame.of_succ fun n s s' h => by
    rw [run] at h
    split at h
    · simp at h; subst h; rfl
    split at h
    · simp at h
    · exact terminal_att h

theorem frame_stackPop : Frame cfg .stackPop :=
  Frame.of_succ fun n s s' h => by
    rw [run] at h
    split at h
    · simp at h; subst h; rfl
    split at h
    · simp at h
    · simp at h
    · rename_i st str hp
      simp only [] at h
      exact terminal_att (s := { s with stack := st }) h

/-- the programs without sub-programs, `stackPeek` and `stackPop` aside. -/
def simple : Prog → Prop
  | .matchString _ | .matchInsensitive _ | .matchRange _ _ | .matchCharBy _ | .skip _
  | .skipUntil _ | .startOfInput | .endOfInput | .stackMatchPeek | .stackMatchPop | .stackDrop
  | .stackMatchPeekSlice _ _ _ | .stackPushLiteral _ | .tagNode _ | .ok | .fail => True
  | _ => False

theorem frame_simple (p : Prog) (hp : simple p) : Frame cfg p :=
  Frame.of_succ fun n s s' h => by
    cases p <;> simp only [simple] at hp <;> rw [run] at h
    all_goals first
      | exact terminal_att h
      | skip
    all_goals (repeat' (first | split at h | (simp only [] at h; split at h)))
    all_goals first
      | (simp at h; done)
      | (simp at h; subst h; rfl)

theorem checkpoint_att (st : PState) : att (checkpoint st) = att st := rfl

theorem repLoop_ne_err (p : Prog) : ∀ (k : Nat) (st st' : PState), run cfg k (.repLoop p) st ≠ .err st'
  | 0, st, st' => by rw [run_zero]; exact fun h => nomatch h
  | k + 1, st, st' => by
    rw [run_repLoop]
    cases hr : run cfg k p st with
    | ok s' => exact repLoop_ne_err p k s' st'
    | err _ | panic | fuel => exact fun h => nomatch h

theorem repeat_ne_err {n : Nat} {p : Prog} {st st' : PState} (hc : st.calls = none) :
    run cfg n (.repeat_ p) st ≠ .err st' := by
  cases n with
  | zero => rw [run_zero]; exact fun h => nomatch h
  | succ k =>
    have : incCall st = some st := by unfold PS.incCall; rw [hc]
    rw [run_repeat, this]
    exact repLoop_ne_err p k st st'

end PestModel.Track
