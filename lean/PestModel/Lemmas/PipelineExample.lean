import PestModel.Thm.EndToEnd
import PestModel.Model.Pipeline
/-! The pipeline model run on one small grammar text: the single kernel evaluation behind the non-vacuity examples of
`Thm/TextToParse`. -/
namespace PestModel.E2E
open PestModel.G
open PestModel.LineCol (Str)

/-- `some (.ok _)`. -/
def isOk {α : Type} : Option (PestModel.Pipeline.Out α) → Bool
  | some (.ok _) => true
  | _ => false

/-- the hypotheses of `pipeline_grammar_never_panics`, evaluated on a text. -/
def hypothesesHold (text : Str) (start : String) : Bool :=
  match PestModel.Pipeline.parseAndOptimize false text, PestModel.ReaderFull.readGrammar false text with
  | some (.ok rs), some rules =>
    rules.all (fun r => PestModel.C06.StackFree r.expr) && rules.all (fun r => NoTagE r.expr) &&
      decide (optimizeWith false false rules = some rs) && decide (rules.length ≤ 333333333) && (rules.map (·.name)).contains start
  | _, _ => false

theorem isOk_of_hypothesesHold {text : Str} {start : String} (h : hypothesesHold text start = true) :
    isOk (PestModel.Pipeline.parseAndOptimize false text) = true := by
  unfold hypothesesHold at h
  split at h
  · rename_i hp _
    rw [hp]; rfl
  · cases h

/-- `a = { "x" ~ b }⏎b = { "y" }` with start rule `a`: kernel evaluation of the whole pipeline (the reference denotation of
the regenerated meta-grammar, `validate_pairs`, the reader, `validate_ast` and the optimizer). -/
theorem hypothesesHold_two_rules : hypothesesHold
    ['a',' ','=',' ','{',' ','"','x','"',' ','~',' ','b',' ','}','\n','b',' ','=',' ','{',' ','"','y','"',' ','}'] "a" = true := by
  decide +kernel

end PestModel.E2E
