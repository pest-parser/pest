import PestModel.Lemmas.ViewsPairs
import PestModel.Lemmas.PStateInvQueue
/-! From the structural predicate `Wf` on a window of the queue to `Layout`, `forestOf` and `countPairs`. -/
namespace PestModel.Views
open PestModel.PS PestModel.LineCol

variable {input : Str} {q : List QTok}

/-- `Wf` is a `Layout` whose forest nests. -/
theorem Wf.layout {a lo b hi : Nat} (h : Wf input q a lo b hi) :
    ∃ forest, Layout q a forest b ∧ nestedForest input lo hi forest = true := by
  induction h with
  | nil h => exact ⟨[], .nil _, rfl⟩
  | @cons a lo b hi e p0 p1 r tag ha he hl hh b0 b1 k rr ihk ihr =>
    obtain ⟨kids, lk, nk⟩ := ihk
    obtain ⟨rest, lr, nr⟩ := ihr
    exact ⟨.node r p0 p1 tag kids :: rest, .cons ha he lk lr,
      nestedForest_cons.2 ⟨nestedTree_node.2 ⟨hl, k.le, hh, b0, b1, nk⟩, nr⟩⟩

theorem Wf.forest {a lo b hi : Nat} (h : Wf input q a lo b hi) :
    ∃ forest, (∀ fuel, b - a ≤ fuel → forestOf q fuel a b = some forest) ∧
      (∀ fuel, b - a ≤ fuel → countPairs q fuel a b = some forest.length) ∧
      nestedForest input lo hi forest = true := by
  obtain ⟨forest, hl, hn⟩ := h.layout
  refine ⟨forest, forestOf_of_layout hl, fun fuel hf => countPairs_of_layout hl fuel ?_, hn⟩
  have := length_le_sizeList forest
  have := hl.size
  omega

end PestModel.Views
