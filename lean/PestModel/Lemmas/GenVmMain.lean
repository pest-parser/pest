import PestModel.Lemmas.GenVmExpr
/-! C02: the main induction — every expression, rule and environment slot lowered by the VM
and by the generator simulate each other. -/
namespace PestModel.GenVm
open PestModel.PS PestModel.Stack PestModel.Lower PestModel.G
open PestModel.LineCol (Str isBoundary slice?)
open PestModel.VmRef (Dirty index_some index_none)

section
variable {A B : Cfg} {n : Nat}

theorem both_comb (π : Pol) {P P' Q Q' : Prog} (h1 : Both A B n P P') (h2 : Both A B n Q Q') :
    Both A B n (π.comb P Q) (π.comb P' Q') := ⟨sim_comb π h1.1 h2.1, sim_comb π h1.2 h2.2⟩
theorem both_andThen {P P' Q Q' : Prog} (h1 : Both A B n P P') (h2 : Both A B n Q Q') :
    Both A B n (.andThen P Q) (.andThen P' Q') := both_comb .ok h1 h2
theorem both_orElse {P P' Q Q' : Prog} (h1 : Both A B n P P') (h2 : Both A B n Q Q') :
    Both A B n (.orElse P Q) (.orElse P' Q') := both_comb .err h1 h2
theorem both_bracket {X Y P Q : Prog} {pre : PState → PState} {K : PState → Out → Out}
    (hA : Br A X P pre K) (hB : Br B Y Q pre K) (hK : KOK K) (hF : KFrame pre K) (h : Both A B n P Q) :
    Both A B n X Y := ⟨sim_bracket hA hB hK hF h.1, sim_bracket hB hA hK hF h.2⟩
theorem both_shape {X Y P Q : Prog} {i j : Bool} {pre : PState → PState} {K : PState → Out → Out}
    (hX : Shape X i P pre K) (hY : Shape Y j Q pre K) (h : Both A B n P Q) : Both A B n X Y :=
  both_bracket hX.br hY.br hX.kok hX.kframe h
theorem both_sequence {P Q : Prog} (h : Both A B n P Q) : Both A B n (.sequence P) (.sequence Q) :=
  both_shape (.sequence P) (.sequence Q) h
theorem both_optional {P Q : Prog} (h : Both A B n P Q) : Both A B n (.optional P) (.optional Q) :=
  both_shape (.optional P) (.optional Q) h
theorem both_repeat {P Q : Prog} (h : Both A B n P Q) : Both A B n (.repeat_ P) (.repeat_ Q) :=
  both_shape (.repeat_ P) (.repeat_ Q) ⟨sim_repLoop h.1, sim_repLoop h.2⟩
theorem both_rule (r : Nat) {P Q : Prog} (h : Both A B n P Q) : Both A B n (.rule r P) (.rule r Q) :=
  both_bracket (br_rule r P) (br_rule r Q) (ruleK_ok r) (ruleK_frame r) h
/-- `.ok` is a unit of `and_then`. -/
theorem both_andThen_ok {P Q : Prog} (h : Both A B n P Q) : Both A B n (.andThen P .ok) Q :=
  ⟨sim_andThen_ok_src h.1, sim_andThen_ok_tgt h.2⟩
theorem both_ok_andThen {P Q : Prog} (h : Both A B n P Q) : Both A B n (.andThen .ok P) Q :=
  ⟨sim_ok_andThen_src h.1, sim_ok_andThen_tgt h.2⟩
theorem both_leaf (hm : A.memchr = B.memchr) {p : Prog} (hp : Prog.isLeaf p = true) : Both A B n p p :=
  ⟨sim_leaf hm hp, sim_leaf hm.symm hp⟩
theorem both_call (h1 : EnvSim A B n) (h2 : EnvSim B A n) (i : Nat) : Both A B (n+1) (.call i) (.call i) :=
  ⟨sim_call h1 i, sim_call h2 i⟩

end

variable {env : Env} {memchr : Bool}

local notation "V" => cfgOf Backend.vm env memchr
local notation "Gc" => cfgOf Backend.gen env memchr

theorem memchr_eq : (cfgOf Backend.vm env memchr).memchr = (cfgOf Backend.gen env memchr).memchr := rfl

/-- all slots related, both ways. -/
def Phi (env : Env) (memchr : Bool) (n : Nat) : Prop :=
  EnvSim (cfgOf .vm env memchr) (cfgOf .gen env memchr) n ∧
  EnvSim (cfgOf .gen env memchr) (cfgOf .vm env memchr) n

variable {n : Nat}

theorem both_builtin (h : Phi env memchr n) (name : String) :
    Both V Gc (n+1) (builtin env name) (builtin env name) :=
  have leaf {p : Prog} (hp : Prog.isLeaf p = true) : Both V Gc (n+1) p p := both_leaf memchr_eq hp
  builtin_ind env name (M := fun p => Both V Gc (n+1) p p) (leaf rfl) (both_rule _ (leaf rfl)) (leaf rfl) (leaf rfl)
    (leaf rfl) (fun _ => leaf rfl) (fun _ => leaf rfl) (leaf rfl) (fun _ _ => leaf rfl) (fun _ => leaf rfl)
    (fun _ => leaf rfl) (both_call h.1 h.2 _) both_orElse

theorem both_callRule (h : Phi env memchr n) (name : String) (ctx : Atomicity) :
    Both V Gc (n+1) (callRule env name ctx) (callRule env name ctx) := by
  unfold callRule
  cases env.index name with
  | none => exact both_builtin h name
  | some i => exact both_call h.1 h.2 _

theorem both_skipProg (h : Phi env memchr n) (ctx : Atomicity) :
    Both V Gc (n+1) (skipProg env ctx) (skipProg env ctx) := by
  unfold skipProg
  split
  · exact both_leaf memchr_eq rfl
  · have ws := both_callRule h "WHITESPACE" .nonAtomic
    have cm := both_callRule h "COMMENT" .nonAtomic
    dsimp only
    split
    · exact both_leaf memchr_eq rfl
    · exact both_repeat ws
    · exact both_repeat cm
    · exact both_sequence (both_andThen (both_repeat ws)
        (both_repeat (both_sequence (both_andThen cm (both_repeat ws)))))

theorem skipProg_atomic {ctx : Atomicity} (h : ctx ≠ .nonAtomic) : skipProg env ctx = .ok := by
  unfold skipProg; rw [if_pos h]

def ExprOK (env : Env) (memchr : Bool) (n : Nat) (e : OExpr) : Prop :=
  ∀ (ctx : Atomicity) (ag : Bool) (f : Nat), osize e ≤ f → TagPlain e →
    (ag = true → ctx ≠ .nonAtomic ∧ RepClean env.rules e) →
    Both (cfgOf .vm env memchr) (cfgOf .gen env memchr) n (vmExpr env ctx e) (genExpr env ctx ag f e)

theorem exprOK_all (hsize : env.rules.length ≤ 333333333) (h : Phi env memchr n) :
    ∀ (N : Nat) (e : OExpr), osize e ≤ N → ExprOK env memchr (n+1) e
  | 0, e, hN => by have := osize_pos e; omega
  | N + 1, e, hN => by
    intro ctx ag f hf htag hag
    obtain ⟨f, rfl⟩ : ∃ f', f = f' + 1 := ⟨f - 1, by have := osize_pos e; omega⟩
    have hskip := both_skipProg h ctx
    have hrc : ag = true → RepClean env.rules e := fun x => (hag x).2
    -- smaller expressions, in the same context; the flattened tails are generated with the same fuel
    have sub : ∀ (e' : OExpr) (f' : Nat), osize e' + 1 ≤ osize e → f ≤ f' → TagPlain e' →
        (ag = true → RepClean env.rules e') → Both V Gc (n+1) (vmExpr env ctx e')
          (genExprWith (skipProg env ctx) (fun n => callRule env n ctx) ag f' e') :=
      fun e' f' h1 h2 ht hr =>
        exprOK_all hsize h N e' (by omega) ctx ag f' (by omega) ht (fun x => ⟨(hag x).1, hr x⟩)
    unfold genExpr
    cases e with
    | str s => exact both_leaf memchr_eq rfl
    | insens s => exact both_leaf memchr_eq rfl
    | range a b => exact both_leaf memchr_eq rfl
    | ident name => exact both_callRule h name ctx
    | peekSlice a b => exact both_leaf memchr_eq rfl
    | skip ss => exact both_leaf memchr_eq rfl
    | pushLiteral s => exact both_leaf memchr_eq rfl
    | posPred e => exact both_shape (.lookahead true _) (.lookahead true _) (sub e f (Nat.le_refl _) (Nat.le_refl _) htag hrc)
    | negPred e => exact both_shape (.lookahead false _) (.lookahead false _) (sub e f (Nat.le_refl _) (Nat.le_refl _) htag hrc)
    | opt e => exact both_optional (sub e f (Nat.le_refl _) (Nat.le_refl _) htag hrc)
    | push e => exact both_shape (.stackPush _) (.stackPush _) (sub e f (Nat.le_refl _) (Nat.le_refl _) htag hrc)
    | restoreOnErr e => exact both_shape (.restoreOnErr _) (.restoreOnErr _) (sub e f (Nat.le_refl _) (Nat.le_refl _) htag hrc)
    | nodeTag e t =>
      rw [gen_nodeTag _ _ _ _ _ _ htag.1]
      exact both_andThen (sub e f (Nat.le_refl _) (Nat.le_refl _) htag.2 hrc) (both_leaf memchr_eq rfl)
    | repOnce e =>
      have he := sub e f (Nat.le_refl _) (Nat.le_refl _) htag hrc
      cases ag with
      | false => exact both_sequence (both_andThen he (both_repeat (both_sequence (both_andThen hskip he))))
      | true =>
        show Both _ _ _ (.sequence (.andThen _ (.repeat_ (.sequence (.andThen (skipProg env ctx) _))))) _
        rw [skipProg_atomic (hag rfl).1] at he ⊢
        exact both_sequence (both_andThen he (both_repeat (both_sequence (both_ok_andThen he))))
    | rep e =>
      have he := sub e f (Nat.le_refl _) (Nat.le_refl _) htag (fun x => (hrc x).2)
      cases ag with
      | false =>
        exact both_sequence (both_optional (both_andThen he (both_repeat (both_sequence (both_andThen hskip he)))))
      | true =>
        show Both _ _ _ (.sequence (.optional (.andThen _ (.repeat_ (.sequence (.andThen (skipProg env ctx) _)))))) _
        rw [skipProg_atomic (hag rfl).1] at he ⊢
        have hcl := errClean_vm (memchr := memchr) hsize (hrc rfl).1 ctx
        exact ⟨rep_VG he.1 hcl, rep_GV he.2 hcl⟩
    | choice a b =>
      have ha := sub a f (Nat.succ_le_succ (Nat.le_add_right _ _)) (Nat.le_refl _) htag.1 (fun x => (hrc x).1)
      have hb := sub b (f+1) (Nat.succ_le_succ (Nat.le_add_left _ _)) (Nat.le_succ _) htag.2 (fun x => (hrc x).2)
      rw [gen_choice]
      show Both _ _ _ (.orElse (vmExpr env ctx a) (vmExpr env ctx b)) _
      rcases choice_or_not b with ⟨b1, b2, rfl⟩ | hb'
      · rw [gen_choice] at hb
        exact ⟨comb_VG ha.1 hb.1 (prefix_choice _ a b1 _), comb_GV ha.2 hb.2 (prefix_choice _ a b1 _)⟩
      · rw [hb']
        exact both_orElse ha (sub b f (Nat.succ_le_succ (Nat.le_add_left _ _)) (Nat.le_refl _) htag.2
          (fun x => (hrc x).2))
    | seq a b =>
      have ha := sub a f (Nat.succ_le_succ (Nat.le_add_right _ _)) (Nat.le_refl _) htag.1 (fun x => (hrc x).1)
      have hb := sub b (f+1) (Nat.succ_le_succ (Nat.le_add_left _ _)) (Nat.le_succ _) htag.2 (fun x => (hrc x).2)
      rw [gen_seq]
      show Both _ _ _ (.sequence (.andThen (.andThen (vmExpr env ctx a) (skipProg env ctx)) (vmExpr env ctx b))) _
      -- the prefix `a ~ skip`
      have hP0 : Both V Gc (n+1) (.andThen (vmExpr env ctx a) (skipProg env ctx)) (seqHead ag (skipProg env ctx)
          (genExprWith (skipProg env ctx) (fun n => callRule env n ctx) ag f a)) := by
        cases ag with
        | false => exact both_andThen ha hskip
        | true => rw [skipProg_atomic (hag rfl).1] at ha ⊢; exact both_andThen_ok ha
      rcases seq_or_not b with ⟨b1, b2, rfl⟩ | hb'
      · rw [gen_seq] at hb
        exact ⟨flatten_VG hP0.1 hb.1 (prefix_seq _ _ _ a b1 _), flatten_GV hP0.2 hb.2 (prefix_seq _ _ _ a b1 _)⟩
      · rw [hb', List.foldl_cons, List.foldl_nil, seqStep_eq]
        exact both_sequence (both_andThen hP0 (sub b f (Nat.succ_le_succ (Nat.le_add_left _ _)) (Nat.le_refl _)
          htag.2 (fun x => (hrc x).2)))

end PestModel.GenVm
