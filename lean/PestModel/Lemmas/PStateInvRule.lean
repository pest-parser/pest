import PestModel.Lemmas.PStateInvRun
/-! The `rule` combinator: exact effect on the token queue; the invariants `run_rel` and `run_ext`. -/
namespace PestModel.PS
open PestModel.LineCol PestModel.Stack PestModel.Views

theorem rulePre_of_cond {s1 : PState} (h : ruleCond s1) :
    rulePre s1 = { s1 with queue := s1.queue ++ [.start 0 s1.pos] } := by
  unfold rulePre; exact if_pos h

theorem rulePre_of_not {s1 : PState} (h : ¬ ruleCond s1) : rulePre s1 = s1 := by
  unfold rulePre; exact if_neg h

theorem rulePre_rel (s1 : PState) : Rel s1 (rulePre s1) := by
  by_cases hc : ruleCond s1
  · rw [rulePre_of_cond hc]
    exact ⟨rfl, rfl, rfl, rfl, Nat.le_refl _, QLe.append _ _, fun h => absurd hc.1 h, id,
      fun h => ⟨h, rfl⟩⟩
  · rw [rulePre_of_not hc]; exact Rel.refl _

theorem ruleTrackIf_eq (s1 : PState) (r : Nat) (ns : PState) :
    ∃ a b c, ruleTrackIf s1 r ns = { ns with posAtt := a, negAtt := b, attemptPos := c } := by
  unfold ruleTrackIf
  split
  · exact track_eq _ _ _ _ _ _
  · exact ⟨_, _, _, rfl⟩

theorem ruleAdd_eq {s1 ns ns' : PState} {r : Nat} (h : ruleAdd s1 r ns = some ns') :
    ∃ pa', ns' = { ns with pa := pa' } ∧ pa'.enabled = ns.pa.enabled :=
  tryAddRuleToStack_eq h

theorem ruleFinish_eq {s1 ns s' : PState} {r : Nat} (h : (ruleFinish s1 r ns).state? = some s') :
    ∃ pa', ruleFinish s1 r ns = .ok s' ∧ s' = { ns with pa := pa' } ∧ pa'.enabled = ns.pa.enabled := by
  unfold ruleFinish at h ⊢
  split at h
  · rename_i hen
    rw [if_pos hen]
    split at h
    · rename_i ns' ha
      cases h
      obtain ⟨pa', h1, h2⟩ := ruleAdd_eq ha
      exact ⟨pa', rfl, h1, h2⟩
    · cases h
  · rename_i hen
    rw [if_neg hen]
    cases h; exact ⟨ns.pa, rfl, rfl, rfl⟩

theorem ruleFinish_no_panic {s1 ns : PState} {r : Nat} (h : ns.pa.enabled = false) :
    ruleFinish s1 r ns = .ok ns := by
  unfold ruleFinish; simp [h]

theorem getElem?_append_cons_length {α} (q : List α) (x : α) (inner : List α) :
    (q ++ x :: inner)[q.length]? = some x := by simp

/-- What `ruleEmit` makes of the state the body of a rule ended in. -/
theorem ruleEmit_spec {s1 ns : PState} {r : Nat} (rb : Rel (rulePre s1) ns) :
    ∃ a b c q', ruleEmit s1 r (ruleTrackIf s1 r ns) =
        some { ns with posAtt := a, negAtt := b, attemptPos := c, queue := q' } ∧
      (ruleCond s1 → ∃ inner, ns.queue = s1.queue ++ .start 0 s1.pos :: inner ∧
        q' = s1.queue ++ .start (s1.queue.length + 1 + inner.length) s1.pos :: inner ++
          [.end_ s1.queue.length r none ns.pos]) ∧
      (¬ ruleCond s1 → q' = ns.queue) := by
  obtain ⟨a, b, c, ht⟩ := ruleTrackIf_eq s1 r ns
  rw [ht]
  by_cases hc : ruleCond s1
  · rw [rulePre_of_cond hc] at rb
    obtain ⟨inner, hq⟩ := QLe.snoc_start rb.q
    have hla : ns.lookahead = .none := rb.la.trans hc.1
    have hat : ns.atomicity ≠ .atomic := by rw [rb.atom]; exact hc.2
    refine ⟨a, b, c, _, ?_, fun _ => ⟨inner, hq, rfl⟩, fun hn => absurd hc hn⟩
    unfold ruleEmit
    rw [if_pos ⟨hla, hat⟩]
    simp only [hq, getElem?_append_cons_length, setAt_append_cons]
    congr 3
    simp; omega
  · rw [rulePre_of_not hc] at rb
    have hn : ¬ (ns.lookahead = .none ∧ ns.atomicity ≠ .atomic) := by
      rw [rb.la, rb.atom]; exact hc
    exact ⟨a, b, c, _, by unfold ruleEmit; rw [if_neg hn], fun hn => absurd hn hc, fun _ => rfl⟩

/-- Exact effect of the success path of `rule`. -/
theorem ruleOkPost_spec {s1 ns s' : PState} {r : Nat} (rb : Rel (rulePre s1) ns)
    (h : (ruleOkPost s1 r ns).state? = some s') :
    ruleOkPost s1 r ns = .ok s' ∧
    ∃ a b c pa' q', s' = { ns with posAtt := a, negAtt := b, attemptPos := c, pa := pa', queue := q' } ∧
      pa'.enabled = ns.pa.enabled ∧
      (ruleCond s1 → ∃ inner, ns.queue = s1.queue ++ .start 0 s1.pos :: inner ∧
        q' = s1.queue ++ .start (s1.queue.length + 1 + inner.length) s1.pos :: inner ++
          [.end_ s1.queue.length r none ns.pos]) ∧
      (¬ ruleCond s1 → q' = ns.queue) := by
  unfold ruleOkPost at h ⊢
  obtain ⟨a, b, c, q', he, h1, h2⟩ := ruleEmit_spec (r := r) rb
  rw [he] at h ⊢
  obtain ⟨pa', e1, e2, e3⟩ := ruleFinish_eq h
  exact ⟨e1, a, b, c, pa', q', e2, e3, h1, h2⟩

theorem ruleOkPost_rel {s1 ns s' : PState} {r : Nat} (rb : RelX (rulePre s1) ns)
    (h : (ruleOkPost s1 r ns).state? = some s') : RelX s1 s' := by
  obtain ⟨-, a, b, c, pa', q', rfl, hen, h1, h2⟩ := ruleOkPost_spec rb.toRel h
  by_cases hc : ruleCond s1
  · obtain ⟨inner, hq, rfl⟩ := h1 hc
    rw [rulePre_of_cond hc] at rb
    refine ⟨⟨rb.input, rb.la, rb.atom, hen.trans rb.en, rb.pos, ?_, fun h => absurd hc.1 h,
      rb.bnd, rb.stk⟩, fun hb => ?_⟩
    · show QLe s1.queue (s1.queue ++ _ :: inner ++ _)
      rw [List.append_assoc]
      exact QLe.append _ _
    · -- the body's tokens `inner` are a forest; the rule closes them into one tree
      have w := rb.ext hb
      unfold Ext at w ⊢
      rw [hq] at w
      exact (Wf.wrap (r := r) (w.cast (by simp) (by simp; omega)) hb (rb.bnd hb)).cast rfl
        (by simp; omega)
  · have := h2 hc; subst this
    rw [rulePre_of_not hc] at rb
    exact { rb with en := hen.trans rb.en }

theorem ruleErrAdd_eq {s1 ns ns' : PState} {r : Nat} (h : ruleErrAdd s1 r ns = some ns') :
    ∃ a b c pa', ns' = { ns with posAtt := a, negAtt := b, attemptPos := c, pa := pa' } ∧
      pa'.enabled = ns.pa.enabled := by
  unfold ruleErrAdd at h
  split at h
  · obtain ⟨a, b, c, ht⟩ : ∃ a b c, ruleTrack s1 r ns =
        { ns with posAtt := a, negAtt := b, attemptPos := c } := track_eq _ _ _ _ _ _
    rw [ht] at h
    split at h
    · obtain ⟨pa', h1, h2⟩ := ruleAdd_eq h
      exact ⟨a, b, c, pa', h1, h2⟩
    · cases h; exact ⟨a, b, c, ns.pa, rfl, rfl⟩
  · cases h; exact ⟨_, _, _, _, rfl, rfl⟩

theorem ruleErrAdd_no_panic {s1 ns : PState} {r : Nat} (h : ns.pa.enabled = false) :
    ∃ ns', ruleErrAdd s1 r ns = some ns' := by
  unfold ruleErrAdd
  split
  · obtain ⟨a, b, c, ht⟩ : ∃ a b c, ruleTrack s1 r ns =
        { ns with posAtt := a, negAtt := b, attemptPos := c } := track_eq _ _ _ _ _ _
    rw [ht]; simp [h]
  · exact ⟨_, rfl⟩

/-- Exact effect of the failure path of `rule`. -/
theorem ruleErrPost_spec {s1 ns s' : PState} {r : Nat} (rb : Rel (rulePre s1) ns)
    (h : (ruleErrPost s1 r ns).state? = some s') :
    ruleErrPost s1 r ns = .err s' ∧
    ∃ a b c pa' q', s' = { ns with posAtt := a, negAtt := b, attemptPos := c, pa := pa', queue := q' } ∧
      pa'.enabled = ns.pa.enabled ∧
      (ruleCond s1 → q' = s1.queue) ∧ (¬ ruleCond s1 → q' = ns.queue) := by
  unfold ruleErrPost at h ⊢
  split at h
  · cases h
  · rename_i ns1 ha
    cases h
    refine ⟨rfl, ?_⟩
    obtain ⟨a, b, c, pa', rfl, hen⟩ := ruleErrAdd_eq ha
    unfold ruleErrTrunc
    by_cases hc : ruleCond s1
    · rw [rulePre_of_cond hc] at rb
      obtain ⟨inner, hq⟩ := QLe.snoc_start rb.q
      have hla : ns.lookahead = .none := rb.la.trans hc.1
      have hat : ns.atomicity ≠ .atomic := by rw [rb.atom]; exact hc.2
      rw [if_pos ⟨hla, hat⟩]
      exact ⟨a, b, c, pa', _, rfl, hen, fun _ => by simp [hq], fun hn => absurd hc hn⟩
    · rw [rulePre_of_not hc] at rb
      have hn : ¬ (ns.lookahead = .none ∧ ns.atomicity ≠ .atomic) := by
        rw [rb.la, rb.atom]; exact hc
      rw [if_neg hn]
      exact ⟨a, b, c, pa', _, rfl, hen, fun hn => absurd hn hc, fun _ => rfl⟩

theorem ruleErrPost_rel {s1 ns s' : PState} {r : Nat} (rb : RelX (rulePre s1) ns)
    (h : (ruleErrPost s1 r ns).state? = some s') : RelX s1 s' := by
  obtain ⟨-, a, b, c, pa', q', rfl, hen, h1, h2⟩ := ruleErrPost_spec rb.toRel h
  by_cases hc : ruleCond s1
  · have := h1 hc; subst this
    rw [rulePre_of_cond hc] at rb
    exact Rel.of_len ⟨rb.input, rb.la, rb.atom, hen.trans rb.en, rb.pos, QLe.refl _, fun _ => rfl,
      rb.bnd, rb.stk⟩ rfl
  · have := h2 hc; subst this
    rw [rulePre_of_not hc] at rb
    exact { rb with en := hen.trans rb.en }

theorem run_relx (cfg : Cfg) : ∀ (fuel : Nat) (p : Prog) (s s' : PState),
    (run cfg fuel p s).state? = some s' → RelX s s'
  | 0, p, s, s', h => by rw [run_zero] at h; simp at h
  | fuel + 1, p, s, s', h => by
    have ih : IH cfg fuel := run_relx cfg fuel
    cases p with
    | sequence p =>
      rw [run_sequence] at h
      refine wrap_rel cfg fuel ih (fun _ _ => checkpointOk_rel) (fun s1 ns rb h => ?_) h
      split at h
      · rename_i ns' hrs
        cases h
        obtain ⟨st, hre, rfl⟩ := restoreStack_some hrs
        have hq : setLastTag (ns.queue.take s1.queue.length) (lastTag s1.queue) = s1.queue :=
          setLastTag_restore rb.q
        exact Rel.of_len ⟨rb.input, rb.la, rb.atom, rb.en, Nat.le_refl _, QLe.of_eq hq, fun _ => hq, id,
          fun h0 => by obtain ⟨a, b, -⟩ := bracket_restore h0 rb.stk hre; exact ⟨a, b⟩⟩ (congrArg _ hq)
      · cases h
    | optional p =>
      rw [run_optional] at h
      exact wrap_rel cfg fuel ih (fun _ _ rb h => by cases h; exact rb) (fun _ _ rb h => by cases h; exact rb) h
    | repeat_ p =>
      rw [run_repeat] at h
      split at h
      · cases h; exact RelX.refl _
      · rename_i s1 hic
        exact (incCall_relx hic).trans (ih _ _ _ h)
    | repLoop p =>
      rw [run_repLoop] at h
      rcases state?_match h with ⟨ns, hb, h⟩ | ⟨ns, hb, h⟩
      · exact (ih.ok hb).trans (ih _ _ _ h)
      · cases h; exact ih.err hb
    | lookahead positive p =>
      rcases lookahead_inv cfg fuel h with rfl | ⟨s1, ns, hic, hla, hb⟩
      · exact RelX.refl _
      · obtain ⟨r, -, hq, -⟩ := laPost_rel (ih _ _ _ hb).toRel hla
        exact (incCall_relx hic).trans (r.of_len (congrArg _ hq))
    | atomic a p =>
      rw [run_atomic] at h
      exact wrap_rel cfg fuel ih (fun _ _ rb h => by cases h; exact atomPost_rel rb)
        (fun _ _ rb h => by cases h; exact atomPost_rel rb) h
    | rule r p =>
      rw [run_rule] at h
      exact wrap_rel cfg fuel ih (fun _ _ => ruleOkPost_rel) (fun _ _ => ruleErrPost_rel) h
    | stackPush p =>
      rw [run_stackPush] at h
      split at h
      · cases h; exact RelX.refl _
      · rename_i s1 hic
        refine (incCall_relx hic).trans ?_
        cases hb : run cfg fuel p s1 with
        | ok ns => rw [hb] at h; exact (ih.ok hb).trans (pushSpan_rel h)
        | err ns => rw [hb] at h; cases h; exact ih.err hb
        | panic => rw [hb] at h; cases h
        | fuel => rw [hb] at h; cases h
    | restoreOnErr p =>
      rw [run_restoreOnErr] at h
      rcases state?_match h with ⟨ns, hb, h⟩ | ⟨ns, hb, h⟩
      · exact checkpointOk_rel (ih.ok hb) h
      · have rb := ih.err hb
        split at h
        · rename_i ns' hrs
          cases h
          obtain ⟨st, hre, rfl⟩ := restoreStack_some hrs
          exact { rb with stk := fun h0 => by obtain ⟨a, b, -⟩ := bracket_restore h0 rb.stk hre; exact ⟨a, b⟩ }
        · cases h
    | andThen p q =>
      rw [run_andThen] at h
      cases hb : run cfg fuel p s with
      | ok s1 => rw [hb] at h; exact (ih.ok hb).trans (ih _ _ _ h)
      | err s1 => rw [hb] at h; cases h; exact ih.err hb
      | panic => rw [hb] at h; cases h
      | fuel => rw [hb] at h; cases h
    | orElse p q =>
      rw [run_orElse] at h
      cases hb : run cfg fuel p s with
      | ok s1 => rw [hb] at h; cases h; exact ih.ok hb
      | err s1 => rw [hb] at h; exact (ih.err hb).trans (ih _ _ _ h)
      | panic => rw [hb] at h; cases h
      | fuel => rw [hb] at h; cases h
    | matchString str => rw [run] at h; exact terminal_rel _ _ _ _ (posMatchString_good _ _ _) h
    | matchInsensitive str => rw [run] at h; exact terminal_rel _ _ _ _ (posMatchInsensitive_good _ _ _) h
    | matchRange a b => rw [run] at h; exact terminal_rel _ _ _ _ (posMatchRange_good _ _ _ _) h
    | matchCharBy cs => rw [run] at h; exact terminal_rel _ _ _ _ (posMatchCharBy_good _ _ _) h
    | skip n => rw [run] at h; exact terminal_rel _ _ _ _ (posSkip_good _ _ _) h
    | skipUntil strs =>
      rw [run] at h
      split at h
      · rename_i pos' hp
        cases h
        obtain ⟨h1, h2⟩ := posSkipUntil_good _ _ _ _ _ hp
        exact RelX.of_pos s pos' h1 (fun _ => h2)
      · cases h
    | startOfInput =>
      rw [run] at h
      split at h <;> (cases h; exact RelX.refl _)
    | endOfInput =>
      rw [run] at h
      split at h <;> (cases h; exact RelX.refl _)
    | stackPeek =>
      rw [run] at h
      split at h
      · cases h; exact RelX.refl _
      split at h
      · cases h
      · exact terminal_rel _ _ _ _ (posMatchString_good _ _ _) h
    | stackPop =>
      rw [run] at h
      split at h
      · cases h; exact RelX.refl _
      split at h
      · cases h
      · cases h
      · rename_i st str hp
        simp only [] at h
        exact (RelX.of_stack s st (pop_rel hp)).trans (terminal_rel { s with stack := st } _ _ _
          (posMatchString_good _ _ _) h)
    | stackMatchPeek =>
      rw [run] at h
      split at h
      · cases h; exact RelX.refl _
      · split at h
        · cases h
        · rename_i pos' hm
          cases h
          obtain ⟨h1, h2⟩ := matchAll_good' _ _ _ _ _ hm
          exact RelX.of_pos s pos' h1 h2
        · cases h; exact RelX.refl _
    | stackMatchPop =>
      rw [run] at h
      split at h
      · cases h
      · rename_i st pos' hm
        cases h
        obtain ⟨h1, h2, h3⟩ := matchPopLoop_spec _ _ _ _ _ _ _ hm
        exact Rel.of_len ⟨rfl, rfl, rfl, rfl, h1, QLe.refl _, fun _ => rfl, h2, h3⟩ rfl
      · rename_i st pos' hm
        cases h
        obtain ⟨h1, h2, h3⟩ := matchPopLoop_spec _ _ _ _ _ _ _ hm
        exact RelX.of_stack s st h3
    | stackDrop =>
      rw [run] at h
      split at h
      · cases h
      · rename_i st x hp
        cases h
        exact RelX.of_stack s st (pop_rel hp)
      · cases h; exact RelX.refl _
    | stackMatchPeekSlice start stop dir =>
      rw [run] at h
      split at h
      · cases h; exact RelX.refl _
      · split at h
        · cases h; exact RelX.refl _
        · simp only [] at h
          split at h
          · cases h
          · rename_i pos' hm
            cases h
            obtain ⟨h1, h2⟩ := matchAll_good' _ _ _ _ _ hm
            exact RelX.of_pos s pos' h1 h2
          · cases h; exact RelX.refl _
    | stackPushLiteral str =>
      rw [run] at h
      cases h
      exact RelX.of_stack s _ (push_spec s.stack str)
    | tagNode tag =>
      rw [run] at h
      split at h
      · cases h; exact RelX.refl _
      · rename_i hla
        split at h
        · rename_i si r t p hl
          cases h
          refine Rel.of_len ⟨rfl, rfl, rfl, rfl, Nat.le_refl _, QLe.tag hl, fun hn => absurd hn hla, id,
            fun h => ⟨h, rfl⟩⟩ ?_
          have := List.length_pos_iff.mpr fun h0 : s.queue = [] => by rw [h0] at hl; cases hl
          simp; omega
        · cases h; exact RelX.refl _
    | call i =>
      rw [run_call] at h
      split at h
      · exact ih _ _ _ h
      · cases h
    | ok => rw [run] at h; cases h; exact RelX.refl _
    | fail => rw [run] at h; cases h; exact RelX.refl _

/-- **Main invariant.** -/
theorem run_rel (cfg : Cfg) (fuel : Nat) (p : Prog) (s s' : PState)
    (h : (run cfg fuel p s).state? = some s') : Rel s s' := (run_relx cfg fuel p s s' h).toRel

theorem run_ok_rel {cfg : Cfg} {fuel : Nat} {p : Prog} {s s' : PState}
    (h : run cfg fuel p s = .ok s') : Rel s s' := run_rel cfg fuel p s s' (by rw [h]; rfl)

theorem run_err_rel {cfg : Cfg} {fuel : Nat} {p : Prog} {s s' : PState}
    (h : run cfg fuel p s = .err s') : Rel s s' := run_rel cfg fuel p s s' (by rw [h]; rfl)

end PestModel.PS

namespace PestModel.Views
open PestModel.PS PestModel.LineCol

/-- **Queue invariant.** -/
theorem run_ext (cfg : Cfg) (fuel : Nat) (p : Prog) (s s' : PState)
    (h : (PS.run cfg fuel p s).state? = some s') (hb : isBoundary s.input s.pos = true) : Ext s s' :=
  (run_relx cfg fuel p s s' h).ext hb

end PestModel.Views
