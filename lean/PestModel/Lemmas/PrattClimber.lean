import PestModel.Lemmas.Pratt
/-!
Helper lemmas for `climber_eq`: on well-formed input the `PrecClimber` functions build a tree that is precedence-correct
(`OK`) for the Pratt table of the same levels, hence the shunting-yard machine's (infix-only tables with one associativity per level).
-/
namespace PestModel.Pratt

/-- What `climber_eq` needs to know about the two tables. -/
structure CT (ct : CTable) (pt : Table) : Prop where
  tnone : ∀ r, ct r = none → pt r = none
  tsome : ∀ r p a, ct r = some (p, a) → pt r = some (.infix a, 10 * p + 10)
  single : ∀ r₁ r₂ p a₁ a₂, ct r₁ = some (p, a₁) → ct r₂ = some (p, a₂) → a₁ = a₂

def climbToPratt : Nat × Nat × Assoc → Nat × Affix × Nat := fun (r, p, a) => (r, .infix a, 10 * p + 10)

def toPrattLevels' (cl : List (List (Nat × Assoc))) : List (List (Nat × Affix)) :=
  cl.map fun l => l.map fun (r, a) => (r, Affix.infix a)

theorem prattEntries_climber (cl : List (List (Nat × Assoc))) : ∀ c,
    prattEntries (toPrattLevels' cl) (10 * c) = (climberEntries cl c).map climbToPratt := by
  induction cl with
  | nil => intro c; rfl
  | cons lvl rest ih =>
    intro c
    have h10 : 10 * c + 10 = 10 * (c + 1) := by omega
    simp only [toPrattLevels', List.map_cons, prattEntries, climberEntries, List.map_append,
      List.map_map]
    rw [h10]
    have := ih (c + 1)
    simp only [toPrattLevels'] at this
    rw [this]
    congr 1

theorem climberEntries_keys (cl : List (List (Nat × Assoc))) : ∀ c,
    (climberEntries cl c).map (·.1) = cl.flatten.map (·.1) := by
  induction cl with
  | nil => intro c; rfl
  | cons lvl rest ih =>
    intro c
    simp only [climberEntries, List.map_append, List.map_map, List.flatten_cons, ih]
    congr 1

theorem climberEntries_ge {cl : List (List (Nat × Assoc))} : ∀ {c r p a},
    (r, p, a) ∈ climberEntries cl c → c ≤ p := by
  induction cl with
  | nil => intro c r p a h; cases h
  | cons lvl rest ih =>
    intro c r p a h
    simp only [climberEntries, List.mem_append, List.mem_map] at h
    rcases h with ⟨x, _, hx⟩ | h
    · cases hx; exact Nat.le_refl _
    · have := ih h; omega

theorem climberEntries_single {cl : List (List (Nat × Assoc))}
    (hsingle : ∀ l ∈ cl, ∀ x ∈ l, ∀ y ∈ l, x.2 = y.2) : ∀ {c r₁ r₂ p a₁ a₂},
    (r₁, p, a₁) ∈ climberEntries cl c → (r₂, p, a₂) ∈ climberEntries cl c → a₁ = a₂ := by
  induction cl with
  | nil => intro c r₁ r₂ p a₁ a₂ h; cases h
  | cons lvl rest ih =>
    intro c r₁ r₂ p a₁ a₂ h1 h2
    simp only [climberEntries, List.mem_append, List.mem_map] at h1 h2
    rcases h1 with ⟨x, hx, hx'⟩ | h1 <;> rcases h2 with ⟨y, hy, hy'⟩ | h2
    · cases hx'; cases hy'
      exact hsingle lvl List.mem_cons_self x hx y hy
    · cases hx'
      have := climberEntries_ge h2; omega
    · cases hy'
      have := climberEntries_ge h1; omega
    · exact ih (fun l hl => hsingle l (List.mem_cons_of_mem _ hl)) h1 h2

theorem climberTable_mem {cl : List (List (Nat × Assoc))} {r p : Nat} {a : Assoc}
    (h : climberTable cl r = some (p, a)) : (r, p, a) ∈ climberEntries cl 1 := by
  unfold climberTable at h
  split at h
  · next r' p' a' hf =>
    cases h
    obtain ⟨hm, rfl⟩ := find?_key_some (k := Prod.fst) hf
    exact hm
  · cases h

/-- The Pratt table built from the climber's levels is the climber's table, precedence `p` becoming `10 * p + 10`. -/
theorem prattTable_climber (cl : List (List (Nat × Assoc))) (hd : (cl.flatten.map (·.1)).Nodup) (r : Nat) :
    prattTable (toPrattLevels' cl) r = (climberTable cl r).map fun (p, a) => (.infix a, 10 * p + 10) := by
  have h1 := prattEntries_climber cl 1
  simp only [Nat.mul_one] at h1
  have hnd : (((climberEntries cl 1).map climbToPratt).map (·.1)).Nodup := by
    rw [List.map_map]
    have : ((fun x : Nat × Affix × Nat => x.1) ∘ climbToPratt) = (fun x : Nat × Nat × Assoc => x.1) := by
      funext ⟨r, p, a⟩; rfl
    rw [this, climberEntries_keys]; exact hd
  unfold prattTable lookupLast climberTable
  have e1 := find?_reverse_of_nodup (fun e : Nat × Affix × Nat => e.1) r _ hnd
  have e2 := find?_map_key (fun e : Nat × Nat × Assoc => e.1) (fun e : Nat × Affix × Nat => e.1) climbToPratt
    (fun ⟨_, _, _⟩ => rfl) (climberEntries cl 1) r
  rw [h1, e1, e2]
  cases List.find? (fun e => decide (e.1 = r)) (climberEntries cl 1) with
  | none => rfl
  | some e => obtain ⟨r', p, a⟩ := e; rfl

theorem CT_of_levels (cl : List (List (Nat × Assoc)))
    (hdistinct : (cl.flatten.map (·.1)).Nodup)
    (hsingle : ∀ l ∈ cl, ∀ x ∈ l, ∀ y ∈ l, x.2 = y.2) :
    CT (climberTable cl) (prattTable (toPrattLevels' cl)) where
  tnone r h := by rw [prattTable_climber cl hdistinct, h]; rfl
  tsome r p a h := by rw [prattTable_climber cl hdistinct, h]; rfl
  single := by
    intro r₁ r₂ p a₁ a₂ h1 h2
    exact climberEntries_single hsingle (climberTable_mem h1) (climberTable_mem h2)

def CondI (p np : Nat) (a : Assoc) : Prop := np > p ∨ (a = .right ∧ np = p)

instance (p np : Nat) (a : Assoc) : Decidable (CondI p np a) := by unfold CondI; infer_instance

theorem CT.wf_false_cons {ct : CTable} {pt : Table} (h : CT ct pt) {r : Nat} {rest : List Nat}
    (hwf : wf pt false (r :: rest) = true) :
    ∃ p a, ct r = some (p, a) ∧ pt r = some (.infix a, 10 * p + 10) ∧ wf pt true rest = true := by
  cases hc : ct r with
  | none => simp [wf, h.tnone r hc] at hwf
  | some pa =>
    obtain ⟨p, a⟩ := pa
    have := h.tsome r p a hc
    simp only [wf, this] at hwf
    exact ⟨p, a, rfl, this, hwf⟩

theorem CT.wf_true {ct : CTable} {pt : Table} (h : CT ct pt) {toks : List Nat}
    (hwf : wf pt true toks = true) :
    ∃ q rest, toks = q :: rest ∧ pt q = none ∧ wf pt false rest = true := by
  cases toks with
  | nil => simp [wf] at hwf
  | cons q rest =>
    cases hc : ct q with
    | none =>
      have := h.tnone q hc
      simp only [wf, this] at hwf
      exact ⟨q, rest, rfl, this, hwf⟩
    | some pa =>
      obtain ⟨p, a⟩ := pa
      simp [wf, h.tsome q p a hc] at hwf

/-- The test of the climber's inner loop says that the pending operator binds its right side less
tightly than the incoming one binds its left side. -/
theorem rbp_lt_iff_condI {ct : CTable} {pt : Table} (hct : CT ct pt) {r r' p np a a'}
    (hcr : ct r = some (p, a)) (hcr' : ct r' = some (np, a')) :
    (Pending.inf r (10 * p + 10) a).rbp < 10 * np + 10 ↔ CondI p np a' := by
  unfold CondI
  by_cases hnp : np = p
  · subst hnp
    have := hct.single _ _ _ _ _ hcr' hcr
    subst this
    cases a' <;> simp [Pending.rbp] <;> omega
  · cases a <;> simp [Pending.rbp] <;> omega

/-- On well-formed input `climbRec … m` does what the Pratt parser's `loop` does at right binding power
`10 * m + 9`, and `climbInner … p` what it does at the right binding power of an operator of level `p`:
both return, stop where `Stops` says, and extend a precedence-correct operand to a precedence-correct tree. -/
theorem climb_all {ct : CTable} {pt : Table} (hct : CT ct pt) (f : Nat) :
    (∀ lhs m toks, wf pt false toks = true → 2 * toks.length + 1 ≤ f →
      ∃ tree rest, climbRec ct f lhs m toks = .ok (tree, rest) ∧ wf pt false rest = true ∧
        rest.length ≤ toks.length ∧
        (∀ r rest0 p a, toks = r :: rest0 → ct r = some (p, a) → m ≤ p → rest.length < toks.length) ∧
        Stops pt (10 * m + 9) rest ∧ tree.yield ++ rest = lhs.yield ++ toks ∧
        (OK pt lhs → RNext pt toks lhs → OK pt tree ∧ RNext pt rest tree ∧
          ∀ q, LAbove pt q lhs → q ≤ 10 * m + 9 → LAbove pt q tree)) ∧
    (∀ rhs p toks r₀ a₀, ct r₀ = some (p, a₀) → wf pt false toks = true → 2 * toks.length + 2 ≤ f →
      ∃ tree rest, climbInner ct f rhs p toks = .ok (tree, rest) ∧ wf pt false rest = true ∧
        rest.length ≤ toks.length ∧ Stops pt (Pending.inf r₀ (10 * p + 10) a₀).rbp rest ∧
        tree.yield ++ rest = rhs.yield ++ toks ∧
        (OK pt rhs → RNext pt toks rhs → OK pt tree ∧ RNext pt rest tree ∧
          ∀ q, LAbove pt q rhs → q ≤ (Pending.inf r₀ (10 * p + 10) a₀).rbp → LAbove pt q tree)) := by
  induction f with
  | zero => exact ⟨fun _ _ _ _ hf => by omega, fun _ _ _ _ _ _ _ hf => by omega⟩
  | succ f ih =>
    obtain ⟨ihR, ihI⟩ := ih
    refine ⟨?_, ?_⟩
    · intro lhs m toks hwf hf
      cases toks with
      | nil =>
        exact ⟨lhs, [], rfl, hwf, Nat.le_refl _, nofun, ⟨0, rfl, Nat.zero_le _⟩, rfl, fun hok hrn => ⟨hok, hrn, fun _ hl _ => hl⟩⟩
      | cons r rest1 =>
        obtain ⟨p, a, hcr, hpr, hwf1⟩ := hct.wf_false_cons hwf
        rw [climbRec.eq_3]
        simp only [hcr]
        by_cases hge : p ≥ m
        · rw [if_pos hge]
          obtain ⟨q, rest2, rfl, hpq, hwf2⟩ := hct.wf_true hwf1
          simp only [List.length_cons] at hf
          obtain ⟨rhs, rest3, hI, hwf3, hlen3, hstopI, hyI, hsemI⟩ :=
            ihI (.prim q) p rest2 r a hcr hwf2 (by omega)
          obtain ⟨tree, rest, hR, hwf4, hlen4, _, hstopR, hyR, hsemR⟩ :=
            ihR (.inf lhs r rhs) m rest3 hwf3 (by omega)
          refine ⟨tree, rest, by simp only [hI]; exact hR, hwf4, by simp only [List.length_cons]; omega,
            fun _ _ _ _ _ _ _ => by simp only [List.length_cons]; omega, hstopR, ?_, fun hok hrn => ?_⟩
          · rw [hyR, Tree.yield, List.append_assoc, List.cons_append, hyI]; rfl
          · obtain ⟨okr, rnr, lar⟩ := hsemI hpq (fun _ _ => trivial)
            obtain ⟨okt, rnt, lat⟩ := hsemR
              ⟨a, _, hpr, hok, hrn _ (lbp_cons.mpr ⟨_, hpr⟩), okr, lar _ trivial (Nat.le_refl _)⟩ fun q' hq' => by
                obtain ⟨hle, hr⟩ := rnr.of_stops hstopI hq'
                exact ⟨fun a' p' h' => by cases hpr.symm.trans h'; exact hle, hr⟩
            exact ⟨okt, rnt, fun q' hl' hq' => lat q' ⟨hl', fun a' p' h' => by cases hpr.symm.trans h'; omega⟩ hq'⟩
        · rw [if_neg hge]
          refine ⟨lhs, r :: rest1, rfl, hwf, Nat.le_refl _, ?_, ⟨_, lbp_cons.mpr ⟨_, hpr⟩, by omega⟩, rfl,
            fun hok hrn => ⟨hok, hrn, fun _ hl _ => hl⟩⟩
          intro r' rest0 p' a' h hc hle
          cases h
          rw [hcr] at hc; cases hc
          omega
    · intro rhs p toks r₀ a₀ hcr₀ hwf hf
      cases toks with
      | nil => exact ⟨rhs, [], rfl, hwf, Nat.le_refl _, ⟨0, rfl, Nat.zero_le _⟩, rfl, fun hok hrn => ⟨hok, hrn, fun _ hl _ => hl⟩⟩
      | cons r rest1 =>
        obtain ⟨np, a, hcr, hpr, hwf1⟩ := hct.wf_false_cons hwf
        have hiff := rbp_lt_iff_condI hct hcr₀ hcr
        rw [climbInner.eq_3]
        simp only [hcr]
        by_cases hc : CondI p np a
        · rw [if_pos (show np > p ∨ a = Assoc.right ∧ np = p from hc)]
          obtain ⟨rhs', rest', hR, hwf', hlen', hlt, hstopR, hyR, hsemR⟩ :=
            ihR rhs np (r :: rest1) hwf (by omega)
          have hlt' := hlt r rest1 np a rfl hcr (Nat.le_refl _)
          obtain ⟨tree, rest, hI, hwf2, hlen2, hstopI, hyI, hsemI⟩ :=
            ihI rhs' p rest' r₀ a₀ hcr₀ hwf' (by simp only [List.length_cons] at hf hlt'; omega)
          refine ⟨tree, rest, by simp only [hR]; exact hI, hwf2, by omega, hstopI, by rw [hyI, hyR], fun hok hrn => ?_⟩
          obtain ⟨ok1, rn1, la1⟩ := hsemR hok hrn
          obtain ⟨ok2, rn2, la2⟩ := hsemI ok1 rn1
          exact ⟨ok2, rn2, fun q hl hq => la2 q (la1 q hl (by have := hiff.mpr hc; omega)) hq⟩
        · rw [if_neg (show ¬ (np > p ∨ a = Assoc.right ∧ np = p) from hc)]
          exact ⟨rhs, r :: rest1, rfl, hwf, Nat.le_refl _,
            ⟨_, lbp_cons.mpr ⟨_, hpr⟩, Nat.le_of_not_lt fun h => hc (hiff.mp h)⟩, rfl,
            fun hok hrn => ⟨hok, hrn, fun _ hl _ => hl⟩⟩

theorem climb_eq_sy {ct : CTable} {pt : Table} (hct : CT ct pt) {toks : List Nat}
    (hwf : wf pt true toks = true) :
    ∃ tree, climb ct toks = .ok (tree, []) ∧ shuntingYard pt toks = some tree := by
  obtain ⟨q, rest, rfl, hpq, hwf1⟩ := hct.wf_true hwf
  obtain ⟨tree, rest', hR, hwf', _, _, ⟨q', hq', hle⟩, hy, hsem⟩ :=
    (climb_all hct (4 * rest.length + 4)).1 (.prim q) 0 rest hwf1 (by omega)
  cases rest' with
  | cons r' rest'' =>
    obtain ⟨p, a, _, hpr, _⟩ := hct.wf_false_cons hwf'
    rw [lbp, hpr] at hq'; cases hq'
    omega
  | nil =>
    rw [List.append_nil] at hy
    exact ⟨tree, hR, (show tree.yield = q :: rest from hy) ▸ shuntingYard_yield (hsem hpq fun _ _ => trivial).1⟩

/-- The climber and the Pratt parser agree (both equal the shunting-yard tree). -/
theorem climb_eq_parse (cl : List (List (Nat × Assoc)))
    (hdistinct : (cl.flatten.map (·.1)).Nodup)
    (hsingle : ∀ l ∈ cl, ∀ x ∈ l, ∀ y ∈ l, x.2 = y.2) {toks : List Nat}
    (hwf : wf (prattTable (toPrattLevels' cl)) true toks = true) :
    ∃ tree, climb (climberTable cl) toks = .ok (tree, []) ∧
      parse (prattTable (toPrattLevels' cl)) toks = .ok (tree, []) := by
  obtain ⟨tree, hc, hs⟩ := climb_eq_sy (CT_of_levels cl hdistinct hsingle) hwf
  obtain ⟨tree', hp, hs'⟩ := parse_total_sim (prattTable_pos' _) hwf
  cases hs.symm.trans hs'
  exact ⟨tree, hc, hp⟩

end PestModel.Pratt
