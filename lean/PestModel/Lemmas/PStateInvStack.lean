import PestModel.Model.PStateSpec
import PestModel.Thm.C11
/-! The stack operations used by `PState.lean` seen through `abs`: each is a case of the refinement step `Stack.step_spec`. -/
namespace PestModel.PS
open PestModel.Stack

variable {α : Type}

theorem abs_cur (st : Stk α) : (abs st).cur = st.cache := rfl

theorem snapshot_spec (st : Stk α) (h : StkInv st) :
    StkInv { st with lengths := (st.cache.length, st.cache.length) :: st.lengths } ∧
    (abs { st with lengths := (st.cache.length, st.cache.length) :: st.lengths }).saved
      = st.cache :: (abs st).saved :=
  ⟨C11.step_inv st _ .snapshot _ h rfl,
    (congrArg (·.1.saved) (C11.step_refines st _ .snapshot _ h rfl)).symm⟩

theorem clearSnapshot_spec (st : Stk α) (h : StkInv st) :
    ∃ st', clearSnapshot st = some st' ∧ StkInv st' ∧ st'.cache = st.cache ∧
      (abs st').saved = (abs st).saved.tail := by
  obtain ⟨st', o, hs, hi, hr⟩ := step_spec st .clearSnapshot h
  simp only [step, Option.map_eq_some_iff, Prod.mk.injEq] at hs
  obtain ⟨st'', hc, rfl, rfl⟩ := hs
  simp only [Naive.step, Prod.mk.injEq, and_true] at hr
  exact ⟨st'', hc, hi, (congrArg Naive.cur hr).symm, (congrArg Naive.saved hr).symm⟩

theorem restore_spec (st : Stk α) (h : StkInv st) :
    ∃ st', restore st = some st' ∧ StkInv st' ∧
      ∀ c cs, (abs st).saved = c :: cs → st'.cache = c ∧ (abs st').saved = cs := by
  obtain ⟨st', o, hs, hi, hr⟩ := step_spec st .restore h
  simp only [step, Option.map_eq_some_iff, Prod.mk.injEq] at hs
  obtain ⟨st'', hc, rfl, rfl⟩ := hs
  refine ⟨st'', hc, hi, ?_⟩
  intro c cs hsv
  simp only [Naive.step, hsv, Prod.mk.injEq, and_true] at hr
  exact ⟨(congrArg Naive.cur hr).symm, (congrArg Naive.saved hr).symm⟩

theorem push_spec (st : Stk α) (x : α) (h : StkInv st) :
    StkInv { st with cache := x :: st.cache } ∧
    (abs { st with cache := x :: st.cache }).saved = (abs st).saved :=
  ⟨C11.step_inv st _ (.push x) _ h rfl,
    (congrArg (·.1.saved) (C11.step_refines st _ (.push x) _ h rfl)).symm⟩

theorem pop_total (st : Stk α) : ∃ st' v, Stack.pop st = some (st', v) :=
  have ⟨st', h, _⟩ := pop_eq st
  ⟨st', _, h⟩

theorem pop_spec (st st' : Stk α) (v : Option α) (h : StkInv st) (hp : Stack.pop st = some (st', v)) :
    StkInv st' ∧ v = st.cache.head? ∧ st'.cache = st.cache.tail ∧ (abs st').saved = (abs st).saved := by
  have hs : step st .pop = some (st', .val v) := by simp only [step, hp, Option.map_some]
  have hr := C11.step_refines st st' .pop _ h hs
  simp only [Naive.step, Prod.mk.injEq, Out.val.injEq] at hr
  exact ⟨C11.step_inv st st' .pop _ h hs, hr.2.symm, (congrArg Naive.cur hr.1).symm,
    (congrArg Naive.saved hr.1).symm⟩

theorem pop_rel {st st' : Stk α} {v : Option α} (hp : Stack.pop st = some (st', v)) (h : StkInv st) :
    StkInv st' ∧ (abs st').saved = (abs st).saved :=
  have ⟨a, _, _, d⟩ := pop_spec _ _ _ h hp
  ⟨a, d⟩

theorem pop_cache_length (st st' : Stk α) (v : Option α) (hp : Stack.pop st = some (st', v)) :
    st'.cache.length = st.cache.length - 1 ∧ (v = none → st.cache = []) := by
  obtain ⟨s1, h, hc⟩ := pop_eq st
  rw [h] at hp; cases hp
  exact ⟨by rw [hc]; simp, List.head?_eq_none_iff.1⟩

end PestModel.PS
