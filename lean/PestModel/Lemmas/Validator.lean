import PestModel.Model.Validator
import PestModel.Model.Ref
import PestModel.Model.RefSpec
/-! C06: basic facts about the validator model. -/
namespace PestModel.V
open PestModel.G

theorem lookup_isSome_of_mem {rules : List Rule} {r : Rule} (h : r ∈ rules) : (lookup rules r.name).isSome = true := by
  unfold lookup
  rw [Option.isSome_map]
  rw [List.find?_isSome]
  exact ⟨r, h, by simp⟩

theorem lookup_some_mem {rules : List Rule} {n : String} {body : Expr} (h : lookup rules n = some body) :
    ∃ r ∈ rules, r.name = n ∧ r.expr = body := by
  unfold lookup at h
  cases hf : rules.find? (·.name = n) with
  | none => simp [hf] at h
  | some r =>
    simp [hf] at h
    exact ⟨r, List.mem_of_find?_eq_some hf, by simpa using List.find?_some hf, h⟩

theorem subExprs_self (extras : Bool) (e : Expr) : e ∈ subExprs extras e := by
  cases e <;> simp [subExprs]

theorem subExprs_trans (extras : Bool) {a b c : Expr} (h1 : a ∈ subExprs extras b) (h2 : b ∈ subExprs extras c) :
    a ∈ subExprs extras c := by
  induction c with
  | seq x y ihx ihy | choice x y ihx ihy =>
    simp only [subExprs, List.mem_cons, List.mem_append] at h2 ⊢
    rcases h2 with rfl | h2 | h2
    · simpa only [subExprs, List.mem_cons, List.mem_append] using h1
    · exact Or.inr (Or.inl (ihx h2))
    · exact Or.inr (Or.inr (ihy h2))
  | posPred x ih | negPred x ih | opt x ih | rep x ih | repOnce x ih | push x ih
  | repExact x n ih | repMin x n ih | repMax x n ih | repMinMax x lo hi ih =>
    simp only [subExprs, List.mem_cons] at h2 ⊢
    rcases h2 with rfl | h2
    · simpa only [subExprs, List.mem_cons] using h1
    · exact Or.inr (ih h2)
  | nodeTag x t ih =>
    simp only [subExprs, List.mem_cons] at h2 ⊢
    rcases h2 with rfl | h2
    · simpa only [subExprs, List.mem_cons] using h1
    · cases extras
      · simp at h2
      · simp only [if_true] at h2 ⊢
        exact Or.inr (ih h2)
  | _ =>
    simp only [subExprs, List.mem_singleton] at h2
    subst h2
    exact h1

end PestModel.V
