import PestModel.Model.Views
/-! The pairs of a forest in document order (`preorderList`): membership. -/
namespace PestModel.Views

theorem mem_preorderList {x : Tree} : ∀ {l : List Tree}, x ∈ preorderList l ↔ ∃ t ∈ l, x ∈ t.preorder
  | [] => by simp [preorderList]
  | t :: ts => by simp [preorderList, mem_preorderList (l := ts)]

theorem mem_preorder_self (t : Tree) : t ∈ t.preorder := by
  cases t; simp [Tree.preorder]

theorem mem_preorder_children (t : Tree) : ∀ x ∈ preorderList t.children, x ∈ t.preorder := by
  cases t; intro x hx; simp only [Tree.preorder, List.mem_cons]; exact .inr hx

/-- the pairs under a member of the list are among the pairs of the list. -/
theorem under_mem {P : List Tree} {t : Tree} (ht : t ∈ P) : ∀ x ∈ preorderList t.children, x ∈ preorderList P :=
  fun x hx => mem_preorderList.2 ⟨t, ht, mem_preorder_children t x hx⟩

theorem preorderList_mono {a b : List Tree} (h : ∀ t ∈ a, t ∈ b) : ∀ x ∈ preorderList a, x ∈ preorderList b :=
  fun _ hx => let ⟨t, ht, hx⟩ := mem_preorderList.1 hx; mem_preorderList.2 ⟨t, h t ht, hx⟩

end PestModel.Views
