import PestModel.Lemmas.RefCong
/-! The local rewrite laws of rotate / unroll / factor. -/
namespace PestModel.Ref
open PestModel.G
open PestModel.LineCol (Str bLen cLen splitAt?)
open PestModel.Views (Tree)
open PestModel.PS (Atomicity CharSet restAt asciiLower eqIgnoreAsciiCase normalizeIndex)

section
variable {P : St → Prop} {c : Ctx} {m : Atomicity}

theorem seq_assoc (a b d : Expr) : EqOn P c m (.seq (.seq a b) d) (.seq a (.seq b d)) := by
  intro la s _
  simp only [val_seq]
  cases val c m la a s <;> simp only []
  rename_i s1 f1
  cases valK c m la s1 <;> simp only []
  rename_i s2 f2
  cases val c m la b s2 <;> simp only []
  rename_i s3 f3
  cases valK c m la s3 <;> simp only []
  rename_i s4 f4
  cases val c m la d s4 <;> simp only [List.append_assoc]

theorem choice_assoc (a b d : Expr) : EqOn P c m (.choice (.choice a b) d) (.choice a (.choice b d)) := by
  intro la s _
  simp only [val_choice]
  cases val c m la a s <;> simp only []

theorem rotateInternal_eqOn (n : Nat) (e : Expr) : EqOn P c m e (rotateInternal n e) := by
  induction n generalizing e with
  | zero => rw [rotateInternal]; exact EqOn.refl e
  | succ n ih =>
    unfold rotateInternal
    split
    · exact EqOn.refl _
    · rename_i h; cases h; exact (seq_assoc _ _ _).trans (ih _)
    · rename_i h; cases h; exact (choice_assoc _ _ _).trans (ih _)
    · exact EqOn.refl _

theorem rotateExpr_eqOn (hP : (V c).Keeps P) (e : Expr) : EqOn P c m e (rotateExpr e) :=
  mapTopDown_eqOn hP _ (fun x => rotateInternal_eqOn _ x) _ e

theorem unrollF_eqOn {x x' : Expr} (h : unrollF c.extras x = some x') : EqOn P c m x x' := by
  intro la s _
  cases x <;> simp only [unrollF, Option.some.injEq] at h <;> try (subst h; rfl)
  case repOnce e =>
    rw [val_repOnce]
    split at h
    · rename_i hx; simp only [Option.some.injEq] at h; subst h; rw [val_repOnce, if_pos hx]
    · rename_i hx; simp only [Option.some.injEq] at h; subst h; rw [if_neg hx]
  case repExact e n => rw [val_repExact, h]
  case repMin e n => rw [val_repMin, h]
  case repMax e n => rw [val_repMax, h]
  case repMinMax e lo hi => rw [val_repMinMax, h]

theorem unrollExpr_eqOn (hP : (V c).Keeps P) (e e' : Expr) (h : unrollExpr c.extras e = some e') : EqOn P c m e e' := by
  induction e generalizing e' <;> simp only [unrollExpr, Option.bind_eq_some_iff] at h
  case posPred e ih => obtain ⟨e1, h1, h2⟩ := h; exact (EqOn.posPred (ih _ h1)).trans (unrollF_eqOn h2)
  case negPred e ih => obtain ⟨e1, h1, h2⟩ := h; exact (EqOn.negPred (ih _ h1)).trans (unrollF_eqOn h2)
  case seq a b iha ihb =>
    obtain ⟨a1, h1, b1, h2, h3⟩ := h; exact (EqOn.seq hP (iha _ h1) (ihb _ h2)).trans (unrollF_eqOn h3)
  case choice a b iha ihb =>
    obtain ⟨a1, h1, b1, h2, h3⟩ := h; exact (EqOn.choice (iha _ h1) (ihb _ h2)).trans (unrollF_eqOn h3)
  case opt e ih => obtain ⟨e1, h1, h2⟩ := h; exact (EqOn.opt (ih _ h1)).trans (unrollF_eqOn h2)
  case rep e ih => obtain ⟨e1, h1, h2⟩ := h; exact (EqOn.rep hP (ih _ h1)).trans (unrollF_eqOn h2)
  case repOnce e ih => obtain ⟨e1, h1, h2⟩ := h; exact (EqOn.repOnce hP (ih _ h1)).trans (unrollF_eqOn h2)
  case repExact e n ih => obtain ⟨e1, h1, h2⟩ := h; exact (EqOn.repExact hP (ih _ h1) n).trans (unrollF_eqOn h2)
  case repMin e n ih => obtain ⟨e1, h1, h2⟩ := h; exact (EqOn.repMin hP (ih _ h1) n).trans (unrollF_eqOn h2)
  case repMax e n ih => obtain ⟨e1, h1, h2⟩ := h; exact (EqOn.repMax hP (ih _ h1) n).trans (unrollF_eqOn h2)
  case repMinMax e lo hi ih =>
    obtain ⟨e1, h1, h2⟩ := h; exact (EqOn.repMinMax hP (ih _ h1) lo hi).trans (unrollF_eqOn h2)
  case push e ih => obtain ⟨e1, h1, h2⟩ := h; exact (EqOn.push (ih _ h1)).trans (unrollF_eqOn h2)
  case nodeTag e t ih => obtain ⟨e1, h1, h2⟩ := h; exact (EqOn.nodeTag (ih _ h1) t).trans (unrollF_eqOn h2)
  all_goals exact unrollF_eqOn h

theorem factor_law1 (l r1 r2 : Expr) : EqOn P c m (.choice (.seq l r1) (.seq l r2)) (.seq l (.choice r1 r2)) := by
  intro la s _
  simp only [val_choice, val_seq]
  cases val c m la l s <;> simp only []
  rename_i s1 f1
  cases valK c m la s1 <;> simp only []
  rename_i s2 f2
  cases val c m la r1 s2 <;> simp only []

theorem factor_law2 (hm : m ≠ .nonAtomic) (l1 l2 : Expr) : EqOn P c m (.choice (.seq l1 l2) l1) (.seq l1 (.opt l2)) := by
  intro la s _
  simp only [val_choice, val_seq, val_opt, valK_atomic _ _ _ _ hm]
  cases h1 : val c m la l1 s <;> simp only []
  rename_i s1 f1
  cases val c m la l2 s1 <;> simp

theorem factor_law3 (l r : Expr) : EqOn P c m (.choice l (.seq l r)) l := by
  intro la s _
  simp only [val_choice, val_seq]
  cases h1 : val c m la l s <;> simp only []

theorem factorF_eqOn (ty : RuleType) (hm : ty = .atomic ∨ ty = .compound → m ≠ .nonAtomic) (x : Expr) :
    EqOn P c m x (factorF ty x) := by
  unfold factorF
  split
  · split
    · rename_i h; subst h; exact factor_law1 _ _ _
    · exact EqOn.refl _
  · split
    · rename_i h
      split
      · rename_i h'; subst h'; exact factor_law2 (hm h) _ _
      · exact EqOn.refl _
    · exact EqOn.refl _
  · split
    · rename_i h; subst h; exact factor_law3 _ _
    · exact EqOn.refl _
  · exact EqOn.refl _

end
end PestModel.Ref
