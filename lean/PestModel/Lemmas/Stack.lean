import PestModel.Model.StackSpec
namespace PestModel.Stack

variable {α : Type}

/-- Core list identity behind `clearSnapshot`: merging the child's segment `seg` into the
parent's record yields the same parent copy and the same remaining `popped` tail. -/
theorem clear_core (cache seg rest : List α) (rem plen prem : Nat) (h2 : rem ≤ cache.length)
    (h4 : prem ≤ plen) (h5 : prem ≤ rem + seg.length) :
    ((seg.take (prem - min prem rem) ++ rest).take (plen - min prem rem)).reverse
        ++ cache.drop (cache.length - min prem rem)
      = (rest.take (plen - prem)).reverse
        ++ (seg.reverse ++ cache.drop (cache.length - rem)).drop
            ((seg.reverse ++ cache.drop (cache.length - rem)).length - prem)
    ∧ (seg.take (prem - min prem rem) ++ rest).drop (plen - min prem rem)
      = rest.drop (plen - prem) := by
  have hlen : (seg.reverse ++ cache.drop (cache.length - rem)).length = rem + seg.length := by
    rw [List.length_append, List.length_reverse, List.length_drop, Nat.sub_sub_self h2, Nat.add_comm]
  rw [hlen]
  by_cases hc : prem ≤ rem
  · -- the parent's survivors are all still on the stack: nothing of `seg` is kept
    rw [Nat.min_eq_left hc, Nat.sub_self, List.take_zero, List.nil_append]
    refine ⟨?_, rfl⟩
    congr 1
    rw [Nat.add_comm rem, Nat.add_sub_assoc hc, ← seg.length_reverse, List.drop_length_add_append,
      List.drop_drop, Nat.sub_add_sub_cancel h2 hc]
  · -- the parent's copy also needs the newest `prem - rem` entries of `seg`
    have hc' : rem ≤ prem := Nat.le_of_not_le hc
    obtain ⟨j, rfl⟩ := Nat.exists_eq_add_of_le hc'
    have hj : j ≤ seg.length := Nat.le_of_add_le_add_left h5
    have hl : (seg.take j).length = j := by rw [List.length_take, Nat.min_eq_left hj]
    have e : plen - rem = (seg.take j).length + (plen - (rem + j)) := by
      rw [hl, Nat.sub_add_eq, Nat.add_sub_cancel' (Nat.le_sub_of_add_le' h4)]
    rw [Nat.min_eq_right hc', Nat.add_sub_cancel_left, e, List.take_length_add_append,
      List.drop_length_add_append, Nat.add_sub_add_left]
    refine ⟨?_, rfl⟩
    rw [List.drop_append_of_le_length (by rw [List.length_reverse]; exact Nat.sub_le _ _),
      List.drop_reverse, Nat.sub_sub_self hj, List.reverse_append, List.append_assoc]

theorem pop_eq (s : Stk α) : ∃ s', pop s = some (s', s.cache.head?) ∧ s'.cache = s.cache.tail := by
  obtain ⟨cache, popped, lengths⟩ := s
  unfold pop
  cases cache with
  | nil => exact ⟨_, rfl, rfl⟩
  | cons x c =>
    cases lengths with
    | nil => exact ⟨_, rfl, rfl⟩
    | cons l ls => simp only []; split <;> exact ⟨_, rfl, rfl⟩

/-- Growing the current stack keeps the snapshot invariant. -/
theorem StkInvL_push (n p : Nat) (ls : List (Nat × Nat)) (h : StkInvL n p ls) :
    StkInvL (n + 1) p ls := by
  cases ls with
  | nil => exact h
  | cons lr ls =>
    obtain ⟨len, rem⟩ := lr; simp only [StkInvL] at h ⊢
    exact ⟨h.1, Nat.le_succ_of_le h.2.1, h.2.2.1, h.2.2.2⟩

theorem absSaved_cons (x : α) (cur popped : List α) (len rem : Nat) (ls : List (Nat × Nat))
    (h : rem ≤ cur.length) :
    absSaved (x :: cur) popped ((len, rem) :: ls) = absSaved cur popped ((len, rem) :: ls) := by
  have e : (x :: cur).length - rem = (cur.length - rem) + 1 := Nat.sub_add_comm h
  simp only [absSaved, e, List.drop_succ_cons]

/-- `restore` with a snapshot: the two branches of the Rust code (`rem < len` or not, `rem` below
the current length or not) compute the same closed form. -/
theorem restore_cons (cache popped : List α) (len rem : Nat) (ls : List (Nat × Nat))
    (h : len - rem ≤ popped.length) :
    restore ⟨cache, popped, (len, rem) :: ls⟩ =
      some ⟨(popped.take (len - rem)).reverse ++ cache.drop (cache.length - rem),
        popped.drop (len - rem), ls⟩ := by
  have ec : (if rem < cache.length then cache.drop (cache.length - rem) else cache)
      = cache.drop (cache.length - rem) := by
    split
    · rfl
    · rw [show cache.length - rem = 0 by omega]; rfl
  simp only [restore, ec]
  split
  · rw [if_neg (by omega)]
  · rw [show len - rem = 0 by omega]; rfl

/-- What the child keeps for its parent (`parent_popped`) is within the child's own segment. -/
theorem sub_min_le {prem rem len : Nat} (h : prem ≤ len) : prem - min prem rem ≤ len - rem := by
  rcases Nat.le_total prem rem with hc | hc
  · rw [Nat.min_eq_left hc, Nat.sub_self]; exact Nat.zero_le _
  · rw [Nat.min_eq_right hc]; exact Nat.sub_le_sub_right h rem

theorem clearSnapshot_one (cache popped : List α) (len rem : Nat)
    (h1 : rem ≤ len) (h2 : len - rem ≤ popped.length) :
    clearSnapshot ⟨cache, popped, [(len, rem)]⟩ = some ⟨cache, popped.drop (len - rem), []⟩ := by
  simp only [clearSnapshot]; rw [if_neg (Nat.not_lt.2 h1), if_neg (Nat.not_lt.2 h2)]

theorem clearSnapshot_two (cache popped : List α) (len rem plen prem : Nat) (ls : List (Nat × Nat))
    (h1 : rem ≤ len) (h2 : len - rem ≤ popped.length) (h3 : prem ≤ len) :
    clearSnapshot ⟨cache, popped, (len, rem) :: (plen, prem) :: ls⟩ =
      some ⟨cache, (popped.take (len - rem)).take (prem - min prem rem) ++ popped.drop (len - rem),
        (plen, min prem rem) :: ls⟩ := by
  simp only [clearSnapshot]
  rw [if_neg (Nat.not_lt.2 h1), if_neg (Nat.not_lt.2 h2), if_neg (Nat.not_lt.2 (sub_min_le h3))]


/-- A pop that goes below the snapshot line (`rem` = length before the pop) is recorded in `popped`
and the survivor count drops: the copy the snapshot stands for is unchanged. -/
theorem absSaved_record (x : α) (c popped : List α) (len : Nat) (ls : List (Nat × Nat))
    (h : c.length + 1 ≤ len) :
    absSaved (x :: c) popped ((len, c.length + 1) :: ls)
      = absSaved c (x :: popped) ((len, c.length) :: ls) := by
  have e : len - c.length = (len - (c.length + 1)) + 1 := by
    rw [Nat.sub_add_eq, Nat.sub_add_cancel (Nat.le_sub_of_add_le' h)]
  simp [absSaved, e]

/-- The arithmetic of `clearSnapshot` with a parent: the child's record is merged into the parent's. -/
theorem StkInvL_merge (n p len rem plen prem : Nat) (ls : List (Nat × Nat))
    (h : StkInvL n p ((len, rem) :: (plen, prem) :: ls)) :
    StkInvL n (prem - min prem rem + (p - (len - rem))) ((plen, min prem rem) :: ls) := by
  obtain ⟨-, h2, -, g1, -, g3, g4⟩ := h
  have hm1 := Nat.min_le_left prem rem
  have hm2 := Nat.min_le_right prem rem
  generalize min prem rem = m at hm1 hm2 ⊢
  generalize p - (len - rem) = P at g3 g4 ⊢
  obtain ⟨c, rfl⟩ := Nat.exists_eq_add_of_le hm1
  obtain ⟨d, rfl⟩ := Nat.exists_eq_add_of_le g1
  simp only [StkInvL, Nat.add_assoc, Nat.add_sub_cancel_left, Nat.add_sub_add_left] at g3 g4 ⊢
  exact ⟨Nat.le_add_right _ _, Nat.le_trans hm2 h2, Nat.add_le_add_left g3 c, g4⟩

/-- Every operation, on a state satisfying the invariant: it does not panic, the invariant holds
afterwards, and through `abs` it is the step of the naive model. -/
theorem step_spec (s : Stk α) (op : Op α) (h : StkInv s) :
    ∃ s' o, step s op = some (s', o) ∧ StkInv s' ∧ Naive.step (abs s) op = (abs s', o) := by
  obtain ⟨cache, popped, lengths⟩ := s
  replace h : StkInvL cache.length popped.length lengths := h
  cases op with
  | peek => exact ⟨_, _, rfl, h, rfl⟩
  | push x =>
    refine ⟨_, _, rfl, StkInvL_push _ _ _ h, ?_⟩
    cases lengths with
    | nil => rfl
    | cons lr ls => exact congrArg (fun sv => (Naive.mk (x :: cache) sv, Out.unit)) (absSaved_cons x cache popped lr.1 lr.2 ls h.2.1).symm
  | snapshot =>
    refine ⟨_, _, rfl, ⟨Nat.le_refl _, Nat.le_refl _, by rw [Nat.sub_self]; exact Nat.zero_le _,
      by rw [Nat.sub_self]; exact h⟩, ?_⟩
    simp [Naive.step, abs, absSaved]
  | pop =>
    cases cache with
    | nil => exact ⟨_, _, rfl, h, rfl⟩
    | cons x c =>
      cases lengths with
      | nil => exact ⟨_, _, rfl, h, rfl⟩
      | cons lr ls =>
        obtain ⟨len, rem⟩ := lr
        obtain ⟨h1, h2, h3, h4⟩ := h
        simp only [List.length_cons] at h2
        by_cases hr : c.length + 1 = rem
        · -- the pop goes below the snapshot line: it is recorded
          subst hr
          obtain ⟨d, rfl⟩ := Nat.exists_eq_add_of_le h1
          rw [Nat.add_sub_cancel_left] at h3 h4
          have e : c.length + 1 + d - c.length = d + 1 := by
            rw [Nat.add_assoc, Nat.add_sub_cancel_left, Nat.add_comm]
          refine ⟨⟨c, x :: popped, (c.length + 1 + d, c.length) :: ls⟩, .val (some x), ?_,
            (show StkInvL c.length (popped.length + 1) ((c.length + 1 + d, c.length) :: ls) from
              ⟨Nat.le_trans (Nat.le_succ _) h1, Nat.le_refl _, by rw [e]; exact Nat.succ_le_succ h3,
                by rw [e, Nat.add_sub_add_right]; exact h4⟩), ?_⟩
          · simp only [step, pop, if_true, Option.map_some, Nat.add_sub_cancel]
          · exact congrArg (fun sv => (Naive.mk c sv, Out.val (some x)))
              (absSaved_record x c popped _ ls h1)
        · have h2' : rem ≤ c.length := Nat.le_of_lt_succ (Nat.lt_of_le_of_ne h2 (Ne.symm hr))
          refine ⟨⟨c, popped, (len, rem) :: ls⟩, .val (some x), ?_,
            (show StkInvL c.length popped.length ((len, rem) :: ls) from ⟨h1, h2', h3, h4⟩), ?_⟩
          · simp only [step, pop, if_neg hr, Option.map_some]
          · exact congrArg (fun sv => (Naive.mk c sv, Out.val (some x)))
              (absSaved_cons x c popped len rem ls h2')
  | clearSnapshot =>
    cases lengths with
    | nil => exact ⟨_, _, rfl, h, rfl⟩
    | cons lr ls =>
      obtain ⟨len, rem⟩ := lr
      obtain ⟨h1, h2, h3, h4⟩ := h
      cases ls with
      | nil =>
        refine ⟨⟨cache, popped.drop (len - rem), []⟩, .unit, ?_, ?_, ?_⟩
        · simp only [step, clearSnapshot_one _ _ _ _ h1 h3, Option.map_some]
        · show (popped.drop (len - rem)).length = 0
          rw [List.length_drop]; exact h4
        · rfl
      | cons pr ls' =>
        obtain ⟨plen, prem⟩ := pr
        obtain ⟨g1, g2, g3, g4⟩ := h4
        have hk : (popped.take (len - rem)).length = len - rem := by
          rw [List.length_take, Nat.min_eq_left h3]
        refine ⟨⟨cache, (popped.take (len - rem)).take (prem - min prem rem) ++ popped.drop (len - rem),
          (plen, min prem rem) :: ls'⟩, .unit, ?_, ?_, ?_⟩
        · simp only [step, clearSnapshot_two _ _ _ _ _ _ _ h1 h3 g2, Option.map_some]
        · have hl : ((popped.take (len - rem)).take (prem - min prem rem) ++ popped.drop (len - rem)).length
              = prem - min prem rem + (popped.length - (len - rem)) := by
            rw [List.length_append, List.length_take, hk, List.length_drop, Nat.min_eq_left]
            exact sub_min_le g2
          show StkInvL cache.length _ ((plen, min prem rem) :: ls')
          rw [hl]
          exact StkInvL_merge _ _ _ _ _ _ _ ⟨h1, h2, h3, g1, g2, g3, g4⟩
        · obtain ⟨c1, c2⟩ := clear_core cache (popped.take (len - rem)) (popped.drop (len - rem))
            rem plen prem h2 g1 (by rw [hk, Nat.add_sub_cancel' h1]; exact g2)
          simp only [Naive.step, abs, absSaved, List.tail_cons, c1, c2]
  | restore =>
    cases lengths with
    | nil => exact ⟨_, _, rfl, h, rfl⟩
    | cons lr ls =>
      obtain ⟨len, rem⟩ := lr
      obtain ⟨h1, h2, h3, h4⟩ := h
      refine ⟨⟨(popped.take (len - rem)).reverse ++ cache.drop (cache.length - rem),
        popped.drop (len - rem), ls⟩, .unit, ?_, ?_, ?_⟩
      · simp only [step, restore_cons _ _ _ _ _ h3, Option.map_some]
      · have e : ((popped.take (len - rem)).reverse ++ cache.drop (cache.length - rem)).length = len := by
          rw [List.length_append, List.length_reverse, List.length_take, List.length_drop,
            Nat.min_eq_left h3, Nat.sub_sub_self h2, Nat.sub_add_cancel h1]
        show StkInvL _ _ _
        rw [e, List.length_drop]; exact h4
      · rfl
end PestModel.Stack
