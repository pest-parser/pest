import PestModel.Lemmas.ViewsBuild
import PestModel.Lemmas.ViewsJson
/-! Helper lemmas for C04 (umbrella file). -/
