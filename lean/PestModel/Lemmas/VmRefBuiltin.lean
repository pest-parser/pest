import PestModel.Lemmas.VmRefEnv
import PestModel.Lemmas.VmRefStk
/-! C01: the hard-wired built-in rules. -/
namespace PestModel.VmRef
open PestModel.G PestModel.PS PestModel.Lower PestModel.Ref PestModel.Views PestModel.Track
open PestModel.RefTrace (LA R Call callT)
open PestModel.LineCol (Str isBoundary bLen cLen splitAt? slice?)

variable {env : Env} {extras memchr : Bool} {input : Str}

theorem altD_oneChar (c : Ctx) (p q : Char → Bool) (σ : St) :
    altD (fun σ => oneChar c σ p) (fun σ => oneChar c σ q) σ = oneChar c σ (fun ch => p ch || q ch) := by
  unfold altD oneChar
  dsimp only
  cases restAt c.input σ.pos with
  | none => rfl
  | some rest =>
    cases rest with
    | nil => rfl
    | cons ch cs =>
      dsimp only
      by_cases hp : p ch = true <;> by_cases hq : q ch = true <;> simp [hp, hq]

/-- `or_else` of two programs whose references make no calls. -/
theorem spec_orElse_leaf {cfg : Cfg} {n p q m la} {D1 D2 D : St → Res} (hc : GenVm.ErrSpecN cfg n p False)
    (h1 : SpecT cfg input n p m la D1 (leafT D1))
    (h2 : SpecT cfg input n q m la D2 (leafT D2)) (e : ∀ σ, altD D1 D2 σ = D σ) :
    SpecT cfg input n (.orElse p q) m la D (leafT D) := by
  have : altD D1 D2 = D := funext e
  subst this
  refine (spec_orElse hc h1 h2).monoT ?_
  rintro σ r cs (⟨σ1, rfl, h, rfl⟩ | ⟨c1, c2, ⟨h1, rfl⟩, ⟨rfl, rfl⟩, rfl⟩) <;> refine ⟨?_, rfl⟩ <;> unfold altD
  · cases hd : D1 σ <;> rw [hd] at h <;> first | exact h | cases h
  · cases hd : D1 σ <;> rw [hd] at h1 <;> first | rfl | cases h1

theorem spec_rng {n m la} (a b : Char) :
    SpecT (mkCfg env memchr) input n (rng a b) m la
      (fun σ => oneChar (mkCtx env extras input) σ (fun ch => a ≤ ch ∧ ch ≤ b))
      (leafT fun σ => oneChar (mkCtx env extras input) σ (fun ch => a ≤ ch ∧ ch ≤ b)) :=
  (spec_matchRange (c := mkCtx env extras input) a b).liftS

theorem spec_rng2 {n m la} (a b a' b' : Char) :
    SpecT (mkCfg env memchr) input n (.orElse (rng a b) (rng a' b')) m la
      (fun σ => oneChar (mkCtx env extras input) σ (fun ch => (a ≤ ch ∧ ch ≤ b) ∨ (a' ≤ ch ∧ ch ≤ b')))
      (leafT fun σ => oneChar (mkCtx env extras input) σ
        (fun ch => (a ≤ ch ∧ ch ≤ b) ∨ (a' ≤ ch ∧ ch ≤ b'))) := by
  refine spec_orElse_leaf (GenVm.es_matchRange _ _ _) (spec_rng (extras := extras) a b) (spec_rng (extras := extras) a' b') fun σ => ?_
  rw [altD_oneChar]
  congr 1
  funext ch
  simp [Bool.decide_or]

theorem spec_rng3 {n m la} (a b a' b' a'' b'' : Char) :
    SpecT (mkCfg env memchr) input n (.orElse (.orElse (rng a b) (rng a' b')) (rng a'' b'')) m la
      (fun σ => oneChar (mkCtx env extras input) σ
        (fun ch => (a ≤ ch ∧ ch ≤ b) ∨ (a' ≤ ch ∧ ch ≤ b') ∨ (a'' ≤ ch ∧ ch ≤ b'')))
      (leafT fun σ => oneChar (mkCtx env extras input) σ
        (fun ch => (a ≤ ch ∧ ch ≤ b) ∨ (a' ≤ ch ∧ ch ≤ b') ∨ (a'' ≤ ch ∧ ch ≤ b''))) := by
  refine spec_orElse_leaf ((GenVm.es_orElse (GenVm.es_matchRange _ _ _) (GenVm.es_matchRange _ _ _)).weaken fun h => h.elim id id)
    (spec_rng2 (extras := extras) a b a' b') (spec_rng (extras := extras) a'' b'') fun σ => ?_
  rw [altD_oneChar]
  congr 1
  funext ch
  simp [Bool.decide_or, Bool.or_assoc]

theorem spec_newline {n m la} :
    SpecT (mkCfg env memchr) input n
      (.orElse (.orElse (.matchString ['\n']) (.matchString ['\r', '\n'])) (.matchString ['\r'])) m la
      (fun σ => match lit (mkCtx env extras input) σ ['\n'] with
        | .fail => (match lit (mkCtx env extras input) σ ['\r', '\n'] with
          | .fail => lit (mkCtx env extras input) σ ['\r'] | r => r)
        | r => r)
      (leafT fun σ => match lit (mkCtx env extras input) σ ['\n'] with
        | .fail => (match lit (mkCtx env extras input) σ ['\r', '\n'] with
          | .fail => lit (mkCtx env extras input) σ ['\r'] | r => r)
        | r => r) := by
  refine spec_orElse_leaf ((GenVm.es_orElse (GenVm.es_matchString _ _) (GenVm.es_matchString _ _)).weaken fun h => h.elim id id)
    (spec_orElse_leaf (GenVm.es_matchString _ _) (spec_matchString (c := mkCtx env extras input) ['\n']).liftS
      (spec_matchString (c := mkCtx env extras input) ['\r', '\n']).liftS fun _ => rfl)
    (spec_matchString (c := mkCtx env extras input) ['\r']).liftS fun σ => ?_
  unfold altD
  dsimp only
  cases h1 : lit (mkCtx env extras input) σ ['\n'] <;> dsimp only
  cases h2 : lit (mkCtx env extras input) σ ['\r', '\n'] <;> rfl

theorem callT_eoi (m : Atomicity) (la : LA) (σ : St)
    (hr : (mkCtx env extras input).rule? "EOI" = none) :
    callT (mkCtx env extras input) 1 m la "EOI" σ =
      ((if σ.pos = bLen input then .ok σ else .fail),
        [.node env.rules.length σ.pos (decide (σ.pos = bLen input)) (decide (la = .neg))
          (decide (m ≠ .atomic)) []]) := by
  have hl : (mkCtx env extras input).rules.length = env.rules.length := by
    simp [mkCtx, ofOptimizedRules]
  rw [← hl, callT, hr]
  rfl

/-- `EOI` is the one built-in that is recorded as a rule call. -/
theorem spec_eoi {n m} {la : LA} (hr : (mkCtx env extras input).rule? "EOI" = none) :
    SpecT (mkCfg env memchr) input n (.rule env.rules.length .endOfInput) m la
      (fun σ => if σ.pos = bLen (mkCtx env extras input).input then
          .ok σ (if emitsFor .normal m la.b then
            [.node (mkCtx env extras input).rules.length σ.pos σ.pos none []] else [])
        else .fail)
      (fun σ r cs => callT (mkCtx env extras input) 1 m la "EOI" σ = (r, cs)) := by
  refine ((spec_rule env.rules.length (spec_endOfInput (c := mkCtx env extras input)).liftS).congr fun σ => ?_).monoT ?_
  · have hl : (mkCtx env extras input).rules.length = env.rules.length := by
      simp [mkCtx, ofOptimizedRules]
    rw [hl]
    unfold ruleD emitsFor
    dsimp only
    by_cases hc : σ.pos = bLen (mkCtx env extras input).input
    · simp only [if_pos hc]
      split <;> rfl
    · simp only [if_neg hc]
  · rintro σ res cs ⟨kids, ⟨rfl, rfl⟩, rfl⟩
    rw [callT_eoi m la σ hr]
    have e : (mkCtx env extras input).input = input := rfl
    rw [e]
    dsimp only
    by_cases hp : σ.pos = bLen input
    · rw [if_pos hp, if_pos hp, decide_eq_true hp]; rfl
    · rw [if_neg hp, if_neg hp, decide_eq_false hp]; rfl

theorem spec_builtin_ne {n m} {la : LA} (hsize : env.rules.length ≤ 333333333) (name : String)
    (hr : (mkCtx env extras input).rule? name = none) (hn : name ≠ "EOI") :
    SpecT (mkCfg env memchr) input n (Lower.builtin env name) m la
      (fun σ => Ref.builtin (mkCtx env extras input) m la.b name σ)
      (leafT fun σ => Ref.builtin (mkCtx env extras input) m la.b name σ) := fun st σ hs =>
  Lower.builtin_rows env (mkCtx env extras input) rfl m la la.b name σ hr
    (M := fun p r _ => OutSpecT (run (mkCfg env memchr) n p st) st r (fun r' cs => r' = eraseR r ∧ cs = []))
    (any := (spec_skip1 (c := mkCtx env extras input)).liftS trivial st σ hs)
    (soi := (spec_startOfInput (c := mkCtx env extras input)).liftS trivial st σ hs)
    (eoi := fun h => absurd h hn)
    (peek := (spec_stackPeek (c := mkCtx env extras input)).lift frame_stackPeek st σ hs)
    (pop := fun _ => (spec_stackPop (c := mkCtx env extras input)).lift frame_stackPop st σ hs)
    (peekAll := (spec_stackMatchPeek (c := mkCtx env extras input)).liftS trivial st σ hs)
    (popAll := fun _ => (spec_stackMatchPop (c := mkCtx env extras input)).liftS trivial st σ hs)
    (drop := (spec_stackDrop (c := mkCtx env extras input)).liftS trivial st σ hs)
    (r1 := fun a z => spec_rng (extras := extras) a z st σ hs)
    (r2 := fun a z a' z' => spec_rng2 (extras := extras) a z a' z' st σ hs)
    (r3 := fun a z a' z' a'' z'' => spec_rng3 (extras := extras) a z a' z' a'' z'' st σ hs)
    (nl := spec_newline (extras := extras) st σ hs)
    (uni := fun cs => (spec_matchCharBy (c := mkCtx env extras input) cs).liftS trivial st σ hs)
    (undef := spec_call_none (D := fun _ => .stuck) (T := leafT fun _ => .stuck) (undefined_none hsize) (fun _ => rfl)
      st σ hs)

/-- a name that is no rule of the grammar: the lowered built-in against the reference's table and the
instrumented table `callT c 1`. -/
theorem spec_builtin {n m} {la : LA} (hsize : env.rules.length ≤ 333333333) (name : String)
    (hr : (mkCtx env extras input).rule? name = none) :
    SpecT (mkCfg env memchr) input n (Lower.builtin env name) m la
      (fun σ => Ref.builtin (mkCtx env extras input) m la.b name σ)
      (fun σ r cs => callT (mkCtx env extras input) 1 m la name σ = (r, cs)) := by
  by_cases hn : name = "EOI"
  · subst hn
    exact spec_eoi (extras := extras) hr
  · refine (spec_builtin_ne (extras := extras) hsize name hr hn).monoT ?_
    rintro σ r cs ⟨rfl, rfl⟩
    exact builtin_erase _ m la la.b name σ hr hn

end PestModel.VmRef
