import PestModel.Lemmas.VmRefPrim
/-! C01: the stack primitives (`PEEK`, `POP`, `PEEK_ALL`, `POP_ALL`, `DROP`, `PEEK[a..b]`). -/
namespace PestModel.VmRef
open PestModel.G PestModel.PS PestModel.Lower PestModel.Ref PestModel.Views
open PestModel.LineCol (Str isBoundary bLen cLen splitAt? slice?)
open PestModel.Stack (StkInv Stk)

variable {cfg : Cfg} {c : Ctx}

theorem matchAll_matchStrs (input : Str) (xs : List Str) : ∀ (pos : Nat) (rest : Str),
    restAt input pos = some rest →
    match matchStrs input xs pos with
    | some p => matchAll input xs pos = some (true, p)
    | none => ∃ p', matchAll input xs pos = some (false, p') := by
  induction xs with
  | nil => intro pos rest _; simp [matchStrs, matchAll]
  | cons x xs ih =>
    intro pos rest h
    unfold matchStrs matchAll
    rw [posMatchString_eq x h, h]
    dsimp only
    by_cases hp : x.isPrefixOf rest = true
    · rw [if_pos hp, if_pos hp]
      dsimp only
      obtain ⟨t, ht⟩ := List.isPrefixOf_iff_prefix.1 hp
      exact ih _ t (restAt_advance h ht.symm)
    · rw [if_neg hp, if_neg hp]
      exact ⟨pos, rfl⟩

/-- matching a list of strings in order (`PEEK_ALL`, `PEEK[a..b]`). -/
theorem outSpec_matchAll {m la} {st : PState} {σ : St} (hs : Sim c.input m la st σ) (xs : List Str) :
    OutSpec
      (match matchAll st.input xs st.pos with
        | none => .panic
        | some (true, pos') => .ok { st with pos := pos' }
        | some (false, _) => .err st) st
      (match matchStrs c.input xs σ.pos with
        | some p => .ok { σ with pos := p } []
        | none => .fail) := by
  obtain ⟨rest, -, h2⟩ := hs.restAt
  have := matchAll_matchStrs c.input xs σ.pos rest h2
  rw [hs.inp, hs.pos]
  cases hm : matchStrs c.input xs σ.pos with
  | some p =>
    rw [hm] at this; rw [this]
    exact .ok_nil rfl hs.stk rfl
  | none =>
    rw [hm] at this; obtain ⟨p', hp'⟩ := this; rw [hp']
    exact rfl

theorem Sim.notLimit {m la} {st : PState} {σ : St} (hs : Sim c.input m la st σ) :
    reachedCallLimit st = false := by
  unfold reachedCallLimit; rw [hs.calls]

theorem spec_stackPeek {n m la} :
    Spec cfg c.input n .stackPeek m la
      (fun σ => match σ.stack with | [] => .stuck | top :: _ => lit c σ top) :=
  Spec.of_succ fun k _ st σ hs => by
    rw [run, hs.notLimit]
    simp only [Bool.false_eq_true, if_false]
    rw [hs.stk]
    cases hst : σ.stack with
    | nil => rfl
    | cons top tl => exact outSpec_matchString hs top _

theorem spec_stackPop {n m la} :
    Spec cfg c.input n .stackPop m la
      (fun σ => match σ.stack with
        | [] => .stuck
        | top :: rest =>
          match lit c σ top with
          | .ok s1 f => .ok { s1 with stack := rest } f
          | r => r) :=
  Spec.of_succ fun k _ st σ hs => by
    rw [run, hs.notLimit]
    simp only [Bool.false_eq_true, if_false]
    obtain ⟨stk', hp, hc⟩ := Stack.pop_eq st.stack
    rw [hp, hs.stk] at *
    cases hst : σ.stack with
    | nil => rfl
    | cons top tl =>
      rw [hst] at hc
      dsimp only [List.head?]
      obtain ⟨rest, h1, h2⟩ := hs.restAt
      rw [hs.inp, posMatchString_eq top h1, lit_eq h2]
      by_cases hb : top.isPrefixOf rest = true
      · obtain ⟨pa', he, -⟩ := terminal_some { st with input := c.input, stack := stk' } true (st.pos + bLen top) (some (.sens top))
        rw [if_pos hb, if_pos hb, he, if_pos rfl]
        exact .ok_nil (by show st.pos + bLen top = σ.pos + bLen top; rw [hs.pos]) hc rfl
      · obtain ⟨pa', he, -⟩ := terminal_some { st with input := c.input, stack := stk' } false st.pos (some (.sens top))
        rw [if_neg hb, if_neg hb, he, if_neg (by simp)]
        exact rfl

theorem spec_stackMatchPeek {n m la} :
    Spec cfg c.input n .stackMatchPeek m la
      (fun σ => match matchStrs c.input σ.stack σ.pos with
        | some p => .ok { σ with pos := p } []
        | none => .fail) :=
  Spec.of_succ fun k _ st σ hs => by
    rw [run]
    split
    · rename_i he
      have : σ.stack = [] := by rw [← hs.stk]; simpa using he
      rw [show matchStrs c.input σ.stack σ.pos = some σ.pos by rw [this]; rfl]
      exact .ok_nil hs.pos hs.stk rfl
    · rw [hs.stk]; exact outSpec_matchAll hs σ.stack

theorem matchPopLoop_matchStrs (input : Str) : ∀ (n : Nat) (stk : Stk Str) (pos : Nat) (rest : Str),
    StkInv stk → stk.cache.length < n → restAt input pos = some rest →
    match matchStrs input stk.cache pos with
    | some p => ∃ stk', matchPopLoop input n stk pos = some (stk', true, p) ∧ stk'.cache = []
    | none => ∃ stk' p', matchPopLoop input n stk pos = some (stk', false, p')
  | 0, _, _, _, _, hl, _ => by omega
  | n + 1, stk, pos, rest, hinv, hl, hr => by
    obtain ⟨st', hp, hc⟩ := Stack.pop_eq stk
    have hinv' := (pop_spec _ _ _ hinv hp).1
    unfold matchPopLoop
    rw [hp]
    cases hst : stk.cache with
    | nil =>
      rw [hst] at hc
      exact ⟨st', rfl, hc⟩
    | cons x xs =>
      rw [hst] at hc hl
      dsimp only [List.head?]
      unfold matchStrs
      rw [posMatchString_eq x hr, hr]
      dsimp only
      by_cases hb : x.isPrefixOf rest = true
      · rw [if_pos hb, if_pos hb]
        dsimp only
        obtain ⟨t, ht⟩ := List.isPrefixOf_iff_prefix.1 hb
        have := matchPopLoop_matchStrs input n st' (pos + bLen x) t hinv'
          (by rw [hc]; exact Nat.lt_of_succ_lt_succ hl) (restAt_advance hr ht.symm)
        rw [hc] at this
        exact this
      · rw [if_neg hb, if_neg hb]
        exact ⟨st', pos, rfl⟩

theorem spec_stackMatchPop {n m la} :
    Spec cfg c.input n .stackMatchPop m la
      (fun σ => match matchStrs c.input σ.stack σ.pos with
        | some p => .ok { pos := p, stack := [] } []
        | none => .fail) :=
  Spec.of_succ fun k _ st σ hs => by
    rw [run]
    obtain ⟨rest, h1, h2⟩ := hs.restAt
    have := matchPopLoop_matchStrs c.input (st.stack.cache.length + 1) st.stack st.pos rest hs.inv
      (by omega) h1
    rw [hs.inp]
    have e : matchStrs c.input st.stack.cache st.pos = matchStrs c.input σ.stack σ.pos := by
      rw [hs.stk, hs.pos]
    rw [e] at this
    cases hm : matchStrs c.input σ.stack σ.pos with
    | some p =>
      rw [hm] at this; obtain ⟨stk', h, hc⟩ := this
      rw [h]
      exact .ok_nil rfl hc rfl
    | none =>
      rw [hm] at this; obtain ⟨stk', p', h⟩ := this
      rw [h]
      exact rfl

theorem spec_stackDrop {n m la} :
    Spec cfg c.input n .stackDrop m la
      (fun σ => match σ.stack with
        | [] => .fail
        | _ :: rest => .ok { σ with stack := rest } []) :=
  Spec.of_succ fun k _ st σ hs => by
    rw [run]
    obtain ⟨stk', hp, hc⟩ := Stack.pop_eq st.stack
    rw [hp, hs.stk] at *
    cases hst : σ.stack with
    | nil => exact rfl
    | cons top tl =>
      rw [hst] at hc
      exact .ok_nil hs.pos hc rfl

theorem spec_peekSlice {n m la} (a : Int) (b : Option Int) :
    Spec cfg c.input n (.stackMatchPeekSlice a b .bottomToTop) m la
      (fun σ =>
        match normalizeIndex a σ.stack.length,
          (match b with | some e => normalizeIndex e σ.stack.length | none => some σ.stack.length) with
        | some i, some j =>
          if j ≤ i then .ok σ [] else
          match matchStrs c.input ((σ.stack.reverse.drop i).take (j - i)) σ.pos with
          | some p => .ok { σ with pos := p } []
          | none => .fail
        | _, _ => .fail) :=
  Spec.of_succ fun k _ st σ hs => by
    rw [run]
    unfold constrainIdxs
    rw [hs.stk]
    cases hi : normalizeIndex a σ.stack.length with
    | none => exact rfl
    | some i =>
      dsimp only
      have key : ∀ j, OutSpec
          (if j ≤ i then Out.ok st else
            match matchAll st.input ((σ.stack.reverse.drop i).take (j - i)) st.pos with
            | none => .panic
            | some (true, pos') => .ok { st with pos := pos' }
            | some (false, _) => .err st) st
          (if j ≤ i then .ok σ [] else
            match matchStrs c.input ((σ.stack.reverse.drop i).take (j - i)) σ.pos with
            | some p => .ok { σ with pos := p } []
            | none => .fail) := by
        intro j
        by_cases hji : j ≤ i
        · rw [if_pos hji, if_pos hji]
          exact .ok_nil hs.pos hs.stk rfl
        · rw [if_neg hji, if_neg hji]
          exact outSpec_matchAll hs _
      cases b with
      | none => exact key _
      | some e =>
        dsimp only
        cases hj : normalizeIndex e σ.stack.length with
        | none => exact rfl
        | some j => exact key j

end PestModel.VmRef
