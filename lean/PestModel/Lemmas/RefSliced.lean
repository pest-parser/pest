import PestModel.Lemmas.RefHoare
/-!
Generic (any grammar): **every pair of a successful parse spans a slice of the input** — an instance of the Hoare rule of
`RefHoare` with the same postcondition for every rule.
-/
namespace PestModel.Ref
open PestModel.G
open PestModel.LineCol (Str bLen slice?)
open PestModel.Views (Tree)
open PestModel.PS (Atomicity CharSet)

mutual
  /-- the span of the pair and of every pair below it is a slice of `text`. -/
  def treeSliced (text : Str) : Tree → Prop
    | .node _ a b _ cs => (slice? text a b).isSome = true ∧ slicedList text cs
  def slicedList (text : Str) : List Tree → Prop
    | [] => True
    | t :: ts => treeSliced text t ∧ slicedList text ts
end

theorem slicedList_append (text : Str) : ∀ (a b : List Tree), slicedList text (a ++ b) ↔ slicedList text a ∧ slicedList text b
  | [], b => by simp [slicedList]
  | t :: a, b => by simp [slicedList, slicedList_append text a b, and_assoc]

def slicedPost (text : Str) : Post := fun _ _ _ _ _ F => slicedList text F

theorem starW_sliced {text : Str} {R : Nat → Str → List Tree → Prop} (hR : ∀ a w f, R a w f → slicedList text f)
    {a : Nat} {w : Str} {F : List Tree} (h : StarW R a w F) : slicedList text F := by
  induction h with
  | nil => trivial
  | cons hr _ ih => exact (slicedList_append text _ _).2 ⟨hR _ _ _ hr, ih⟩

theorem skW_sliced {text : Str} {m : Atomicity} {la : Bool} {a : Nat} {w : Str} {F : List Tree}
    (h : SkW (slicedPost text) m la a w F) : slicedList text F := by
  unfold SkW at h
  split at h
  · exact starW_sliced (fun _ _ _ hr => by rcases hr with hr | hr <;> exact hr) h
  · rw [h.2]; trivial

theorem slicedList_setLastTag (text : Str) (f : List Tree) (t : Str) (h : slicedList text f) : slicedList text (setLastTag f t) := by
  unfold setLastTag
  split
  · rename_i r a b tg ks hl
    have hne : f ≠ [] := by intro e; rw [e] at hl; simp at hl
    have hf : f = f.dropLast ++ [.node r a b tg ks] := by
      have h1 := List.dropLast_concat_getLast hne
      have h2 : f.getLast hne = .node r a b tg ks := by
        have := List.getLast?_eq_some_getLast hne
        rw [this] at hl
        exact Option.some.inj hl
      rw [h2] at h1
      exact h1.symm
    rw [hf] at h
    have := (slicedList_append text _ _).1 h
    refine (slicedList_append text _ _).2 ⟨this.1, ?_⟩
    simpa [slicedList, treeSliced] using this.2
  · exact h

theorem okW_sliced {text : Str} {m : Atomicity} {la : Bool} : ∀ (e : Expr) (a : Nat) (w : Str) (F : List Tree),
    OkW (slicedPost text) m la e a w F → slicedList text F
  | .str _, _, _, _, h | .insens _, _, _, _, h | .posPred _, _, _, _, h | .negPred _, _, _, _, h
  | .pushLiteral _, _, _, _, h => by rw [h.2]; trivial
  | .peekSlice _ _, _, _, _, h | .skip _, _, _, _, h => by rw [h]; trivial
  | .range _ _, _, _, _, h => by obtain ⟨_, _, _, _, h⟩ := h; rw [h]; trivial
  | .ident _, _, _, _, h => h
  | .seq x y, a, w, F, h => by
    obtain ⟨w1, f1, w2, f2, w3, f3, h1, h2, h3, _, rfl⟩ := h
    exact (slicedList_append text _ _).2 ⟨(slicedList_append text _ _).2 ⟨okW_sliced x _ _ _ h1, skW_sliced h2⟩, okW_sliced y _ _ _ h3⟩
  | .choice x y, a, w, F, h => by
    rcases h with h | h
    · exact okW_sliced x _ _ _ h
    · exact okW_sliced y _ _ _ h
  | .opt e, a, w, F, h => by
    rcases h with h | h
    · exact okW_sliced e _ _ _ h
    · rw [h.2]; trivial
  | .push e, a, w, F, h => okW_sliced e _ _ _ h
  | .nodeTag e t, a, w, F, h => by
    obtain ⟨f, hf, hF⟩ := h
    have := okW_sliced e _ _ _ hf
    rcases hF with rfl | rfl
    · exact this
    · exact slicedList_setLastTag text f t this
  | .rep e, a, w, F, h | .repOnce e, a, w, F, h | .repExact e _, a, w, F, h | .repMin e _, a, w, F, h
  | .repMax e _, a, w, F, h | .repMinMax e _ _, a, w, F, h => by
    exact starW_sliced (fun _ _ _ hr => by rcases hr with hr | hr; exact okW_sliced e _ _ _ hr; exact skW_sliced hr) h

theorem slicedPostOK (c : Ctx) : PostOK c (slicedPost c.input) where
  rule := by
    intro name id r _ m la a w f hat hok
    have hf := okW_sliced r.expr a w f hok
    show slicedList c.input _
    split
    · exact ⟨⟨by rw [hat.slice]; rfl, hf⟩, trivial⟩
    · exact hf
  builtin := by
    intro name _ m la a w F hat hb
    show slicedList c.input F
    unfold BuiltinW at hb
    split at hb
    · obtain ⟨rfl, _, rfl⟩ := hb
      split
      · refine ⟨⟨?_, trivial⟩, trivial⟩
        have := hat.slice
        simpa using congrArg Option.isSome this
      · trivial
    · split at hb
      · rw [hb.2.2]; trivial
      · split at hb
        · rw [hb.2]; trivial
        · rw [hb]; trivial

/-- **every pair of a successful parse (of any grammar, from any rule) spans a slice of the input.** -/
theorem meaning_sliced (rules : List Rule) (extras : Bool) (uni : String → Option CharSet) (n : Nat) (rule : String)
    (input : Str) (s' : St) (F : List Tree) (h : meaning rules extras uni n rule input = .ok s' F) : slicedList input F := by
  obtain ⟨_, _, _, hp⟩ := sound_meaning (slicedPostOK { rules, input, extras, uni }) n rule s' F h
  exact hp

end PestModel.Ref
