import PestModel.Lemmas.RefVal
/-! The counterexample to the first statement of `rules_congruence`: a left-recursive replacement body
that is equivalent under the OLD rules. -/
namespace PestModel.Ref
open PestModel.G
open PestModel.PS (Atomicity CharSet)

def cexRules : List Rule := [⟨"A", .silent, .str ['x']⟩]
def cexRules' : List Rule := [⟨"A", .silent, .choice (.ident "A") (.str ['x'])⟩]

/-- `A` calls itself three units of fuel further down before anything else: it never answers. -/
theorem cex_loop (input : PestModel.LineCol.Str) (n : Nat) m la s :
    call { rules := cexRules', input := input, extras := false, uni := fun _ => none } n m la "A" s = .fuel :=
  call_diverges_of_step (P := fun _ _ _ => True) (d := 3)
    (fun k ih m la s _ => by
      show (match (match call _ k _ la "A" s with | .fail => _ | r => r) with | .ok s1 f1 => _ | r => r) = _
      rw [ih _ _ _ trivial])
    (by decide) n m la s trivial

end PestModel.Ref
