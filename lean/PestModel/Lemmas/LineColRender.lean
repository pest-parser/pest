import PestModel.Lemmas.LineColSpan
/-! Rendering an error built from a position (exact value) and from a span (never panics). -/
namespace PestModel.LineCol

def ulPad (line : Str) (k : Nat) : Str :=
  let shown := (line.take k).map fun c => if c = '\t' then '\t' else ' '
  shown ++ List.replicate (k - shown.length) ' '

theorem ulPad_length (line : Str) (k : Nat) : (ulPad line k).length = k := by
  simp [ulPad]; omega

theorem ulPad_chars (line : Str) (k : Nat) : ∀ c ∈ ulPad line k, c = ' ' ∨ c = '\t' := by
  intro c hc
  simp only [ulPad, List.mem_append, List.mem_map, List.mem_replicate] at hc
  rcases hc with ⟨a, _, rfl⟩ | ⟨_, rfl⟩
  · split <;> simp
  · simp

theorem underline_pos (e : Err) (l k : Nat) (h : e.lineCol = .pos (l, k + 1)) :
    e.underline = some (ulPad e.line k ++ "^---".toList) := by
  simp [Err.underline, Err.start, h, ulPad]

theorem format_pos (e : Err) (lc : Nat × Nat) (u : Str) (h : e.lineCol = .pos lc)
    (hu : e.underline = some u) :
    e.format = some (
        e.spacing ++ "--> ".toList ++ natStr lc.1 ++ [':'] ++
          natStr lc.2 ++ ['\n'] ++
        e.spacing ++ " |\n".toList ++
        natStr lc.1 ++ " | ".toList ++ e.line ++ ['\n'] ++
        e.spacing ++ " | ".toList ++ u ++ ['\n'] ++
        e.spacing ++ " |\n".toList ++
        e.spacing ++ " = ".toList ++ e.message) := by
  unfold Err.format
  simp only [hu, Err.start, h, Option.bind_eq_bind, Option.bind_some, Option.pure_def]

theorem newFromPos_boundary (pre post msg : Str) :
    newFromPos (pre ++ post) (bLen pre) msg = some
      { lineCol := .pos (lineColSpecChars pre),
        line := if (post.head? = some '\n' || post.head? = some '\r') then
          visualizeWs (specLineOf pre post) else stripCrLf (specLineOf pre post),
        continued := none, message := msg } := by
  simp [newFromPos, charAt?, splitAt_append, lineOf_boundary, lineCol_boundary]

theorem newFromPos_boundary' (pre post msg : Str) :
    ∃ e, newFromPos (pre ++ post) (bLen pre) msg = some e ∧
      e.lineCol = .pos (lineColSpecChars pre) ∧
      (e.line = stripCrLf (specLineOf pre post) ∨ e.line = visualizeWs (specLineOf pre post)) ∧
      e.message = msg := by
  refine ⟨_, newFromPos_boundary pre post msg, rfl, ?_, rfl⟩
  dsimp only
  split
  · exact Or.inr rfl
  · exact Or.inl rfl

theorem skipBack1_boundary (pre post : Str) :
    skipBack1 (pre ++ post) (bLen pre) = some (bLen pre.dropLast) := by
  unfold skipBack1
  rw [splitAt_append]
  induction pre using snocInd with
  | nil => simp
  | snoc xs x _ => simp

theorem linesSpanGo_sliceable (s : Str) (b fuel pos : Nat) :
    ∀ p ∈ linesSpanGo s b fuel pos, spanNew s p.1 p.2 = true := by
  fun_induction linesSpanGo s b fuel pos <;> intro p hp
  case case5 hsp ih =>
    rcases List.mem_cons.1 hp with rfl | hp
    · exact hsp
    · exact ih p hp
  all_goals cases hp

theorem mapM_of_isSome {α β : Type} (f : α → Option β) (l : List α) (h : ∀ a ∈ l, (f a).isSome = true) :
    ∃ r, l.mapM f = some r ∧ r.length = l.length := by
  induction l with
  | nil => exact ⟨[], by simp, rfl⟩
  | cons p ps ih =>
    obtain ⟨r, hr, hlen⟩ := ih fun q hq => h q (by simp [hq])
    obtain ⟨m, hm⟩ := Option.isSome_iff_exists.1 (h p (by simp))
    exact ⟨m :: r, by simp [List.mapM_cons, hm, hr], by simp [hlen]⟩

theorem linesSpan_point_length (pre post : Str) :
    (linesSpan (pre ++ post) (bLen pre) (bLen pre)).length ≤ 1 := by
  unfold linesSpan
  by_cases hpost : post = []
  · subst hpost
    have : bLen pre = bLen (pre ++ []) := by simp
    rw [this, linesSpanGo_end]; simp
  · induction pre using cut_cases with | _ A H hA hH _ _ =>
    rw [bLen_append, linesSpanGo_step hA hH hpost (Nat.le_refl _),
      linesSpanGo_gt (by have := lineTail_pos hpost; omega)]
    simp

theorem lineColSpecChars_snd_pos (pre : Str) : 1 ≤ (lineColSpecChars pre).2 := by
  simp [lineColSpecChars]

theorem lineColSpecChars_fst_mono (pre m : Str) :
    (lineColSpecChars pre).1 ≤ (lineColSpecChars (pre ++ m)).1 := by
  simp [lineColSpecChars]

theorem format_span (e : Err) (sl sc el ec : Nat) (h : e.lineCol = .span (sl, sc) (el, ec))
    (hsc : 1 ≤ sc) (hec : 2 ≤ ec) (hcont : e.continued.isSome → sl ≤ el) :
    ∃ out, e.format = some out := by
  have hu : ∃ u, e.underline = some u := by
    unfold Err.underline
    simp only [Err.start, h]
    by_cases hgt : sc > ec
    · have h0 : ¬ ec = 0 := by omega
      have h1 : ¬ ec - 1 = 0 := by omega
      have h2 : ¬ sc + 1 < ec - 1 := by omega
      simp only [hgt, h0, h1, h2, if_true, if_false]
      split <;> exact ⟨_, rfl⟩
    · have h1 : ¬ sc = 0 := by omega
      simp only [hgt, h1, if_false]
      split <;> exact ⟨_, rfl⟩
  obtain ⟨u, hu⟩ := hu
  unfold Err.format
  simp only [hu, Err.start, h, Option.bind_eq_bind, Option.bind_some, Option.pure_def]
  cases hc : e.continued with
  | none => exact ⟨_, rfl⟩
  | some cont =>
    have := hcont (by simp [hc])
    simp only
    rw [if_neg (by omega)]
    exact ⟨_, rfl⟩

theorem getLast?_tail_isSome {α : Type} {l : List α} (h : l.tail.getLast?.isSome) : 2 ≤ l.length := by
  match l with
  | [] => simp at h
  | [_] => simp at h
  | _ :: _ :: _ => simp

theorem newFromSpan_boundary (preA m postB msg : Str) :
    ∃ e sl sc el ec, newFromSpan (preA ++ m ++ postB) (bLen preA) (bLen preA + bLen m) msg = some e ∧
      e.lineCol = .span (sl, sc) (el, ec) ∧ 1 ≤ sc ∧ 2 ≤ ec ∧ (e.continued.isSome → sl ≤ el) := by
  have hB : lineCol (preA ++ m ++ postB) (bLen preA + bLen m) = some (lineColSpecChars (preA ++ m)) := by
    rw [← bLen_append]; exact lineCol_boundary _ _
  have hA : lineCol (preA ++ m ++ postB) (bLen preA) = some (lineColSpecChars preA) := by
    rw [List.append_assoc]; exact lineCol_boundary _ _
  have hS : slice? (preA ++ m ++ postB) (bLen preA) (bLen preA + bLen m) = some m :=
    slice_append _ _ _
  have hSk : skipBack1 (preA ++ m ++ postB) (bLen preA + bLen m) = some (bLen (preA ++ m).dropLast) := by
    rw [← bLen_append]; exact skipBack1_boundary _ _
  have hV : lineCol (preA ++ m ++ postB) (bLen (preA ++ m).dropLast)
      = some (lineColSpecChars (preA ++ m).dropLast) := by
    have : preA ++ m ++ postB = (preA ++ m).dropLast ++ ((preA ++ m).getLast?.toList ++ postB) := by
      rw [← List.append_assoc]; congr 1
      induction preA ++ m using snocInd <;> simp
    rw [this]; exact lineCol_boundary _ _
  obtain ⟨ls, hM, hlen⟩ := mapM_of_isSome (fun x => slice? (preA ++ m ++ postB) x.1 x.2)
    (linesSpan (preA ++ m ++ postB) (bLen preA) (bLen preA + bLen m)) (linesSpanGo_sliceable _ _ _ _)
  -- a continuation line exists only if the span meets two lines; then `m ≠ []` and the line numbers are ordered
  have hord : ls.tail.getLast?.isSome →
      (lineColSpecChars preA).1 ≤ (lineColSpecChars (preA ++ m)).1 ∧
      (lineColSpecChars preA).1 ≤ (lineColSpecChars (preA ++ m).dropLast).1 := by
    intro hc
    have h2 := getLast?_tail_isSome hc
    refine ⟨lineColSpecChars_fst_mono _ _, ?_⟩
    by_cases hm : m = []
    · subst hm
      have := linesSpan_point_length preA postB
      simp only [List.append_nil, bLen_nil, Nat.add_zero] at hlen
      omega
    · rw [List.dropLast_append_of_ne_nil hm]
      exact lineColSpecChars_fst_mono _ _
  have hcont (c : Prop) [Decidable c] : (if c then ls.tail.getLast? else ls.tail.getLast?.map visualizeWs).isSome =
      ls.tail.getLast?.isSome := by split <;> simp
  unfold newFromSpan
  simp only [Option.bind_eq_bind, Option.pure_def, hB, hA, hS, hSk, hV, hM, Option.bind_some]
  split
  · refine ⟨_, _, _, _, _, rfl, rfl, lineColSpecChars_snd_pos _, ?_, fun hc => (hord (by simpa only [hcont] using hc)).2⟩
    have := lineColSpecChars_snd_pos (preA ++ m).dropLast; omega
  · rename_i hne
    refine ⟨_, _, _, _, _, rfl, rfl, lineColSpecChars_snd_pos _, ?_, fun hc => (hord (by simpa only [hcont] using hc)).1⟩
    show 2 ≤ (lineColSpecChars (preA ++ m)).2; have := lineColSpecChars_snd_pos (preA ++ m); omega

end PestModel.LineCol
