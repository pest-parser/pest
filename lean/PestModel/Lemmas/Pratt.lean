import PestModel.Model.Pratt
namespace PestModel.Pratt

/-- sequencing on `Res`: `panic` and `fuel` pass through. -/
def Res.bind {α β} : Res α → (α → Res β) → Res β
  | .ok a, k => k a
  | .panic, _ => .panic
  | .fuel, _ => .fuel

theorem Res.ok_bind {α β} (a : α) (k : α → Res β) : (Res.ok a).bind k = k a := rfl

theorem Res.bind_eq_ok {α β} {x : Res α} {k : α → Res β} {b : β} :
    x.bind k = .ok b ↔ ∃ a, x = .ok a ∧ k a = .ok b := by
  cases x <;> simp [Res.bind]

theorem expr_succ (t : Table) (f toks rbp) :
    expr t (f + 1) toks rbp = (nud t f toks).bind fun x => loop t f x.1 x.2 rbp := by
  rw [expr.eq_2]; cases nud t f toks <;> rfl

theorem loop_succ (t : Table) (f lhs toks rbp) :
    loop t (f + 1) lhs toks rbp = (lbp t toks).bind fun p =>
      if rbp < p then (led t f lhs toks).bind fun x => loop t f x.1 x.2 rbp else .ok (lhs, toks) := by
  rw [loop.eq_2]; cases lbp t toks <;> simp only [Res.bind]
  split
  · cases led t f lhs toks <;> rfl
  · rfl

theorem nud_cons (t : Table) (f r rest) : nud t (f + 1) (r :: rest) =
    match t r with
    | none => .ok (.prim r, rest)
    | some (.prefix, p) => if p = 0 then .panic else (expr t f rest (p - 1)).bind fun x => .ok (.pre r x.1, x.2)
    | some _ => .panic := by
  rw [nud.eq_3]
  rcases t r with _ | ⟨_ | _ | a, p⟩ <;> try rfl
  dsimp only
  split
  · rfl
  · cases expr t f rest (p - 1) <;> rfl

theorem led_cons (t : Table) (f lhs r rest) : led t (f + 1) lhs (r :: rest) =
    match t r with
    | some (.infix a, p) =>
      if a = .right ∧ p = 0 then .panic
      else (expr t f rest (Pending.rbp (.inf r p a))).bind fun x => .ok (.inf lhs r x.1, x.2)
    | some (.postfix, _) => .ok (.post lhs r, rest)
    | _ => .panic := by
  rw [led.eq_3]
  rcases t r with _ | ⟨_ | _ | a, p⟩ <;> try rfl
  cases a
  · simp only [Pending.rbp, reduceCtorEq, false_and, if_false]; cases expr t f rest p <;> rfl
  · by_cases hp : p = 0
    · simp [hp]
    · simp only [hp, Pending.rbp, and_false, if_false]; cases expr t f rest (p - 1) <;> rfl

/-- The operator on top of the stack, if any, binds its right side less tightly than `p`. -/
def Below (p : Nat) (ops : List Pending) : Prop := ∀ o, ops.head? = some o → o.rbp < p

theorem reduceWhile_frozen {p : Nat} {ops : List Pending} {out : List Tree}
    (h : Below p ops) : reduceWhile p ops out = some (ops, out) := by
  cases ops with
  | nil => rfl
  | cons o ops =>
    have := h o rfl
    simp only [reduceWhile]
    rw [if_neg (by omega)]

theorem reduceWhile_pop {q : Nat} {o : Pending} {ops : List Pending} {out out' : List Tree}
    (h : q ≤ o.rbp) (ha : applyPending o out = some out') :
    reduceWhile q (o :: ops) out = reduceWhile q ops out' := by
  simp only [reduceWhile]
  rw [if_pos h, ha]

theorem lbp_cons {t : Table} {r : Nat} {rest : List Nat} {q : Nat} :
    lbp t (r :: rest) = .ok q ↔ ∃ a, t r = some (a, q) := by
  rw [lbp]
  rcases t r with _ | ⟨a, p⟩ <;> simp

theorem wf_true_cons_iff {t : Table} {r : Nat} {rest : List Nat} : wf t true (r :: rest) = true ↔
    (t r = none ∧ wf t false rest = true) ∨ ∃ p, t r = some (.prefix, p) ∧ wf t true rest = true := by
  rw [wf]
  rcases h : t r with _ | ⟨_ | _ | a, p⟩ <;> simp

theorem wf_false_cons_iff {t : Table} {r : Nat} {rest : List Nat} : wf t false (r :: rest) = true ↔
    (∃ p, t r = some (.postfix, p) ∧ wf t false rest = true) ∨
    ∃ a p, t r = some (.infix a, p) ∧ wf t true rest = true := by
  rw [wf]
  rcases h : t r with _ | ⟨_ | _ | a, p⟩ <;> simp

def Pos (t : Table) : Prop := ∀ r a p, t r = some (a, p) → 1 ≤ p

/-- what follows binds its left side no tighter than `rbp` -/
def Stops (t : Table) (rbp : Nat) (rest : List Nat) : Prop := ∃ q, lbp t rest = .ok q ∧ q ≤ rbp

/-- On well-formed input each of the four functions returns, with enough fuel, and what it leaves is well-formed and shorter. -/
theorem run_all (t : Table) (hpos : Pos t) (f : Nat) :
    (∀ toks rbp, wf t true toks = true → 4 * toks.length ≤ f →
        ∃ tree rest, expr t f toks rbp = .ok (tree, rest) ∧ wf t false rest = true ∧ rest.length < toks.length) ∧
    (∀ lhs toks rbp, wf t false toks = true → 4 * toks.length + 1 ≤ f →
        ∃ tree rest, loop t f lhs toks rbp = .ok (tree, rest) ∧ wf t false rest = true ∧ rest.length ≤ toks.length) ∧
    (∀ toks, wf t true toks = true → 4 * toks.length ≤ f + 1 →
        ∃ tree rest, nud t f toks = .ok (tree, rest) ∧ wf t false rest = true ∧ rest.length < toks.length) ∧
    (∀ lhs r toks, wf t false (r :: toks) = true → 4 * toks.length + 4 ≤ f →
        ∃ tree rest, led t f lhs (r :: toks) = .ok (tree, rest) ∧ wf t false rest = true ∧ rest.length ≤ toks.length) := by
  induction f with
  | zero =>
    refine ⟨fun toks _ hwf hf => ?_, fun _ _ _ _ hf => by omega, fun toks hwf hf => ?_, fun _ _ _ _ hf => by omega⟩ <;>
      cases toks with
      | nil => simp [wf] at hwf
      | cons => simp only [List.length_cons] at hf; omega
  | succ f ih =>
    obtain ⟨ihE, ihL, ihN, ihD⟩ := ih
    refine ⟨?_, ?_, ?_, ?_⟩
    · intro toks rbp hwf hf
      obtain ⟨lhs, rest1, hn, hwf1, hlen1⟩ := ihN toks hwf hf
      obtain ⟨tree, rest, hl, hwf2, hlen2⟩ := ihL lhs rest1 rbp hwf1 (by omega)
      exact ⟨tree, rest, by rw [expr_succ, hn]; exact hl, hwf2, by omega⟩
    · intro lhs toks rbp hwf hf
      rw [loop_succ]
      cases toks with
      | nil => exact ⟨lhs, [], rfl, hwf, Nat.le_refl _⟩
      | cons r rest0 =>
        obtain ⟨p, htr⟩ : ∃ p, lbp t (r :: rest0) = .ok p := by
          rcases wf_false_cons_iff.mp hwf with ⟨p, htr, _⟩ | ⟨a, p, htr, _⟩ <;> exact ⟨p, lbp_cons.mpr ⟨_, htr⟩⟩
        rw [htr, Res.ok_bind]
        by_cases hlt : rbp < p
        · rw [if_pos hlt]
          simp only [List.length_cons] at hf
          obtain ⟨lhs', rest1, hd, hwf1, hlen1⟩ := ihD lhs r rest0 hwf (by omega)
          obtain ⟨tree, rest, hl, hwf2, hlen2⟩ := ihL lhs' rest1 rbp hwf1 (by omega)
          exact ⟨tree, rest, by rw [hd]; exact hl, hwf2, by simp only [List.length_cons]; omega⟩
        · rw [if_neg hlt]
          exact ⟨lhs, r :: rest0, rfl, hwf, Nat.le_refl _⟩
    · intro toks hwf hf
      cases toks with
      | nil => simp [wf] at hwf
      | cons r rest0 =>
        rw [nud_cons]
        simp only [List.length_cons] at hf
        rcases wf_true_cons_iff.mp hwf with ⟨htr, hwf⟩ | ⟨p, htr, hwf⟩ <;> simp only [htr]
        · exact ⟨.prim r, rest0, rfl, hwf, Nat.lt_succ_self _⟩
        · have hp := hpos r _ p htr
          obtain ⟨rhs, rest', he, hwf1, hlen1⟩ := ihE rest0 (p - 1) hwf (by omega)
          exact ⟨.pre r rhs, rest', by rw [if_neg (by omega), he]; rfl, hwf1, Nat.lt_succ_of_lt hlen1⟩
    · intro lhs r rest0 hwf hf
      rw [led_cons]
      rcases wf_false_cons_iff.mp hwf with ⟨p, htr, hwf⟩ | ⟨a, p, htr, hwf⟩ <;> simp only [htr]
      · exact ⟨.post lhs r, rest0, rfl, hwf, Nat.le_refl _⟩
      · have hp := hpos r _ p htr
        obtain ⟨rhs, rest', he, hwf1, hlen1⟩ := ihE rest0 (Pending.rbp (.inf r p a)) hwf (by omega)
        exact ⟨.inf lhs r rhs, rest', by rw [if_neg (by omega), he]; rfl, hwf1, Nat.le_of_lt hlen1⟩

/-- every operator on the left spine (those applied by the loop that built the tree) binds its left side more tightly than `q` -/
def LAbove (t : Table) (q : Nat) : Tree → Prop
  | .prim _ | .pre _ _ => True
  | .post l r | .inf l r _ => LAbove t q l ∧ ∀ a p, t r = some (a, p) → q < p

/-- every operator on the right spine (those whose right operand ends where the tree ends) binds its right side at least as
tightly as `q` -/
def RAbove (t : Table) (q : Nat) : Tree → Prop
  | .prim _ | .post _ _ => True
  | .pre r x => (∀ p, t r = some (.prefix, p) → q ≤ (Pending.pre r p).rbp) ∧ RAbove t q x
  | .inf _ r x => (∀ a p, t r = some (.infix a, p) → q ≤ (Pending.inf r p a).rbp) ∧ RAbove t q x

/-- "Precedence-correct": at every operator the right spine of the left operand binds at least as tightly as the operator binds its
left side, and the left spine of the right operand binds more tightly than the operator binds its right side. Any table. -/
def OK (t : Table) : Tree → Prop
  | .prim r => t r = none
  | .pre r x => ∃ p, t r = some (.prefix, p) ∧ OK t x ∧ LAbove t (Pending.pre r p).rbp x
  | .post l r => ∃ p, t r = some (.postfix, p) ∧ OK t l ∧ RAbove t p l
  | .inf l r x => ∃ a p, t r = some (.infix a, p) ∧ OK t l ∧ RAbove t p l ∧ OK t x ∧ LAbove t (Pending.inf r p a).rbp x

theorem RAbove_zero (t : Table) : ∀ T, RAbove t 0 T
  | .prim _ | .post _ _ => trivial
  | .pre _ x => ⟨fun _ _ => Nat.zero_le _, RAbove_zero t x⟩
  | .inf _ _ x => ⟨fun _ _ _ => Nat.zero_le _, RAbove_zero t x⟩

/-- Having read the yield of a precedence-correct tree, the machine is in a state that no later reduction can tell from
"the tree is on the operand stack": its pending operators are reduced when, and only when, `RAbove` lets them. -/
theorem sy_complete (t : Table) : ∀ T, OK t T → ∀ ops out, (∀ o, ops.head? = some o → LAbove t o.rbp T) →
    ∃ ops' out', (∀ rest, sy t true (T.yield ++ rest) ops out = sy t false rest ops' out') ∧
      ∀ q, RAbove t q T → reduceWhile q ops' out' = reduceWhile q ops (T :: out)
  | .prim r, h, ops, out, _ =>
    ⟨ops, .prim r :: out, fun rest => by simp only [Tree.yield, List.cons_append, List.nil_append, sy, show t r = none from h],
      fun _ _ => rfl⟩
  | .pre r x, ⟨p, htr, hx, hl⟩, ops, out, _ => by
    obtain ⟨ops', out', h1, h2⟩ := sy_complete t x hx (.pre r p :: ops) out (fun o ho => by cases ho; exact hl)
    refine ⟨ops', out', fun rest => ?_, fun q hq => ?_⟩
    · simp only [Tree.yield, List.cons_append, sy, htr]; exact h1 rest
    · rw [h2 q hq.2, reduceWhile_pop (hq.1 p htr) rfl]
  | .post l r, ⟨p, htr, hl, hr⟩, ops, out, hops => by
    obtain ⟨ops1, out1, h1, h2⟩ := sy_complete t l hl ops out (fun o ho => (hops o ho).1)
    refine ⟨ops, .post l r :: out, fun rest => ?_, fun _ _ => rfl⟩
    have hb : Below p ops := fun o ho => (hops o ho).2 _ p htr
    simp only [Tree.yield, List.append_assoc, List.cons_append, List.nil_append]
    rw [h1]; simp only [sy, htr, h2 p hr, reduceWhile_frozen hb]
  | .inf l r x, ⟨a, p, htr, hl, hrl, hx, hlx⟩, ops, out, hops => by
    obtain ⟨ops1, out1, h1, h2⟩ := sy_complete t l hl ops out (fun o ho => (hops o ho).1)
    obtain ⟨ops2, out2, h3, h4⟩ := sy_complete t x hx (.inf r p a :: ops) (l :: out) (fun o ho => by cases ho; exact hlx)
    refine ⟨ops2, out2, fun rest => ?_, fun q hq => ?_⟩
    · have hb : Below p ops := fun o ho => (hops o ho).2 _ p htr
      simp only [Tree.yield, List.append_assoc, List.cons_append]
      rw [h1]; simp only [sy, htr, h2 p hrl, reduceWhile_frozen hb]; exact h3 rest
    · rw [h4 q hq.2, reduceWhile_pop (hq.1 a p htr) rfl]

theorem shuntingYard_yield {t : Table} {T : Tree} (h : OK t T) : shuntingYard t T.yield = some T := by
  obtain ⟨ops', out', h1, h2⟩ := sy_complete t T h [] [] nofun
  have := h1 []
  rw [List.append_nil] at this
  rw [shuntingYard, this]
  simp only [sy, h2 0 (RAbove_zero t T)]
  rfl

/-- the right spine of `T` binds at least as tightly as the token after it binds its left side -/
def RNext (t : Table) (rest : List Nat) (T : Tree) : Prop := ∀ q, lbp t rest = .ok q → RAbove t q T

theorem RNext.of_stops {t : Table} {rest : List Nat} {T : Tree} {b : Nat} (hs : Stops t b rest) (h : RNext t rest T)
    {q : Nat} (hq : lbp t rest = .ok q) : q ≤ b ∧ RAbove t q T := by
  obtain ⟨q', hq', hle⟩ := hs
  cases hq'.symm.trans hq
  exact ⟨hle, h q hq⟩

/-- Whatever the four functions return, for any table, any input and any fuel: the tokens consumed are the yield of the tree, in
order, and the tree is precedence-correct. -/
theorem ok_all (t : Table) (f : Nat) :
    (∀ toks rbp tree rest, expr t f toks rbp = .ok (tree, rest) →
        tree.yield ++ rest = toks ∧ Stops t rbp rest ∧ OK t tree ∧ LAbove t rbp tree ∧ RNext t rest tree) ∧
    (∀ lhs toks rbp tree rest, loop t f lhs toks rbp = .ok (tree, rest) →
        tree.yield ++ rest = lhs.yield ++ toks ∧ Stops t rbp rest ∧
        (OK t lhs → LAbove t rbp lhs → RNext t toks lhs → OK t tree ∧ LAbove t rbp tree ∧ RNext t rest tree)) ∧
    (∀ toks tree rest, nud t f toks = .ok (tree, rest) →
        tree.yield ++ rest = toks ∧ OK t tree ∧ (∀ q, LAbove t q tree) ∧ RNext t rest tree) ∧
    (∀ lhs toks tree rest, led t f lhs toks = .ok (tree, rest) → tree.yield ++ rest = lhs.yield ++ toks ∧
        ∀ p, lbp t toks = .ok p → OK t lhs → RAbove t p lhs →
          OK t tree ∧ (∀ q, LAbove t q lhs → q < p → LAbove t q tree) ∧ RNext t rest tree) := by
  induction f with
  | zero => exact ⟨nofun, nofun, nofun, nofun⟩
  | succ f ih =>
    obtain ⟨ihE, ihL, ihN, ihD⟩ := ih
    refine ⟨?_, ?_, ?_, ?_⟩
    · intro toks rbp tree rest h
      rw [expr_succ, Res.bind_eq_ok] at h
      obtain ⟨x, hn, hl⟩ := h
      obtain ⟨hy1, ok1, la1, rn1⟩ := ihN toks x.1 x.2 hn
      obtain ⟨hy2, st2, h2⟩ := ihL _ _ _ _ _ hl
      exact ⟨by rw [hy2, hy1], st2, h2 ok1 (la1 rbp) rn1⟩
    · intro lhs toks rbp tree rest h
      rw [loop_succ, Res.bind_eq_ok] at h
      obtain ⟨p, hp, h⟩ := h
      split at h
      · next hlt =>
        obtain ⟨x, hd, hl⟩ := Res.bind_eq_ok.mp h
        obtain ⟨hy1, h1⟩ := ihD lhs toks x.1 x.2 hd
        obtain ⟨hy2, st2, h2⟩ := ihL _ _ _ _ _ hl
        refine ⟨by rw [hy2, hy1], st2, fun hok hla hrn => ?_⟩
        obtain ⟨ok1, la1, rn1⟩ := h1 p hp hok (hrn p hp)
        exact h2 ok1 (la1 rbp hla hlt) rn1
      · next hge =>
        cases h
        exact ⟨rfl, ⟨p, hp, Nat.le_of_not_lt hge⟩, fun hok hla hrn => ⟨hok, hla, hrn⟩⟩
    · intro toks tree rest h
      cases toks with
      | nil => cases h
      | cons r rest0 =>
        rw [nud_cons] at h
        split at h
        · next heq => cases h; exact ⟨rfl, heq, fun _ => trivial, fun _ _ => trivial⟩
        · next p heq =>
          split at h
          · cases h
          · obtain ⟨x, he, hx⟩ := Res.bind_eq_ok.mp h
            cases hx
            obtain ⟨hy1, st1, ok1, la1, rn1⟩ := ihE _ _ _ _ he
            refine ⟨by simp only [Tree.yield, List.cons_append, hy1], ⟨p, heq, ok1, la1⟩, fun _ => trivial, fun q hq => ?_⟩
            obtain ⟨hle, hr⟩ := rn1.of_stops st1 hq
            exact ⟨fun p' hp' => by cases heq.symm.trans hp'; exact hle, hr⟩
        · cases h
    · intro lhs toks tree rest h
      cases toks with
      | nil => cases h
      | cons r rest0 =>
        rw [led_cons] at h
        split at h
        · next a p heq =>
          split at h
          · cases h
          · obtain ⟨x, he, hx⟩ := Res.bind_eq_ok.mp h
            cases hx
            obtain ⟨hy1, st1, ok1, la1, rn1⟩ := ihE _ _ _ _ he
            refine ⟨by simp only [Tree.yield, List.append_assoc, List.cons_append, hy1], fun p' hp hokl hra => ?_⟩
            obtain ⟨_, hp0⟩ := lbp_cons.mp hp
            cases heq.symm.trans hp0
            refine ⟨⟨a, p, heq, hokl, hra, ok1, la1⟩,
              fun q hl hq => ⟨hl, fun a' p' h' => by cases heq.symm.trans h'; exact hq⟩, fun q hq => ?_⟩
            obtain ⟨hle, hr⟩ := rn1.of_stops st1 hq
            exact ⟨fun a' p' h' => by cases heq.symm.trans h'; exact hle, hr⟩
        · next p heq =>
          cases h
          refine ⟨by simp only [Tree.yield, List.append_assoc, List.cons_append, List.nil_append], fun p' hp hokl hra => ?_⟩
          obtain ⟨_, hp0⟩ := lbp_cons.mp hp
          cases heq.symm.trans hp0
          exact ⟨⟨p, heq, hokl, hra⟩, fun q hl hq => ⟨hl, fun a' p' h' => by cases heq.symm.trans h'; exact hq⟩,
            fun _ _ => trivial⟩
        · cases h

theorem parse_yield {t : Table} {toks rest : List Nat} {T : Tree} (h : parse t toks = .ok (T, rest)) :
    T.yield ++ rest = toks :=
  ((ok_all t _).1 _ _ _ _ h).1

/-- at binding power 0 a return is at the end of the input: every operator of a `Pos` table binds tighter. -/
theorem Stops.rest_nil {t : Table} {rest : List Nat} (hpos : Pos t) (h : Stops t 0 rest) : rest = [] := by
  obtain ⟨q, hq, hle⟩ := h
  cases rest with
  | nil => rfl
  | cons r rs =>
    obtain ⟨a, htr⟩ := lbp_cons.mp hq
    have := hpos r a q htr
    omega

theorem loop_zero_rest {t : Table} (hpos : Pos t) (f lhs toks tree rest) (h : loop t f lhs toks 0 = .ok (tree, rest)) :
    rest = [] :=
  ((ok_all t f).2.1 _ _ _ _ _ h).2.1.rest_nil hpos

/-- a successful parse consumes all its tokens, well-formed or not. -/
theorem parse_rest_nil {t : Table} (hpos : Pos t) {toks rest : List Nat} {tree : Tree}
    (h : parse t toks = .ok (tree, rest)) : rest = [] :=
  ((ok_all t _).1 _ _ _ _ h).2.1.rest_nil hpos

/-- A successful parse, of any sequence under any table, returns a precedence-correct tree. -/
theorem parse_ok {t : Table} {toks rest : List Nat} {T : Tree} (h : parse t toks = .ok (T, rest)) : OK t T :=
  ((ok_all t _).1 _ _ _ _ h).2.2.1

/-- … which is the tree of the shunting-yard machine, well-formed input or not. -/
theorem parse_sy {t : Table} (hpos : Pos t) {toks rest : List Nat} {T : Tree} (h : parse t toks = .ok (T, rest)) :
    shuntingYard t toks = some T := by
  have hy := parse_yield h
  rw [parse_rest_nil hpos h, List.append_nil] at hy
  exact hy ▸ shuntingYard_yield (parse_ok h)

theorem parse_total_sim {t : Table} {toks : List Nat} (hpos : Pos t) (hwf : wf t true toks = true) :
    ∃ tree, parse t toks = .ok (tree, []) ∧ shuntingYard t toks = some tree := by
  obtain ⟨tree, rest, he, -, -⟩ := (run_all t hpos (4 * toks.length + 4)).1 toks 0 hwf (by omega)
  cases parse_rest_nil hpos he
  exact ⟨tree, he, parse_sy hpos he⟩

/-- The tables give each rule the same affix and order the precedences alike. -/
structure Iso (t t' : Table) : Prop where
  pos : Pos t
  pos' : Pos t'
  aff : ∀ r, (t r).map (·.1) = (t' r).map (·.1)
  ord : ∀ r₁ r₂ a₁ a₂ p₁ p₂ q₁ q₂, t r₁ = some (a₁, p₁) → t r₂ = some (a₂, p₂) →
      t' r₁ = some (a₁, q₁) → t' r₂ = some (a₂, q₂) → (p₁ < p₂ ↔ q₁ < q₂)

def Corr (t t' : Table) (rbp rbp' : Nat) : Prop :=
  ∀ r a q q', t r = some (a, q) → t' r = some (a, q') → (rbp < q ↔ rbp' < q')

theorem Iso.cases {t t' : Table} (h : Iso t t') (r : Nat) :
    (t r = none ∧ t' r = none) ∨ ∃ a p p', t r = some (a, p) ∧ t' r = some (a, p') := by
  have := h.aff r
  rcases h1 : t r with _ | ⟨a, p⟩ <;> rcases h2 : t' r with _ | ⟨a', p'⟩ <;> simp [h1, h2] at this
  · exact .inl ⟨rfl, rfl⟩
  · subst this
    exact .inr ⟨a, p, p', rfl, rfl⟩

theorem Iso.corr_zero {t t' : Table} (h : Iso t t') : Corr t t' 0 0 := by
  intro r a q q' h1 h2
  have := h.pos r a q h1
  have := h.pos' r a q' h2
  omega

theorem Iso.corr_same {t t' : Table} (h : Iso t t') {r : Nat} {a : Affix} {p p' : Nat}
    (h1 : t r = some (a, p)) (h2 : t' r = some (a, p')) : Corr t t' p p' := by
  intro r2 a2 q q' h3 h4
  exact h.ord r r2 a a2 p q p' q' h1 h3 h2 h4

theorem Iso.corr_pred {t t' : Table} (h : Iso t t') {r : Nat} {a : Affix} {p p' : Nat}
    (h1 : t r = some (a, p)) (h2 : t' r = some (a, p')) : Corr t t' (p - 1) (p' - 1) := by
  intro r2 a2 q q' h3 h4
  have := h.ord r2 r a2 a q p q' p' h3 h1 h4 h2
  have := h.pos r a p h1
  have := h.pos' r a p' h2
  omega

theorem iso_all {t t' : Table} (h : Iso t t') (f : Nat) :
    (∀ toks rbp rbp', Corr t t' rbp rbp' → expr t f toks rbp = expr t' f toks rbp') ∧
    (∀ lhs toks rbp rbp', Corr t t' rbp rbp' → loop t f lhs toks rbp = loop t' f lhs toks rbp') ∧
    (∀ toks, nud t f toks = nud t' f toks) ∧
    (∀ lhs toks, led t f lhs toks = led t' f lhs toks) := by
  induction f with
  | zero => simp [expr, loop, nud, led]
  | succ f ih =>
    obtain ⟨ihE, ihL, ihN, ihD⟩ := ih
    refine ⟨?_, ?_, ?_, ?_⟩
    · intro toks rbp rbp' hc
      rw [expr_succ, expr_succ, ihN]
      exact congrArg _ (funext fun x => ihL _ _ _ _ hc)
    · intro lhs toks rbp rbp' hc
      rw [loop_succ, loop_succ]
      cases toks with
      | nil => simp [lbp, Res.bind]
      | cons r rest0 =>
        rcases h.cases r with ⟨h1, h2⟩ | ⟨a, p, p', h1, h2⟩
        · simp [lbp, h1, h2, Res.bind]
        · simp only [lbp, h1, h2, Res.ok_bind]
          have := hc r a p p' h1 h2
          by_cases hlt : rbp < p
          · rw [if_pos hlt, if_pos (this.mp hlt), ihD]
            exact congrArg _ (funext fun x => ihL _ _ _ _ hc)
          · rw [if_neg hlt, if_neg (fun h' => hlt (this.mpr h'))]
    · intro toks
      cases toks with
      | nil => rfl
      | cons r rest0 =>
        rw [nud_cons, nud_cons]
        rcases h.cases r with ⟨h1, h2⟩ | ⟨a, p, p', h1, h2⟩ <;> rw [h1, h2]
        cases a <;> try rfl
        have hp := h.pos r _ p h1
        have hp' := h.pos' r _ p' h2
        dsimp only
        rw [if_neg (by omega), if_neg (by omega), ihE _ _ _ (h.corr_pred h1 h2)]
    · intro lhs toks
      cases toks with
      | nil => rfl
      | cons r rest0 =>
        rw [led_cons, led_cons]
        rcases h.cases r with ⟨h1, h2⟩ | ⟨a, p, p', h1, h2⟩ <;> rw [h1, h2]
        rcases a with _ | _ | a <;> try rfl
        have hp := h.pos r _ p h1
        have hp' := h.pos' r _ p' h2
        dsimp only
        rw [if_neg (by omega), if_neg (by omega)]
        cases a
        · rw [show Pending.rbp (.inf r p .left) = p from rfl, ihE _ _ _ (h.corr_same h1 h2)]; rfl
        · rw [show Pending.rbp (.inf r p .right) = p - 1 from rfl, ihE _ _ _ (h.corr_pred h1 h2)]; rfl

theorem parse_iso {t t' : Table} (h : Iso t t') (toks : List Nat) : parse t toks = parse t' toks :=
  (iso_all h _).1 toks 0 0 h.corr_zero

theorem find?_key_some {α} {k : α → Nat} {r : Nat} {l : List α} {e : α}
    (h : l.find? (fun e => k e = r) = some e) : e ∈ l ∧ k e = r :=
  ⟨List.mem_of_find?_eq_some h, by simpa using List.find?_some h⟩

theorem find?_reverse_of_nodup {α} (k : α → Nat) (r : Nat) : ∀ (l : List α), (l.map k).Nodup →
    l.reverse.find? (fun e => k e = r) = l.find? (fun e => k e = r)
  | [], _ => rfl
  | e :: l, hnd => by
    simp only [List.map_cons, List.nodup_cons] at hnd
    rw [List.reverse_cons, List.find?_append, find?_reverse_of_nodup k r l hnd.2, List.find?_cons]
    by_cases he : k e = r
    · have : l.find? (fun e => decide (k e = r)) = none := by
        rw [List.find?_eq_none]; intro x hx hk
        exact hnd.1 (List.mem_map.mpr ⟨x, hx, by simp at hk; rw [hk, he]⟩)
      simp [this, he]
    · cases h : l.find? (fun e => decide (k e = r)) <;> simp [he, h]

theorem find?_map_key {α β} (ka : α → Nat) (kb : β → Nat) (g : α → β) (hk : ∀ x, kb (g x) = ka x)
    (l : List α) (r : Nat) :
    (l.map g).find? (fun e => kb e = r) = (l.find? (fun e => ka e = r)).map g := by
  rw [List.find?_map]
  have : ((fun e => decide (kb e = r)) ∘ g) = (fun e => decide (ka e = r)) := by funext x; simp [hk]
  rw [this]

theorem lookupLast_mem {es : List (Nat × Affix × Nat)} {r : Nat} {a : Affix} {p : Nat}
    (h : lookupLast es r = some (a, p)) : (r, a, p) ∈ es := by
  unfold lookupLast at h
  split at h
  · next r' a' p' hf =>
    cases h
    obtain ⟨hm, rfl⟩ := find?_key_some (k := Prod.fst) hf
    exact List.mem_reverse.mp hm
  · cases h

theorem prattEntries_ge {levels : List (List (Nat × Affix))} : ∀ {c : Nat} {r : Nat} {a : Affix} {p : Nat},
    (r, a, p) ∈ prattEntries levels c → c + 10 ≤ p := by
  induction levels with
  | nil => intro c r a p h; simp [prattEntries] at h
  | cons lvl rest ih =>
    intro c r a p h
    simp only [prattEntries, List.mem_append, List.mem_map] at h
    rcases h with ⟨x, _, hx⟩ | h
    · cases hx; omega
    · have := ih h; omega

theorem prattTable_pos' (levels : List (List (Nat × Affix))) : Pos (prattTable levels) := by
  intro r a p h
  have := prattEntries_ge (lookupLast_mem h)
  omega

theorem constEntries_ge {ops : List (Nat × Affix × Bool)} : ∀ {c : Nat} {r : Nat} {a : Affix} {p : Nat},
    (r, a, p) ∈ constEntries ops c → c ≤ p := by
  induction ops with
  | nil => intro c r a p h; simp [constEntries] at h
  | cons o rest ih =>
    intro c r a p h
    obtain ⟨r0, a0, b0⟩ := o
    simp only [constEntries, List.mem_cons] at h
    rcases h with h | h
    · cases h; split <;> omega
    · have := ih h
      split at this <;> omega

theorem constTable_pos' (ops : List (Nat × Affix × Bool))
    (h : ∀ r a b rest, ops = (r, a, b) :: rest → b = true) : Pos (constTable ops) := by
  intro r a p hl
  have hm := lookupLast_mem hl
  cases ops with
  | nil => simp [constEntries] at hm
  | cons o rest =>
    obtain ⟨r0, a0, b0⟩ := o
    have := h r0 a0 b0 rest rfl
    subst this
    simp only [constEntries, List.mem_cons] at hm
    rcases hm with hm | hm
    · cases hm; simp
    · have := constEntries_ge hm
      simp at this
      omega

def shift : Nat × Affix × Nat → Nat × Affix × Nat := fun (r, a, p) => (r, a, p + 10)

theorem constEntries_false_append (ops : List (Nat × Affix)) (l2 : List (Nat × Affix × Bool)) (c : Nat) :
    constEntries (ops.map (fun (r, a) => (r, a, false)) ++ l2) c =
      ops.map (fun (r, a) => (r, a, c)) ++ constEntries l2 c := by
  induction ops with
  | nil => rfl
  | cons o ops ih =>
    obtain ⟨r, a⟩ := o
    simp [constEntries, ih]

theorem prattEntries_eq_shift {levels : List (List (Nat × Affix))} (hne : ∀ l ∈ levels, l ≠ []) :
    ∀ c, prattEntries levels (c + 10) = (constEntries (flattenLevels levels) c).map shift := by
  induction levels with
  | nil => intro c; rfl
  | cons lvl rest ih =>
    intro c
    have ih' := ih (fun l hl => hne l (List.mem_cons_of_mem _ hl)) (c + 10)
    cases lvl with
    | nil => exact absurd rfl (hne [] List.mem_cons_self)
    | cons o ops =>
      obtain ⟨r, a⟩ := o
      simp only [prattEntries, flattenLevels, List.cons_append, constEntries, if_true,
        constEntries_false_append, List.map_cons, List.map_append, List.map_map, ih']
      simp [shift, Function.comp_def]

theorem lookupLast_shift (es : List (Nat × Affix × Nat)) (r : Nat) :
    lookupLast (es.map shift) r = (lookupLast es r).map (fun (a, p) => (a, p + 10)) := by
  unfold lookupLast
  rw [← List.map_reverse, find?_map_key (·.1) (·.1) shift fun ⟨_, _, _⟩ => rfl]
  cases List.find? (fun e => decide (e.1 = r)) es.reverse with
  | none => rfl
  | some e => obtain ⟨r', a, p⟩ := e; rfl

theorem Iso_of_shift {t t' : Table} (hpos : Pos t)
    (h : ∀ r, t' r = (t r).map (fun (a, p) => (a, p + 10))) : Iso t t' where
  pos := hpos
  pos' := by
    intro r a p hr
    rw [h] at hr
    cases htr : t r with
    | none => simp [htr] at hr
    | some ap => simp [htr] at hr; omega
  aff := by
    intro r
    rw [h]
    cases t r <;> simp
  ord := by
    intro r₁ r₂ a₁ a₂ p₁ p₂ q₁ q₂ h1 h2 h3 h4
    rw [h, h1] at h3
    rw [h, h2] at h4
    simp at h3 h4
    omega

theorem const_iso_pratt (levels : List (List (Nat × Affix))) (hne : ∀ l ∈ levels, l ≠ []) :
    Iso (constTable (flattenLevels levels)) (prattTable levels) := by
  apply Iso_of_shift
  · apply constTable_pos'
    intro r a b rest h
    cases levels with
    | nil => simp [flattenLevels] at h
    | cons lvl rest' =>
      cases lvl with
      | nil => exact absurd rfl (hne [] List.mem_cons_self)
      | cons o ops =>
        obtain ⟨r0, a0⟩ := o
        simp [flattenLevels] at h
        exact h.1.2.2
  · intro r
    unfold prattTable constTable
    rw [prattEntries_eq_shift hne 0, lookupLast_shift]

end PestModel.Pratt
