import PestModel.Lemmas.ViewsLayout
/-! Helper lemmas for C04: the `Tokens` iterator. -/
namespace PestModel.Views
open PestModel.PS (QTok)
open PestModel.LineCol (Str)

/-- `f a, f (a+1), …` are exactly the elements of the list. -/
def SeqAt {α : Type} (f : Nat → Option α) : Nat → List α → Prop
  | _, [] => True
  | a, x :: xs => f a = some x ∧ SeqAt f (a + 1) xs

theorem SeqAt.append {α : Type} {f : Nat → Option α} {xs ys : List α} : ∀ {a : Nat},
    SeqAt f a (xs ++ ys) ↔ SeqAt f a xs ∧ SeqAt f (a + xs.length) ys := by
  induction xs with
  | nil => intro a; simp [SeqAt]
  | cons x xs ih =>
    intro a
    simp only [List.cons_append, SeqAt, ih, List.length_cons]
    have : a + 1 + xs.length = a + (xs.length + 1) := by omega
    rw [this, and_assoc]

@[simp] theorem dequeRun_nil_ops {α : Type} (l : List α) : dequeRun l [] = [] := by
  cases l <;> simp [dequeRun]

theorem dequeRun_snoc {α : Type} (ys : List α) (y : α) (ops : List Bool) :
    dequeRun (ys ++ [y]) (false :: ops) = (some y, ys.length) :: dequeRun ys ops := by
  cases ys with
  | nil => rfl
  | cons x xs =>
    simp only [List.cons_append, dequeRun, List.length_append, List.length_cons, List.length_nil]
    rw [← List.cons_append, List.getLast?_concat, List.dropLast_concat]

theorem exists_snoc {α : Type} (x : α) (xs : List α) : ∃ ys y, x :: xs = ys ++ [y] :=
  ⟨_, _, (List.dropLast_concat_getLast (List.cons_ne_nil x xs)).symm⟩

@[simp] theorem Tree.toks_node (r a b : Nat) (t : Option Str) (cs : List Tree) :
    (Tree.node r a b t cs).toks = .start r a :: (toksList cs ++ [.stop r b]) := by simp [Tree.toks]
@[simp] theorem toksList_nil : toksList [] = [] := by simp [toksList]
@[simp] theorem toksList_cons (t : Tree) (ts : List Tree) : toksList (t :: ts) = t.toks ++ toksList ts := by
  simp [toksList]

variable {q : List QTok}

theorem toks_of_layout {a b : Nat} {ts : List Tree} (h : Layout q a ts b) :
    SeqAt (createToken q) a (toksList ts) ∧ (toksList ts).length = sizeList ts := by
  induction h with
  | nil a => simp [SeqAt]
  | cons h1 h2 hk hr ihk ihr =>
    rename_i a e b r p0 p1 tag kids rest
    have hs := hk.size
    obtain ⟨ik, lk⟩ := ihk
    obtain ⟨ir, lr⟩ := ihr
    constructor
    · simp only [toksList_cons, Tree.toks_node, List.cons_append, SeqAt, SeqAt.append,
        List.length_nil, List.append_assoc]
      have e1 : a + 1 + (toksList kids).length = e := by omega
      rw [e1, Nat.add_zero]
      refine ⟨?_, ik, ?_, trivial, ir⟩
      · simp [createToken, h1, h2]
      · simp [createToken, h2]
    · simp [lk, lr]; omega

theorem toksRun_of_seq : ∀ (ops : List Bool) (a b : Nat) (L : List Tok),
    SeqAt (createToken q) a L → b = a + L.length → toksRun q a b ops = some (dequeRun L ops) := by
  intro ops
  induction ops with
  | nil => intro a b L _ _; simp [toksRun]
  | cons op ops ih =>
    intro a b L hL hb
    cases L with
    | nil =>
      have : a ≥ b := by simp at hb; omega
      simp [toksRun, this, ih a b [] hL hb, dequeRun]
    | cons x xs =>
      have hlt : ¬ a ≥ b := by simp at hb; omega
      cases op with
      | true =>
        have h2 := ih (a + 1) b xs hL.2 (by simp at hb; omega)
        have : b - (a + 1) = xs.length := by simp at hb; omega
        simp [toksRun, hlt, hL.1, h2, dequeRun, this]
      | false =>
        obtain ⟨ys, y, hy⟩ := exists_snoc x xs
        rw [hy] at hL hb ⊢
        obtain ⟨hd, hl, _⟩ := SeqAt.append.1 hL
        have hb1 : b - 1 = a + ys.length := by simp at hb; omega
        rw [← hb1] at hl
        have : b - 1 - a = ys.length := by omega
        simp [toksRun, hlt, hl, ih a (b - 1) ys hd hb1, dequeRun_snoc, this]

end PestModel.Views
