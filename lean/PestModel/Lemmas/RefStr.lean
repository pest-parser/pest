import PestModel.Model.Ref
import PestModel.Lemmas.PStatePrim
namespace PestModel.Ref
open PestModel.G
open PestModel.LineCol
open PestModel.Views (Tree)
open PestModel.PS (Atomicity CharSet restAt asciiLower eqIgnoreAsciiCase normalizeIndex restAt_iff restAt_advance)

/-! String-level facts about the reference semantics: literals, case-insensitive literals,
single characters, stack matching and `skip`. -/

/-- the position is a character boundary of the input. -/
def Valid (c : Ctx) (s : St) : Prop := (restAt c.input s.pos).isSome = true

theorem valid_of_pos {c : Ctx} {s s' : St} (h : Valid c s) (hp : s'.pos = s.pos) : Valid c s' := by
  unfold Valid at *; rw [hp]; exact h

/-- the case-insensitive literal match (the body of `denote` on `.insens`). -/
def insensM (c : Ctx) (s : St) (str : Str) : Res :=
  match restAt c.input s.pos with
  | some rest =>
    match splitAt? rest (bLen str) with
    | some (pre, _) => if eqIgnoreAsciiCase pre str then .ok { s with pos := s.pos + bLen str } [] else .fail
    | none => .fail
  | none => .fail

theorem cLen_lower_aux : ∀ n, n < 91 → (Char.ofNat (n + 32)).utf8Size = 1 := by decide

theorem cLen_asciiLower (x : Char) : cLen (asciiLower x) = cLen x := by
  unfold asciiLower
  split
  · rename_i h
    obtain ⟨_, h2⟩ := h
    have h2' : x.toNat ≤ 90 := by
      have := UInt32.le_iff_toNat_le.1 (Char.le_def.1 h2)
      simpa using this
    have hx : cLen x = 1 := by
      unfold cLen
      rw [Char.utf8Size_eq_one_iff, UInt32.le_iff_toNat_le]
      simp; omega
    rw [hx]
    exact cLen_lower_aux _ (by omega)
  · rfl

theorem cLen_eq_of_asciiLower_eq {x y : Char} (h : asciiLower x = asciiLower y) : cLen x = cLen y := by
  rw [← cLen_asciiLower x, ← cLen_asciiLower y, h]

theorem bLen_eq_of_map_asciiLower_eq {x y : Str} (h : x.map asciiLower = y.map asciiLower) :
    bLen x = bLen y := by
  induction x generalizing y with
  | nil => cases y with
    | nil => rfl
    | cons d ds => simp at h
  | cons c cs ih =>
    cases y with
    | nil => simp at h
    | cons d ds =>
      simp only [List.map_cons, List.cons.injEq] at h
      simp [cLen_eq_of_asciiLower_eq h.1, ih h.2]

/-- decidable description of "`str` matches case-insensitively at the head of `rest`". -/
def InsMatch (rest str : Str) : Prop := (rest.take str.length).map asciiLower = str.map asciiLower

instance (rest str : Str) : Decidable (InsMatch rest str) := by unfold InsMatch; infer_instance

theorem InsMatch.length_le {rest str : Str} (h : InsMatch rest str) : str.length ≤ rest.length := by
  have := congrArg List.length h
  simp at this
  omega

theorem InsMatch.bLen_take {rest str : Str} (h : InsMatch rest str) :
    bLen (rest.take str.length) = bLen str := bLen_eq_of_map_asciiLower_eq h

theorem insMatch_append (rest a b : Str) :
    InsMatch rest (a ++ b) ↔ InsMatch rest a ∧ InsMatch (rest.drop a.length) b := by
  unfold InsMatch
  rw [List.length_append, List.take_add, List.map_append, List.map_append]
  constructor
  · intro h
    have hl := congrArg List.length h
    simp at hl
    exact List.append_inj h (by simp; omega)
  · rintro ⟨h1, h2⟩
    rw [h1, h2]

/-- the result of the split-and-compare in `insensM`, in terms of `InsMatch`. -/
theorem insens_split_iff (rest str : Str) :
    (∃ pre post, splitAt? rest (bLen str) = some (pre, post) ∧ eqIgnoreAsciiCase pre str = true) ↔
      InsMatch rest str := by
  constructor
  · rintro ⟨pre, post, hs, he⟩
    obtain ⟨rfl, _⟩ := splitAt_some hs
    have he' : pre.map asciiLower = str.map asciiLower := by simpa [eqIgnoreAsciiCase] using he
    have hl : pre.length = str.length := by simpa using congrArg List.length he'
    unfold InsMatch
    rw [← hl]
    simpa using he'
  · intro h
    refine ⟨rest.take str.length, rest.drop str.length, ?_, ?_⟩
    · rw [← h.bLen_take]
      conv => lhs; arg 1; rw [← List.take_append_drop str.length rest]
      exact splitAt_append _ _
    · have h' : (rest.take str.length).map asciiLower = str.map asciiLower := h
      simp only [eqIgnoreAsciiCase, h', beq_self_eq_true]

theorem insensM_eq {c : Ctx} {s : St} {rest : Str} (h : restAt c.input s.pos = some rest) (str : Str) :
    insensM c s str =
      if InsMatch rest str then .ok { s with pos := s.pos + bLen str } [] else .fail := by
  unfold insensM
  rw [h]
  simp only
  by_cases hm : InsMatch rest str
  · obtain ⟨pre, post, hs, he⟩ := (insens_split_iff rest str).2 hm
    rw [hs, if_pos hm]
    simp [he]
  · rw [if_neg hm]
    split
    · rename_i pre post hs
      split
      · rename_i he
        exact absurd ((insens_split_iff rest str).1 ⟨pre, post, hs, he⟩) hm
      · rfl
    · rfl

theorem insensM_none {c : Ctx} {s : St} (h : restAt c.input s.pos = none) (str : Str) :
    insensM c s str = .fail := by
  unfold insensM
  rw [h]

theorem lit_eq {c : Ctx} {s : St} {rest : Str} (h : restAt c.input s.pos = some rest) (str : Str) :
    lit c s str =
      if str.isPrefixOf rest then .ok { s with pos := s.pos + bLen str } [] else .fail := by
  unfold lit
  rw [h]

theorem lit_none {c : Ctx} {s : St} (h : restAt c.input s.pos = none) (str : Str) :
    lit c s str = .fail := by
  unfold lit
  rw [h]

theorem lit_ns (c : Ctx) (s : St) (str : Str) : lit c s str ≠ .stuck := by
  unfold lit; split
  · split <;> simp
  · simp

theorem oneChar_ns (c : Ctx) (s : St) (p : Char → Bool) : oneChar c s p ≠ .stuck := by
  unfold oneChar; split
  · split <;> simp
  · simp

theorem oneChar_ne_fuel (c : Ctx) (s : St) (p : Char → Bool) : oneChar c s p ≠ .fuel := by
  unfold oneChar
  split
  · split <;> simp
  · simp

theorem lit_ne_fuel (c : Ctx) (s : St) (str : Str) : lit c s str ≠ .fuel := by
  unfold lit
  split
  · split <;> simp
  · simp

theorem insensM_ne_fuel (c : Ctx) (s : St) (str : Str) : insensM c s str ≠ .fuel := by
  unfold insensM
  split
  · split
    · split <;> simp
    · simp
  · simp

/-- the word `w` stands in the input at byte offset `a` (a character boundary). -/
def At (input : Str) (a : Nat) (w : Str) : Prop := ∃ post, restAt input a = some (w ++ post)

theorem At.nil {input : Str} {a : Nat} (h : (restAt input a).isSome = true) : At input a [] := by
  cases hr : restAt input a with
  | none => simp [hr] at h
  | some r => exact ⟨r, by simp [hr]⟩

theorem At.valid {input : Str} {a : Nat} {w : Str} (h : At input a w) : (restAt input a).isSome = true := by
  obtain ⟨post, hp⟩ := h; simp [hp]

theorem At.valid_end {input : Str} {a : Nat} {w : Str} (h : At input a w) :
    (restAt input (a + bLen w)).isSome = true := by
  obtain ⟨post, hp⟩ := h
  simp [restAt_advance hp rfl]

theorem At.append {input : Str} {a : Nat} {w1 w2 : Str} (h1 : At input a w1) (h2 : At input (a + bLen w1) w2) :
    At input a (w1 ++ w2) := by
  obtain ⟨p1, hp1⟩ := h1
  obtain ⟨p2, hp2⟩ := h2
  have := restAt_advance hp1 rfl
  rw [this] at hp2
  simp only [Option.some.injEq] at hp2
  exact ⟨p2, by rw [hp1, hp2]; simp⟩

theorem At.left {input : Str} {a : Nat} {w1 w2 : Str} (h : At input a (w1 ++ w2)) : At input a w1 := by
  obtain ⟨p, hp⟩ := h
  exact ⟨w2 ++ p, by rw [hp]; simp⟩

theorem At.right {input : Str} {a : Nat} {w1 w2 : Str} (h : At input a (w1 ++ w2)) : At input (a + bLen w1) w2 := by
  obtain ⟨p, hp⟩ := h
  exact ⟨p, restAt_advance hp (by simp)⟩

theorem At.slice {input : Str} {a : Nat} {w : Str} (h : At input a w) : slice? input a (a + bLen w) = some w := by
  obtain ⟨p, hp⟩ := h
  obtain ⟨pre, rfl, rfl⟩ := (restAt_iff _ _ _).1 hp
  have := PestModel.LineCol.slice_append pre w p
  simpa [List.append_assoc] using this

theorem At.valid_at {c : Ctx} {s s' : St} {w : Str} (h : At c.input s.pos w) (hp : s'.pos = s.pos + bLen w) :
    Valid c s' := by
  unfold Valid; rw [hp]; exact h.valid_end

theorem lit_word {c : Ctx} {s s' : St} {str : Str} {F : List Tree} (h : lit c s str = .ok s' F) :
    At c.input s.pos str ∧ s'.pos = s.pos + bLen str ∧ F = [] := by
  unfold lit at h
  split at h
  · rename_i rest hr
    split at h
    · rename_i hp
      simp only [Res.ok.injEq] at h
      obtain ⟨t, rfl⟩ := List.isPrefixOf_iff_prefix.1 hp
      exact ⟨⟨t, hr⟩, by rw [← h.1], h.2.symm⟩
    · simp at h
  · simp at h

theorem insensM_word {c : Ctx} {s s' : St} {str : Str} {F : List Tree} (h : insensM c s str = .ok s' F) :
    ∃ w, eqIgnoreAsciiCase w str = true ∧ At c.input s.pos w ∧ s'.pos = s.pos + bLen w ∧ bLen w = bLen str ∧ F = [] := by
  unfold insensM at h
  split at h
  · rename_i rest hr
    split at h
    · rename_i pre post hsp
      split at h
      · rename_i heq
        simp only [Res.ok.injEq] at h
        obtain ⟨hsplit, hlen⟩ := splitAt_some hsp
        exact ⟨pre, heq, ⟨post, by rw [hr, hsplit]⟩, by rw [← h.1, hlen], hlen, h.2.symm⟩
      · simp at h
    · simp at h
  · simp at h

theorem oneChar_word {c : Ctx} {s s' : St} {p : Char → Bool} {F : List Tree} (h : oneChar c s p = .ok s' F) :
    ∃ ch, p ch = true ∧ At c.input s.pos [ch] ∧ s'.pos = s.pos + bLen [ch] ∧ F = [] := by
  unfold oneChar at h
  split at h
  · rename_i ch t hr
    split at h
    · rename_i hp
      simp only [Res.ok.injEq] at h
      exact ⟨ch, hp, ⟨t, by simpa using hr⟩, by rw [← h.1]; simp, h.2.symm⟩
    · simp at h
  · simp at h

theorem matchStrs_word {input : Str} {xs : List Str} {pos p : Nat} (h : matchStrs input xs pos = some p) :
    ∃ w, (w = [] ∨ At input pos w) ∧ p = pos + bLen w := by
  induction xs generalizing pos with
  | nil =>
    simp only [matchStrs, Option.some.injEq] at h
    exact ⟨[], .inl rfl, by simp [h]⟩
  | cons x xs ih =>
    simp only [matchStrs] at h
    split at h
    · rename_i rest hr
      split at h
      · rename_i hp
        obtain ⟨t, rfl⟩ := List.isPrefixOf_iff_prefix.1 hp
        have hx : At input pos x := ⟨t, hr⟩
        obtain ⟨w, hw, rfl⟩ := ih h
        refine ⟨x ++ w, .inr ?_, by simp [Nat.add_assoc]⟩
        rcases hw with rfl | hw
        · simpa using hx
        · exact hx.append hw
      · simp at h
    · simp at h

/-- what `search` returns: `off + bLen skipped` where `rest = skipped ++ rest'`, no string matches at any
character boundary strictly inside `skipped`, and either `rest' = []` or some string matches at `rest'`. -/
theorem search_spec (strs : List Str) (rest : Str) (off : Nat) :
    ∃ skipped rest', rest = skipped ++ rest' ∧ search strs rest off = off + bLen skipped ∧
      (rest' ≠ [] → strs.any (·.isPrefixOf rest') = true) ∧
      (∀ k, k < skipped.length → strs.any (·.isPrefixOf (rest.drop k)) = false) := by
  induction rest generalizing off with
  | nil => exact ⟨[], [], rfl, by simp [search], by simp, by simp⟩
  | cons c cs ih =>
    unfold search
    by_cases hc : strs.any (·.isPrefixOf (c :: cs)) = true
    · rw [if_pos hc]
      exact ⟨[], c :: cs, rfl, by simp, fun _ => hc, by simp⟩
    · rw [if_neg hc]
      obtain ⟨sk, r', hr, h1, h2, h3⟩ := ih (off + cLen c)
      refine ⟨c :: sk, r', by simp [hr], by rw [h1]; simp; omega, h2, ?_⟩
      intro k hk
      cases k with
      | zero => simpa using hc
      | succ k => simpa using h3 k (by simpa using hk)

theorem search_word {input rest : Str} {pos : Nat} (strs : List Str) (h : restAt input pos = some rest) :
    ∃ w, At input pos w ∧ search strs rest pos = pos + bLen w := by
  obtain ⟨sk, r', hr, h1, _, _⟩ := search_spec strs rest pos
  exact ⟨sk, ⟨r', hr ▸ h⟩, h1⟩

/-- `"a" ~ "b"` (no implicit whitespace) is `"ab"`. -/
theorem lit_append (c : Ctx) (s : St) (a b : Str) :
    lit c s (a ++ b) = match lit c s a with
      | .ok s1 _ => lit c s1 b
      | r => r := by
  cases hr : restAt c.input s.pos with
  | none => rw [lit_none hr, lit_none hr]
  | some rest =>
    rw [lit_eq hr (a ++ b), lit_eq hr a]
    by_cases ha : a.isPrefixOf rest = true
    · obtain ⟨t, rfl⟩ := List.isPrefixOf_iff_prefix.1 ha
      rw [if_pos ha]
      simp only
      have hr1 : restAt c.input ({ s with pos := s.pos + bLen a } : St).pos = some t :=
        restAt_advance hr rfl
      rw [lit_eq hr1 b]
      have hiff : (a ++ b).isPrefixOf (a ++ t) = b.isPrefixOf t := by
        rw [Bool.eq_iff_iff]
        simp [List.isPrefixOf_iff_prefix, List.prefix_append_right_inj]
      rw [hiff]
      simp [Nat.add_assoc]
    · have hab : ¬ (a ++ b).isPrefixOf rest = true := by
        intro hc
        apply ha
        rw [List.isPrefixOf_iff_prefix] at hc ⊢
        exact List.IsPrefix.trans (by simp) hc
      rw [if_neg ha, if_neg hab]

theorem insensM_append (c : Ctx) (s : St) (a b : Str) :
    insensM c s (a ++ b) = match insensM c s a with
      | .ok s1 _ => insensM c s1 b
      | r => r := by
  cases hr : restAt c.input s.pos with
  | none => rw [insensM_none hr, insensM_none hr]
  | some rest =>
    rw [insensM_eq hr (a ++ b), insensM_eq hr a]
    by_cases ha : InsMatch rest a
    · rw [if_pos ha]
      simp only
      have hr1 : restAt c.input ({ s with pos := s.pos + bLen a } : St).pos = some (rest.drop a.length) := by
        have := restAt_advance hr (List.take_append_drop a.length rest).symm
        rw [ha.bLen_take] at this
        exact this
      rw [insensM_eq hr1 b]
      by_cases hb : InsMatch (rest.drop a.length) b
      · rw [if_pos hb, if_pos ((insMatch_append rest a b).2 ⟨ha, hb⟩)]
        simp [Nat.add_assoc]
      · rw [if_neg hb, if_neg (fun h => hb ((insMatch_append rest a b).1 h).2)]
    · rw [if_neg ha, if_neg (fun h => ha ((insMatch_append rest a b).1 h).1)]

end PestModel.Ref
