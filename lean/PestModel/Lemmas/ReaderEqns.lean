import PestModel.Model.ReaderFull
/-! What the functions of `ReaderFull` compute on the forms of input the proofs meet: `build` on a node, `nodeOf` per kind
of its pair, `dropLead`, the postfix fold. -/
namespace PestModel.ReaderFull
open PestModel.G PestModel.Reader
open PestModel.Views (Tree sizeList)
open PestModel.LineCol (Str)

/-- `o'` answers wherever `o` does: the order under which more fuel gives more answers. -/
theorem bind_some_of_le {α β : Type} {o o' : Option α} {f : α → Option β} {b : β} (h : ∀ a, o = some a → o' = some a)
    (he : o.bind f = some b) : o'.bind f = some b := by
  obtain ⟨a, ha, hb⟩ := Option.bind_eq_some_iff.1 he
  rw [h a ha]; exact hb

theorem map_some_of_le {α β : Type} {o o' : Option α} {f : α → β} {b : β} (h : ∀ a, o = some a → o' = some a)
    (he : o.map f = some b) : o'.map f = some b := by
  obtain ⟨a, ha, hb⟩ := Option.map_eq_some_iff.1 he
  rw [h a ha]; exact congrArg some hb

theorem build_leaf_some {prims : List (Option Expr)} {i : Nat} {e : Expr} :
    build prims (.leaf i) = some e ↔ prims[i]? = some (some e) := by
  simp only [build]
  rcases prims[i]? with _ | _ | x <;> simp

theorem build_seq_some {prims : List (Option Expr)} {a b : Bin} {e : Expr} :
    build prims (.seq a b) = some e ↔ ∃ x y, build prims a = some x ∧ build prims b = some y ∧ e = .seq x y := by
  simp only [build]
  cases build prims a <;> cases build prims b <;> simp [eq_comm]

theorem build_alt_some {prims : List (Option Expr)} {a b : Bin} {e : Expr} :
    build prims (.alt a b) = some e ↔ ∃ x y, build prims a = some x ∧ build prims b = some y ∧ e = .choice x y := by
  simp only [build]
  cases build prims a <;> cases build prims b <;> simp [eq_comm]

theorem dropLead_cons_choice {l : Tree} {r : List Tree} (h : kind l = "choice_operator") : dropLead (l :: r) = r := by
  simp [dropLead, h]

theorem dropLead_cons_of_ne {t : Tree} {r : List Tree} (h : kind t ≠ "choice_operator") : dropLead (t :: r) = t :: r := by
  simp [dropLead, h]

theorem sizeList_dropLead_le (ps : List Tree) : sizeList (dropLead ps) ≤ sizeList ps := by
  unfold dropLead
  split
  · split
    · simp only [sizeList]; omega
    · exact Nat.le_refl _
  · exact Nat.le_refl _

/-- a `closing_paren` among the postfix operators is skipped. -/
theorem postfixOp_closing {text : Str} {n : Expr} {c : Tree} (hc : kind c = "closing_paren") :
    postfixOp text n c = some n := by
  simp [postfixOp, hc]

/-- the kinds of pair that `nodeOf` hands to `leafNode`. -/
def LeafKind (k : String) : Prop :=
  k = "_push_literal" ∨ k = "peek_slice" ∨ k = "identifier" ∨ k = "string" ∨ k = "insensitive_string" ∨ k = "range"

theorem LeafKind.ne {k : String} (h : LeafKind k) :
    k ≠ "opening_paren" ∧ k ≠ "positive_predicate_operator" ∧ k ≠ "negative_predicate_operator" ∧ k ≠ "expression" ∧
      k ≠ "_push" ∧ k ≠ "assignment_operator" := by
  rcases h with rfl | rfl | rfl | rfl | rfl | rfl <;> decide

theorem peekSlice_some {text : Str} {cs : List Tree} {x : Expr} (h : peekSlice text cs = some x) :
    ∃ a b, x = .peekSlice a b := by
  unfold peekSlice at h
  simp only [] at h
  repeat' split at h
  all_goals first
    | (obtain ⟨_, _, rfl⟩ := Option.map_eq_some_iff.1 h; exact ⟨_, _, rfl⟩)
    | (cases h; exact ⟨_, _, rfl⟩)
    | (cases h; done)

/-- one disjunct per branch of `leafNode`; only the `identifier` branch keeps where the value comes from. -/
theorem leafNode_some {extras : Bool} {text : Str} {t : Tree} {x : Expr} (h : leafNode extras text t = some x) :
    (extras = true ∧ ∃ s, x = .pushLiteral s) ∨ (∃ a b, x = .peekSlice a b) ∨
    (kind t = "identifier" ∧ ∃ s, strOf text t = some s ∧ x = .ident (String.ofList s)) ∨
    (∃ s, x = .str s) ∨ (∃ s, x = .insens s) ∨ (∃ c d, x = .range c d) := by
  unfold leafNode at h
  simp only [] at h
  repeat' split at h
  all_goals first
    | (have := peekSlice_some h; simp_all; done)
    | (obtain ⟨_, _, rfl⟩ := Option.map_eq_some_iff.1 h; simp_all; done)
    | (cases h; simp; done)
    | (cases h; done)

section nodeOf
variable {extras : Bool} {text : Str} {ce un : List Tree → Option Expr} {p : Tree} {rest : List Tree}

theorem nodeOf_paren (hk : kind p = "opening_paren") : nodeOf extras text ce un p rest = un rest := by
  simp [nodeOf, hk]

theorem nodeOf_pos (hk : kind p = "positive_predicate_operator") :
    nodeOf extras text ce un p rest = (un rest).map .posPred := by
  simp [nodeOf, hk]

theorem nodeOf_neg (hk : kind p = "negative_predicate_operator") :
    nodeOf extras text ce un p rest = (un rest).map .negPred := by
  simp [nodeOf, hk]

theorem nodeOf_expression (hk : kind p = "expression") :
    nodeOf extras text ce un p rest = (ce p.children).bind fun n => postfixes text n rest := by
  simp only [nodeOf, hk]
  cases ce p.children <;> simp

theorem nodeOf_push {o e : Tree} {cs : List Tree} (hk : kind p = "_push") (hc : p.children = o :: e :: cs) :
    nodeOf extras text ce un p rest = (ce e.children).bind fun n => postfixes text (.push n) rest := by
  simp only [nodeOf, hk, hc]
  cases ce e.children <;> simp

theorem nodeOf_leaf (h1 : kind p ≠ "opening_paren") (h2 : kind p ≠ "positive_predicate_operator")
    (h3 : kind p ≠ "negative_predicate_operator") (h4 : kind p ≠ "expression") (h5 : kind p ≠ "_push") :
    nodeOf extras text ce un p rest = (leafNode extras text p).bind fun n => postfixes text n rest := by
  simp only [nodeOf, h1, h2, h3, h4, h5]
  cases leafNode extras text p <;> simp

end nodeOf

/-- `ruleParts` on `identifier ~ assignment_operator ~ modifier? ~ opening_brace ~ expression ~ closing_brace`. -/
theorem ruleParts_shape {text : Str} {t id asg ob e cb : Tree} {mods : List Tree} {w : Str} {ty : RuleType}
    (hc : t.children = id :: asg :: (mods ++ [ob, e, cb])) (hob : kind ob = "opening_brace")
    (hm : (mods = [] ∧ ty = .normal) ∨ ∃ m, mods = [m] ∧ modifierOf (kind m) = some ty)
    (hw : strOf text id = some w) (hne : e.children ≠ []) :
    ruleParts text t = some (String.ofList w, ty, e.children) := by
  rcases hm with ⟨rfl, rfl⟩ | ⟨m, rfl, hmo⟩
  · simp only [ruleParts, hc, List.nil_append, hob, ne_eq, not_true_eq_false, if_false, hw]
  · have hne' : kind m ≠ "opening_brace" := by
      intro hk; rw [hk] at hmo; cases hmo
    simp only [ruleParts, hc, List.cons_append, List.nil_append, ne_eq, hne', not_false_eq_true, if_true, hmo,
      Option.map_some, hw]

section rulesGo
variable {extras : Bool} {text : Str} {fuel : Nat} {t c : Tree} {cs ts : List Tree}

theorem consumeRulesGo_other (hk : kind t ≠ "grammar_rule") :
    consumeRulesGo extras text fuel (t :: ts) = consumeRulesGo extras text fuel ts := by
  simp only [consumeRulesGo, hk, if_false]

theorem consumeRulesGo_nochild (hk : kind t = "grammar_rule") (hc : t.children = []) :
    consumeRulesGo extras text fuel (t :: ts) = none := by
  simp only [consumeRulesGo, hk, if_true, hc]

theorem consumeRulesGo_doc (hk : kind t = "grammar_rule") (hc : t.children = c :: cs) (hl : kind c = "line_doc") :
    consumeRulesGo extras text fuel (t :: ts) = consumeRulesGo extras text fuel ts := by
  simp only [consumeRulesGo, hk, if_true, hc, hl]

theorem consumeRulesGo_rule (hk : kind t = "grammar_rule") (hc : t.children = c :: cs) (hl : kind c ≠ "line_doc") :
    consumeRulesGo extras text fuel (t :: ts) =
      (consumeRule extras text fuel t).bind fun r => (consumeRulesGo extras text fuel ts).map (r :: ·) := by
  simp only [consumeRulesGo, hk, if_true, hc, hl, if_false]
  cases consumeRule extras text fuel t <;> cases consumeRulesGo extras text fuel ts <;> rfl

end rulesGo

end PestModel.ReaderFull
