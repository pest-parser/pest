import PestModel.Lemmas.VmRefComb
import PestModel.Thm.C03Prim
/-! C01: the matching primitives (and `stackPushLiteral`) against the reference's leaves. -/
namespace PestModel.VmRef
open PestModel.G PestModel.PS PestModel.Lower PestModel.Ref PestModel.Views
open PestModel.LineCol (Str isBoundary bLen cLen splitAt? slice?)
open PestModel.Stack (StkInv)

variable {cfg : Cfg} {c : Ctx}

/-- a terminal that moves to `pos'` on success and stays on failure. -/
theorem outSpec_terminal {m la} {st : PState} {σ : St} (hs : Sim c.input m la st σ) (tok : Option PTok)
    (b : Bool) (adv : Nat) :
    OutSpec (terminal st (some (if b then (true, st.pos + adv) else (false, st.pos))) tok) st
      (if b then .ok { σ with pos := σ.pos + adv } [] else .fail) := by
  cases b with
  | true =>
    obtain ⟨pa', he, -⟩ := terminal_some st true (st.pos + adv) tok
    rw [if_pos rfl, he, if_pos rfl, if_pos rfl]
    exact .ok_nil (by show st.pos + adv = σ.pos + adv; rw [hs.pos]) hs.stk rfl
  | false =>
    obtain ⟨pa', he, -⟩ := terminal_some st false st.pos tok
    simp only [Bool.false_eq_true, if_false]
    rw [he]
    exact rfl

theorem Sim.restAt {m la} {st : PState} {σ : St} (hs : Sim c.input m la st σ) :
    ∃ rest, restAt c.input st.pos = some rest ∧ restAt c.input σ.pos = some rest := by
  obtain ⟨rest, h⟩ := restAt_isSome hs.bnd
  exact ⟨rest, h, by rw [← hs.pos]; exact h⟩

theorem outSpec_matchString {m la} {st : PState} {σ : St} (hs : Sim c.input m la st σ) (str : Str)
    (tok : Option PTok) :
    OutSpec (terminal st (posMatchString st.input st.pos str) tok) st (lit c σ str) := by
  obtain ⟨rest, h1, h2⟩ := hs.restAt
  rw [hs.inp, posMatchString_eq str h1, lit_eq h2]
  have := outSpec_terminal hs tok (str.isPrefixOf rest) (bLen str)
  cases hb : str.isPrefixOf rest <;> rw [hb] at this <;> simpa using this

theorem spec_matchString {n m la} (str : Str) :
    Spec cfg c.input n (.matchString str) m la (fun σ => lit c σ str) :=
  Spec.of_succ fun k _ st σ hs => by
    rw [run]; exact outSpec_matchString hs str _

theorem spec_matchInsensitive {n m la} (str : Str) :
    Spec cfg c.input n (.matchInsensitive str) m la (fun σ => insensM c σ str) :=
  Spec.of_succ fun k _ st σ hs => by
    rw [run]
    obtain ⟨rest, h1, h2⟩ := hs.restAt
    unfold posMatchInsensitive insensM
    rw [hs.inp, h1, h2]
    dsimp only
    cases hsp : splitAt? rest (bLen str) with
    | none =>
      dsimp only
      have := outSpec_terminal hs (some (.insens str)) false 0
      simpa using this
    | some pq =>
      obtain ⟨pre, post⟩ := pq
      dsimp only
      have := outSpec_terminal hs (some (.insens str)) (eqIgnoreAsciiCase pre str) (bLen str)
      cases hb : eqIgnoreAsciiCase pre str <;> rw [hb] at this <;> simpa using this

theorem outSpec_oneChar {m la} {st : PState} {σ : St} (hs : Sim c.input m la st σ) (tok : Option PTok)
    (p : Char → Bool) (r : Option (Bool × Nat))
    (hr : ∀ rest, restAt c.input st.pos = some rest →
      r = some (match rest with
        | [] => (false, st.pos)
        | ch :: _ => if p ch then (true, st.pos + cLen ch) else (false, st.pos))) :
    OutSpec (terminal st r tok) st (oneChar c σ p) := by
  obtain ⟨rest, h1, h2⟩ := hs.restAt
  rw [hr rest h1]
  unfold oneChar
  rw [h2]
  cases rest with
  | nil =>
    have := outSpec_terminal hs tok false 0
    simpa using this
  | cons ch cs =>
    dsimp only
    have := outSpec_terminal hs tok (p ch) (cLen ch)
    cases hb : p ch <;> rw [hb] at this <;> simpa using this

theorem spec_matchRange {n m la} (a b : Char) :
    Spec cfg c.input n (.matchRange a b) m la (fun σ => oneChar c σ (fun ch => a ≤ ch ∧ ch ≤ b)) :=
  Spec.of_succ fun k _ st σ hs => by
    rw [run]
    refine outSpec_oneChar hs _ _ _ fun rest hrest => ?_
    rw [hs.inp, C03.matchRange_spec _ _ _ _ _ hrest]
    cases rest with
    | nil => rfl
    | cons ch cs => simp only [Bool.decide_and, Bool.and_eq_true, decide_eq_true_eq]

theorem spec_matchCharBy {n m la} (cs : CharSet) :
    Spec cfg c.input n (.matchCharBy cs) m la (fun σ => oneChar c σ cs.mem) :=
  Spec.of_succ fun k _ st σ hs => by
    rw [run]
    refine outSpec_oneChar hs _ _ _ fun rest hrest => ?_
    rw [hs.inp, C03.matchCharBy_spec _ _ _ _ hrest]
    cases rest <;> rfl

theorem spec_skip1 {n m la} :
    Spec cfg c.input n (.skip 1) m la (fun σ => oneChar c σ (fun _ => true)) :=
  Spec.of_succ fun k _ st σ hs => by
    rw [run]
    refine outSpec_oneChar hs _ _ _ fun rest hrest => ?_
    rw [hs.inp, (C03.skip_spec _ _ _ 1 hrest).1]
    cases rest with
    | nil => simp
    | cons ch cs => simp [bLen]

theorem skipUntilBasicGo_eq_search (strs : List Str) (rest : Str) (off : Nat) :
    (skipUntilBasicGo strs rest off).1 = search strs rest off := by
  induction rest generalizing off with
  | nil => rfl
  | cons ch cs ih =>
    unfold skipUntilBasicGo search
    split
    · rfl
    · exact ih _

theorem spec_skipUntil {n m la} (strs : List Str) :
    Spec cfg c.input n (.skipUntil strs) m la
      (fun σ => match restAt c.input σ.pos with
        | some rest => .ok { σ with pos := search strs rest σ.pos } []
        | none => .fail) :=
  Spec.of_succ fun k _ st σ hs => by
    rw [run]
    obtain ⟨rest, h1, h2⟩ := hs.restAt
    have e : posSkipUntil cfg.memchr st.input st.pos strs = some (search strs rest st.pos) := by
      have : posSkipUntil cfg.memchr st.input st.pos strs = posSkipUntil false st.input st.pos strs := by
        cases cfg.memchr
        · rfl
        · exact C03.skipUntil_memchr_eq_basic _ _ _
      rw [this, hs.inp]
      unfold posSkipUntil
      rw [h1]
      simp [skipUntilBasicGo_eq_search]
    rw [e, h2]
    exact .ok_nil (by show search strs rest st.pos = search strs rest σ.pos; rw [hs.pos]) hs.stk rfl

theorem spec_startOfInput {n m la} :
    Spec cfg c.input n .startOfInput m la (fun σ => if σ.pos = 0 then .ok σ [] else .fail) :=
  Spec.of_succ fun k _ st σ hs => by
    rw [run, hs.pos]
    split
    · exact .ok_nil hs.pos hs.stk rfl
    · exact rfl

theorem spec_endOfInput {n m la} :
    Spec cfg c.input n .endOfInput m la (fun σ => if σ.pos = bLen c.input then .ok σ [] else .fail) :=
  Spec.of_succ fun k _ st σ hs => by
    rw [run, hs.pos, hs.inp]
    split
    · exact .ok_nil hs.pos hs.stk rfl
    · exact rfl

theorem spec_stackPushLiteral {n m la} (str : Str) :
    Spec cfg c.input n (.stackPushLiteral str) m la
      (fun σ => .ok { σ with stack := str :: σ.stack } []) :=
  Spec.of_succ fun k _ st σ hs => by
    rw [run]
    exact .ok_nil hs.pos (by show str :: st.stack.cache = str :: σ.stack; rw [hs.stk]) rfl

end PestModel.VmRef
