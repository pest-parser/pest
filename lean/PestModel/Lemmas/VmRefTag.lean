import PestModel.Lemmas.VmRefEnv
import PestModel.Lemmas.VmRefStk
/-! C01: an expression that `emits` produces a non-empty forest (so a node tag lands on its own last
token). -/
namespace PestModel.VmRef
open PestModel.G PestModel.PS PestModel.Lower PestModel.Ref PestModel.Views
open PestModel.LineCol (Str)

theorem emits_spec (env : Env) (extras : Bool) (input : Str) (m : Atomicity) (e : OExpr) :
    emits env.rules m e = true → NonEmpty (val (mkCtx env extras input) m false (ofOptimized e)) := by
  induction e with
  | ident n =>
    intro h
    unfold emits at h
    cases hidx : env.index n with
    | none =>
      rw [(index_none (extras := extras) (input := input) hidx).2.2] at h
      cases h
    | some i =>
      obtain ⟨r, -, -, -, hrule, hfind⟩ := index_some (extras := extras) (input := input) hidx
      rw [hfind] at h
      dsimp only at h
      rw [ofOptimized, val_step, denoteF_ident]
      show NonEmpty (valCa _ m false n)
      rw [valCa_step, callF_eq, hrule]
      dsimp only [oruleToRule]
      rw [h]
      exact .ruleD_true
  | seq a b iha ihb =>
    intro h
    simp only [emits, Bool.or_eq_true] at h
    rw [ofOptimized, val_step, denoteF_seq]
    exact h.elim (fun h => .seqD_left (.seqD_left (iha h))) fun h => .seqD_right (ihb h)
  | choice a b iha ihb =>
    intro h
    simp only [emits, Bool.and_eq_true] at h
    rw [ofOptimized, val_step, denoteF_choice]
    exact .altD (iha h.1) (ihb h.2)
  | push e ih =>
    intro h
    rw [ofOptimized, val_step, denoteF_push]
    exact .pushD (ih (by simpa only [emits] using h))
  | restoreOnErr e ih =>
    intro h
    exact ih (by simpa [emits] using h)
  | nodeTag e t ih =>
    intro h
    rw [ofOptimized, val_step, denoteF_nodeTag]
    exact .tagD (ih (by simpa only [emits] using h))
  | repOnce e ih =>
    intro h
    have he := ih (by simpa only [emits] using h)
    rw [ofOptimized, val_step]
    rcases Bool.eq_false_or_eq_true extras with hx | hx
    · rw [denoteF_repOnce _ (reg_V _) m false (by exact hx)]
      exact .seqD_left he
    · rw [denoteF_repOnce_plain _ _ m false (by exact hx)]
      show NonEmpty (val _ m false _)
      rw [val_step, denoteF_seq]
      exact .seqD_left (.seqD_left he)
  | _ => intro h; simp [emits] at h

end PestModel.VmRef
