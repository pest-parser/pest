import PestModel.Lemmas.GenVmSim
import PestModel.Lemmas.VmRefEnv
/-! C02: slots of the lowered environment, for both back-ends. -/
namespace PestModel.GenVm
open PestModel.PS PestModel.Lower PestModel.G
open PestModel.VmRef (ctxIdx_lt contexts_ctxIdx)

def lowerRule (b : Backend) (env : Env) (i : Nat) (r : ORule) (c : Atomicity) : Prog :=
  match b with | .vm => vmRule env i r c | .gen => genRule env i r c

theorem lowerAll_go_get (b : Backend) (env : Env) : ∀ (rs : List ORule) (i k : Nat) (m : Atomicity),
    (lowerAll.go b env rs i)[3 * k + ctxIdx m]? = (rs[k]?).map fun r => lowerRule b env (i + k) r m
  | [], i, k, m => by simp [lowerAll.go]
  | r :: rs, i, k, m => by
    rw [lowerAll.go]
    cases k with
    | zero =>
      have := ctxIdx_lt m
      rw [List.getElem?_append_left (by simp only [List.length_map, contexts, List.length_cons, List.length_nil]; omega)]
      simp only [Nat.mul_zero, Nat.zero_add, List.getElem?_map, contexts_ctxIdx, Option.map_some,
        List.getElem?_cons_zero, Nat.add_zero]
      rfl
    | succ k =>
      rw [List.getElem?_append_right (by simp only [List.length_map, contexts, List.length_cons, List.length_nil]; omega)]
      simp only [List.length_map, contexts, List.length_cons, List.length_nil]
      have : 3 * (k + 1) + ctxIdx m - 3 = 3 * k + ctxIdx m := by omega
      rw [this, lowerAll_go_get b env rs (i + 1) k m, List.getElem?_cons_succ]
      have : i + 1 + k = i + (k + 1) := by omega
      rw [this]

theorem lowerAll_get (b : Backend) (env : Env) (i : Nat) (m : Atomicity) :
    (lowerAll b env)[3 * i + ctxIdx m]? = (env.rules[i]?).map fun r => lowerRule b env i r m := by
  show (lowerAll.go b env env.rules 0)[3 * i + ctxIdx m]? = _
  rw [lowerAll_go_get]
  simp

theorem slot_decomp (j : Nat) : ∃ i m, j = 3 * i + ctxIdx m := by
  have h : j % 3 < 3 := Nat.mod_lt _ (by decide)
  have hj : j = 3 * (j / 3) + j % 3 := (Nat.div_add_mod j 3).symm
  rcases (by omega : j % 3 = 0 ∨ j % 3 = 1 ∨ j % 3 = 2) with h0 | h1 | h2
  · exact ⟨j / 3, .nonAtomic, by rw [ctxIdx]; omega⟩
  · exact ⟨j / 3, .atomic, by rw [ctxIdx]; omega⟩
  · exact ⟨j / 3, .compound, by rw [ctxIdx]; omega⟩

end PestModel.GenVm
