import PestModel.Model.Unicode
/-!
Generic lemmas lifting bit-set facts (`bitsOf`, `partitionCheck`, `disjointCheck`, `unionBits`) to
pointwise statements about every code point, and a way of deciding `namesCheck` that reads each name once.
The tables are only variables here.
-/
namespace PestModel.Unicode

theorem testBit_range (lo hi cp : Nat) :
    ((((1 <<< (hi + 1 - lo)) - 1) <<< lo).testBit cp) = decide (lo ≤ cp ∧ cp ≤ hi) := by
  rw [Nat.testBit_shiftLeft, Nat.one_shiftLeft, Nat.testBit_two_pow_sub_one, ← Bool.decide_and]
  exact decide_eq_decide.mpr (by omega)

theorem testBit_foldl_bits (rs : Ranges) (acc cp : Nat) :
    (rs.foldl (fun acc (p : Nat × Nat) => acc ||| (((1 <<< (p.2 + 1 - p.1)) - 1) <<< p.1)) acc).testBit cp
      = (acc.testBit cp || mem rs cp) := by
  induction rs generalizing acc with
  | nil => simp [mem]
  | cons p rest ih =>
    rw [List.foldl_cons, ih, Nat.testBit_or, testBit_range]
    simp [mem, Bool.or_assoc]

theorem testBit_bitsOf (rs : Ranges) (cp : Nat) : (bitsOf rs).testBit cp = mem rs cp := by
  have := testBit_foldl_bits rs 0 cp
  simpa [bitsOf] using this

theorem scalarMask_testBit (cp : Nat) : scalarMask.testBit cp = isScalar cp := by
  rw [scalarMask, testBit_bitsOf]
  simp only [mem, isScalar, List.any_cons, List.any_nil, Bool.or_false]
  rw [← Bool.decide_or]
  apply decide_eq_decide.mpr
  omega

theorem and_eq_zero_testBit {a b : Nat} (h : a &&& b = 0) (cp : Nat) :
    (a.testBit cp && b.testBit cp) = false := by
  have := congrArg (Nat.testBit · cp) h
  simpa [Nat.testBit_and] using this

/-- Of sets that `disjointCheck.go` accepts, at most one contains `cp`, and none if `acc` does. -/
theorem disjoint_go_lift (cp : Nat) : ∀ (sets : List Nat) (acc : Nat), disjointCheck.go sets acc = true →
    (sets.filter (·.testBit cp)).length ≤ if acc.testBit cp then 0 else 1
  | [], _, _ => by split <;> simp
  | s :: rest, acc, h => by
    simp only [disjointCheck.go, Bool.and_eq_true, beq_iff_eq] at h
    have hd := and_eq_zero_testBit h.1 cp
    have := disjoint_go_lift cp rest _ h.2
    rw [Nat.testBit_or] at this
    rw [List.filter_cons]
    cases ha : acc.testBit cp <;> cases hm : s.testBit cp <;> simp_all

/-- `partitionCheck` is `disjointCheck` and the union being `total`. -/
theorem partitionCheck_go_eq (total : Nat) : ∀ (sets : List Nat) (acc : Nat),
    partitionCheck.go total sets acc = (disjointCheck.go sets acc && (sets.foldl (· ||| ·) acc == total))
  | [], _ => by simp [partitionCheck.go, disjointCheck.go]
  | s :: rest, acc => by
    simp [partitionCheck.go, disjointCheck.go, partitionCheck_go_eq total rest, Bool.and_assoc]

theorem testBit_foldl_or (sets : List Nat) (acc cp : Nat) :
    (sets.foldl (· ||| ·) acc).testBit cp = (acc.testBit cp || sets.any (·.testBit cp)) := by
  induction sets generalizing acc with
  | nil => simp
  | cons p rest ih => rw [List.foldl_cons, ih, Nat.testBit_or]; simp [Bool.or_assoc]

theorem disjoint_lift (sets : List Ranges) (h : disjointCheck (sets.map bitsOf) = true) (cp : Nat) :
    (sets.filter (mem · cp)).length ≤ 1 := by
  have := disjoint_go_lift cp _ 0 h
  simpa [List.filter_map, Function.comp_def, testBit_bitsOf] using this

theorem partition_lift (sets : List Ranges) (total : Nat)
    (h : partitionCheck (sets.map fun rs => bitsOf rs &&& total) total = true)
    (cp : Nat) (hcp : total.testBit cp = true) : (sets.filter (mem · cp)).length = 1 := by
  rw [partitionCheck, partitionCheck_go_eq, Bool.and_eq_true, beq_iff_eq] at h
  have h1 := disjoint_go_lift cp _ 0 h.1
  have h2 := congrArg (·.testBit cp) h.2
  simp only [testBit_foldl_or, hcp] at h2
  simp [List.filter_map, Function.comp_def, testBit_bitsOf, hcp] at h1 h2
  obtain ⟨x, hx, hm⟩ := h2
  have := List.length_pos_of_mem (List.mem_filter (p := fun x => mem x cp).mpr ⟨hx, hm⟩)
  omega

theorem union_lift (g : Ranges) (parts : List Ranges) (h : bitsOf g = unionBits (parts.map bitsOf))
    (cp : Nat) : mem g cp = parts.any (mem · cp) := by
  rw [← testBit_bitsOf, h, unionBits, testBit_foldl_or]
  simp [Function.comp_def, testBit_bitsOf]

theorem groups_lift (gs : List (Ranges × List Ranges))
    (h : (gs.all fun (g, parts) => bitsOf g == unionBits (parts.map bitsOf)) = true)
    (g : Ranges) (parts : List Ranges) (hg : (g, parts) ∈ gs) (cp : Nat) :
    mem g cp = parts.any (mem · cp) := by
  rw [List.all_eq_true] at h
  have := h _ hg
  exact union_lift g parts (by simpa using this) cp

/-! ### `namesCheck` at the cost of reading each name once

For the kernel a string literal is a list of characters that has to be UTF-8 encoded, through `UInt8`
arithmetic, before anything can be asked of it: that is nearly all `namesCheck` costs, since `byName`
upper-cases and compares strings at every entry of every look-up. `namesFast` reads the bytes of each name
once. It upper-cases them as numbers (`upOk`), compares names as numbers (`key`), and uses that `allByName`
lists the groups one after the other, each in the order of its advertised names: a name is looked for among
the upper-cased names of the earlier groups, where it must be absent, and then by one walk (`walk`) along
those of its own group. `advOk_of_namesFast` says that this decides what `namesCheck` asks. -/

def bytes (s : String) : List UInt8 := s.toByteArray.data.toList

theorem bytes_inj {s t : String} (h : bytes s = bytes t) : s = t :=
  String.toByteArray_inj.mp (ByteArray.ext (Array.ext' h))

/-- bijective base 256: one number per byte string. -/
def keyOf : List UInt8 → Nat
  | [] => 0
  | b :: bs => keyOf bs * 256 + b.toNat + 1

theorem keyOf_inj : ∀ {a b : List UInt8}, keyOf a = keyOf b → a = b
  | [], [], _ => rfl
  | [], _ :: _, h | _ :: _, [], h => by simp only [keyOf] at h; omega
  | x :: a, y :: b, h => by
    simp only [keyOf] at h
    have hx := x.toNat_lt; have hy := y.toNat_lt
    rw [keyOf_inj (a := a) (b := b) (by omega), UInt8.toNat_inj.mp (by omega : x.toNat = y.toNat)]

def key (s : String) : Nat := keyOf (bytes s)

theorem key_inj {s t : String} (h : key s = key t) : s = t := bytes_inj (keyOf_inj h)

theorem toUpper_ofList (l : List Char) : (String.ofList l).toUpper = String.ofList (l.map Char.toUpper) :=
  String.ext (by rw [String.toUpper, String.toList_map, String.toList_ofList, String.toList_ofList])

/-- `Char.toUpper` on the code of an ASCII character; no byte for any other code. -/
def upN (n : Nat) : Nat := if n < 128 then (if 97 ≤ n ∧ n ≤ 122 then n - 32 else n) else 256

/-- Only an ASCII code goes to the code of a byte, and then to an ASCII one. -/
theorem upN_lt {n : Nat} (h : upN n < 256) : n < 128 ∧ upN n < 128 := by
  unfold upN at h ⊢
  split at h
  · next h3 => rw [if_pos h3]; exact ⟨h3, by split <;> omega⟩
  · omega

/-- An ASCII character is its own UTF-8 encoding, and `upN` upper-cases it. -/
theorem ascii_char : ∀ n < 128, String.utf8EncodeChar (Char.ofNat n) = [UInt8.ofNat n] ∧
    (Char.ofNat n).toUpper = Char.ofNat (upN n) := by decide +kernel

theorem ofList_bytes {s : String} (h : ∀ b ∈ bytes s, b.toNat < 128) :
    String.ofList ((bytes s).map fun b => Char.ofNat b.toNat) = s := by
  apply bytes_inj
  rw [bytes, String.toByteArray_ofList, List.utf8Encode, List.toList_data_toByteArray, List.flatMap_map]
  generalize bytes s = l at h
  induction l with
  | nil => rfl
  | cons b l ih =>
    rw [List.flatMap_cons, (ascii_char _ (h b (.head _))).1, ih fun x hx => h x (.tail _ hx), UInt8.ofNat_toNat]
    rfl

/-- `lo.toUpper = up`, decided on the bytes of two ASCII strings. (No table entry is anything else.) -/
def upOk (lo up : String) : Bool := (bytes lo).map (upN ·.toNat) == (bytes up).map (·.toNat)

theorem upOk_sound {lo up : String} (h : upOk lo up = true) : lo.toUpper = up := by
  have he := beq_iff_eq.mp h
  have hl : ∀ b ∈ bytes lo, b.toNat < 128 := fun b hb => by
    have hm : upN b.toNat ∈ (bytes up).map (·.toNat) := he ▸ List.mem_map_of_mem (f := fun b => upN b.toNat) hb
    obtain ⟨b', _, hb'⟩ := List.mem_map.mp hm
    exact (upN_lt (hb' ▸ b'.toNat_lt)).1
  have hu : ∀ b' ∈ bytes up, b'.toNat < 128 := fun b' hb' => by
    have hm : b'.toNat ∈ (bytes lo).map (upN ·.toNat) := he ▸ List.mem_map_of_mem (f := (·.toNat)) hb'
    obtain ⟨b, _, hb⟩ := List.mem_map.mp hm
    exact hb ▸ (upN_lt (hb ▸ b'.toNat_lt)).2
  rw [← ofList_bytes hl, toUpper_ofList, ← ofList_bytes hu, List.map_map]
  have := congrArg (List.map Char.ofNat) he
  rw [List.map_map, List.map_map] at this
  exact congrArg _ ((List.map_congr_left fun b hb => (ascii_char _ (hl b hb)).2).trans this)

/-- `xs` is found in `ys`, in this order. -/
def walk : List Nat → List Nat → Bool
  | [], _ => true
  | _ :: _, [] => false
  | x :: xs, y :: ys => if x == y then walk xs ys else walk (x :: xs) ys

theorem walk_sound : ∀ {ys xs : List Nat}, walk xs ys = true → ∀ x ∈ xs, x ∈ ys
  | _, [], _, _, hx => nomatch hx
  | [], _ :: _, h, _, _ => nomatch h
  | y :: ys, x :: xs, h, z, hz => by
    rw [walk] at h
    split at h
    · rcases List.mem_cons.mp hz with rfl | hz
      · exact (beq_iff_eq.mp ‹_›) ▸ .head _
      · exact .tail _ (walk_sound h z hz)
    · exact .tail _ (walk_sound h z hz)

/-- `xs ⊆ ys`; one walk if the tables list the names in the same order, which nothing promises. -/
def incl (xs ys : List Nat) : Bool := walk xs ys || xs.all ys.contains

theorem incl_sound {xs ys : List Nat} (h : incl xs ys = true) : ∀ x ∈ xs, x ∈ ys := by
  rcases Bool.or_eq_true_iff.mp h with h | h
  · exact walk_sound h
  · exact fun x hx => List.contains_iff_mem.mp (List.all_eq_true.mp h x hx)

/-- `byName`, and one conjunct of `namesCheck`, over any table. -/
def lookup (tbl : List (String × String × String)) (n : String) : Option (String × String) :=
  (tbl.find? fun e => e.2.1.toUpper == n).map fun e => (e.1, e.2.2)

def advOk (tbl : List (String × String × String)) (a : String × List String × List String) : Bool :=
  a.2.1.all fun n => lookup tbl n == some (a.1, n) && a.2.2.contains n

/-- A name that is the upper-cased name of an entry of the group `seg` and of none before it is found in `seg`. -/
theorem lookup_eq {pre seg post : List (String × String × String)} {g n : String}
    (hup : ∀ e ∈ pre ++ seg, e.2.1.toUpper = e.2.2) (hg : ∀ e ∈ seg, e.1 = g)
    (hpre : n ∉ pre.map (·.2.2)) (hseg : n ∈ seg.map (·.2.2)) : lookup (pre ++ seg ++ post) n = some (g, n) := by
  have hp : pre.find? (fun e => e.2.1.toUpper == n) = none := List.find?_eq_none.mpr fun e he h =>
    hpre (List.mem_map.mpr ⟨e, he, by rw [← hup e (List.mem_append_left _ he)]; exact beq_iff_eq.mp h⟩)
  obtain ⟨e, he, rfl⟩ := List.mem_map.mp hseg
  rw [lookup, List.append_assoc, List.find?_append, hp, Option.none_or, List.find?_append]
  cases hf : seg.find? fun e' => e'.2.1.toUpper == e.2.2 with
  | none => exact absurd (List.find?_eq_none.mp hf e he) (by simp [hup e (List.mem_append_right _ he)])
  | some e' =>
    have h1 := List.find?_some hf
    have h2 := List.mem_of_find?_eq_some hf
    simp only [beq_iff_eq, hup e' (List.mem_append_right _ h2)] at h1
    simp [hg e' h2, h1]

/-- the keys modulo `2 ^ 16`, as a bit set: a key whose bit is clear is not in `ks`, and few others need a search. -/
def hashBits (ks : List Nat) : Nat := ks.foldl (fun a k => a ||| 1 <<< (k % 65536)) 0

def absent (ks : List Nat) (k : Nat) : Bool := !(hashBits ks).testBit (k % 65536) || !ks.contains k

theorem testBit_hashBits {k : Nat} : ∀ (ks : List Nat) (a : Nat), k ∈ ks ∨ a.testBit (k % 65536) = true →
    (ks.foldl (fun a k => a ||| 1 <<< (k % 65536)) a).testBit (k % 65536) = true
  | [], _, h => h.resolve_left nofun
  | x :: ks, a, h => by
    refine testBit_hashBits ks _ ?_
    rw [Nat.testBit_or, Nat.one_shiftLeft, Nat.testBit_two_pow]
    rcases h with h | h
    · rcases List.mem_cons.mp h with rfl | h
      · simp
      · exact .inl h
    · simp [h]

theorem absent_sound {ks : List Nat} {k : Nat} (h : absent ks k = true) : k ∉ ks := fun hm => by
  simp [absent, testBit_hashBits ks 0 (.inl hm), hashBits, hm] at h

def groupFast (pre seg : List (String × String × String)) (names consts : List String) : Bool :=
  let ks := names.map key
  seg.all (fun e => upOk e.2.1 e.2.2) && ks.all (absent (pre.map (key ·.2.2))) &&
    incl ks (seg.map (key ·.2.2)) && incl ks (consts.map key)

theorem advOk_of_groupFast {pre seg post : List (String × String × String)} {g : String} {names consts : List String}
    (hpre : ∀ e ∈ pre, e.2.1.toUpper = e.2.2) (hg : ∀ e ∈ seg, e.1 = g) (h : groupFast pre seg names consts = true) :
    (∀ e ∈ pre ++ seg, e.2.1.toUpper = e.2.2) ∧ advOk (pre ++ seg ++ post) (g, names, consts) = true := by
  simp only [groupFast, Bool.and_eq_true, List.all_eq_true, List.forall_mem_map] at h
  obtain ⟨⟨⟨hup, hab⟩, hs⟩, hc⟩ := h
  have hup' : ∀ e ∈ pre ++ seg, e.2.1.toUpper = e.2.2 := fun e he =>
    (List.mem_append.mp he).elim (hpre e) fun he => upOk_sound (hup e he)
  refine ⟨hup', ?_⟩
  simp only [advOk, List.all_eq_true, Bool.and_eq_true, beq_iff_eq]
  intro n hn
  refine ⟨lookup_eq hup' hg (fun hm => ?_) ?_, ?_⟩
  · obtain ⟨e, he, rfl⟩ := List.mem_map.mp hm
    exact absent_sound (hab _ hn) (List.mem_map_of_mem (f := fun x => key x.2.2) he)
  · obtain ⟨e, he, hk⟩ := List.mem_map.mp (incl_sound hs _ (List.mem_map_of_mem hn))
    exact List.mem_map.mpr ⟨e, he, key_inj hk⟩
  · obtain ⟨m, hm, hk⟩ := List.mem_map.mp (incl_sound hc _ (List.mem_map_of_mem hn))
    exact List.contains_iff_mem.mpr (key_inj hk ▸ hm)

/-- a group of properties: its name, its `by_name` table, its advertised names, its constants. -/
abbrev Group := String × List (String × String) × List String × List String

def Group.seg (g : Group) : List (String × String × String) := g.2.1.map fun e => (g.1, e.1, e.2)

def namesFast (pre : List (String × String × String)) : List Group → Bool
  | [] => true
  | g :: gs => groupFast pre g.seg g.2.2.1 g.2.2.2 && namesFast (pre ++ g.seg) gs

theorem advOk_of_namesFast : ∀ {gs : List Group} {pre tbl : List (String × String × String)},
    (∀ e ∈ pre, e.2.1.toUpper = e.2.2) → namesFast pre gs = true → tbl = pre ++ gs.flatMap Group.seg →
    ∀ g ∈ gs, advOk tbl (g.1, g.2.2.1, g.2.2.2) = true
  | g :: gs, pre, _, hpre, h, rfl, g', hg' => by
    rw [namesFast, Bool.and_eq_true] at h
    have ⟨hup, ha⟩ := advOk_of_groupFast (g := g.1) (post := gs.flatMap Group.seg) hpre
      (fun e he => by obtain ⟨_, _, rfl⟩ := List.mem_map.mp he; rfl) h.1
    rw [List.flatMap_cons, ← List.append_assoc]
    rcases List.mem_cons.mp hg' with rfl | hg'
    · exact ha
    · exact advOk_of_namesFast hup h.2 rfl g' hg'

end PestModel.Unicode
