import PestModel.Lemmas.RefVal
import PestModel.Lemmas.RefStr
/-!
A Hoare-style proof rule for the reference denotation (used by C09 and C07 on the regenerated
meta-grammar): to show that every SUCCESSFUL evaluation of a rule produces a forest of a certain shape
over a certain consumed word, it suffices to check each rule body ONCE against the postconditions of the
rules it calls.

* `Post` — a postcondition per rule call: mode, look-ahead flag, rule name, byte offset, consumed word, forest;
* `OkW P m la e a w F` — a positive over-approximation of "`e` evaluated at offset `a` consumes the word `w`
  and yields the forest `F`", computed by structural recursion on `e`, with rule calls answered by `P`
  (choices: either side; repetitions: any number of bodies and implicit skips; predicates: nothing);
* `PostOK c P` — the proof obligations: each defined rule meets `P` if its body meets `OkW P`; each
  built-in meets `P`;
* `sound_call` / `sound_denote` — whatever `call` / `denote` return with `.ok` satisfies `P` / `OkW P`.
-/
namespace PestModel.Ref
open PestModel.G
open PestModel.LineCol (Str bLen cLen splitAt? slice?)
open PestModel.Views (Tree)
open PestModel.PS (Atomicity CharSet restAt asciiLower eqIgnoreAsciiCase normalizeIndex restAt_iff restAt_advance)
open PestModel.LineCol (bLen_append bLen_nil bLen_cons bLen_eq_zero splitAt_some cLen_pos)

abbrev Post := Atomicity → Bool → String → Nat → Str → List Tree → Prop

/-- zero or more `R`-steps in a row. -/
inductive StarW (R : Nat → Str → List Tree → Prop) : Nat → Str → List Tree → Prop
  | nil (a : Nat) : StarW R a [] []
  | cons {a : Nat} {w1 : Str} {f1 : List Tree} {w2 : Str} {f2 : List Tree} :
      R a w1 f1 → StarW R (a + bLen w1) w2 f2 → StarW R a (w1 ++ w2) (f1 ++ f2)

theorem StarW.mono {R R' : Nat → Str → List Tree → Prop} (h : ∀ a w f, R a w f → R' a w f) {a w f}
    (hs : StarW R a w f) : StarW R' a w f := by
  induction hs with
  | nil a => exact .nil a
  | cons hr _ ih => exact .cons (h _ _ _ hr) ih

theorem StarW.one {R : Nat → Str → List Tree → Prop} {a w f} (h : R a w f) : StarW R a w f := by
  have := StarW.cons h (StarW.nil (R := R) (a + bLen w))
  simpa using this

theorem StarW.append {R : Nat → Str → List Tree → Prop} {a w1 f1 w2 f2} (h1 : StarW R a w1 f1)
    (h2 : StarW R (a + bLen w1) w2 f2) : StarW R a (w1 ++ w2) (f1 ++ f2) := by
  induction h1 with
  | nil a => simpa using h2
  | cons hr _ ih =>
    rename_i a wa fa wb fb _
    have := ih (by simpa [Nat.add_assoc] using h2)
    have := StarW.cons hr this
    simpa [List.append_assoc] using this

/-- the implicit skip between sequence elements: nothing in atomic modes, otherwise any number of
`WHITESPACE` / `COMMENT` calls. -/
def SkW (P : Post) (m : Atomicity) (la : Bool) (a : Nat) (w : Str) (F : List Tree) : Prop :=
  if m = .nonAtomic then
    StarW (fun a w F => P .nonAtomic la "WHITESPACE" a w F ∨ P .nonAtomic la "COMMENT" a w F) a w F
  else w = [] ∧ F = []

/-- positive over-approximation of a successful evaluation of `e` at offset `a`: consumed word and forest. -/
def OkW (P : Post) (m : Atomicity) (la : Bool) : Expr → Nat → Str → List Tree → Prop
  | .str x => fun _ w F => w = x ∧ F = []
  | .insens x => fun _ w F => eqIgnoreAsciiCase w x = true ∧ F = []
  | .range lo hi => fun _ w F => ∃ ch, w = [ch] ∧ lo ≤ ch ∧ ch ≤ hi ∧ F = []
  | .ident n => fun a w F => P m la n a w F
  | .peekSlice _ _ => fun _ _ F => F = []
  | .posPred _ => fun _ w F => w = [] ∧ F = []
  | .negPred _ => fun _ w F => w = [] ∧ F = []
  | .seq x y => fun a w F => ∃ w1 f1 w2 f2 w3 f3, OkW P m la x a w1 f1 ∧ SkW P m la (a + bLen w1) w2 f2 ∧
      OkW P m la y (a + bLen w1 + bLen w2) w3 f3 ∧ w = w1 ++ w2 ++ w3 ∧ F = f1 ++ f2 ++ f3
  | .choice x y => fun a w F => OkW P m la x a w F ∨ OkW P m la y a w F
  | .opt e => fun a w F => OkW P m la e a w F ∨ (w = [] ∧ F = [])
  | .rep e => fun a w F => StarW (fun a w F => OkW P m la e a w F ∨ SkW P m la a w F) a w F
  | .repOnce e => fun a w F => StarW (fun a w F => OkW P m la e a w F ∨ SkW P m la a w F) a w F
  | .repExact e _ => fun a w F => StarW (fun a w F => OkW P m la e a w F ∨ SkW P m la a w F) a w F
  | .repMin e _ => fun a w F => StarW (fun a w F => OkW P m la e a w F ∨ SkW P m la a w F) a w F
  | .repMax e _ => fun a w F => StarW (fun a w F => OkW P m la e a w F ∨ SkW P m la a w F) a w F
  | .repMinMax e _ _ => fun a w F => StarW (fun a w F => OkW P m la e a w F ∨ SkW P m la a w F) a w F
  | .skip _ => fun _ _ F => F = []
  | .push e => fun a w F => OkW P m la e a w F
  | .pushLiteral _ => fun _ w F => w = [] ∧ F = []
  | .nodeTag e t => fun a w F => ∃ f, OkW P m la e a w f ∧ (F = f ∨ F = setLastTag f t)

/-- what a built-in rule does (as much as is needed): `EOI` emits its pair at the end of the input, `SOI`
stands at offset 0, `ANY` consumes one character; no other built-in produces a pair. -/
def BuiltinW (c : Ctx) (m : Atomicity) (la : Bool) (name : String) (a : Nat) (w : Str) (F : List Tree) : Prop :=
  if name = "EOI" then
    w = [] ∧ a = bLen c.input ∧ F = (if emitsFor .normal m la then [.node c.rules.length a a none []] else [])
  else if name = "SOI" then w = [] ∧ a = 0 ∧ F = []
  else if name = "ANY" then (∃ ch, w = [ch]) ∧ F = []
  else F = []

/-- the proof obligations of a family of postconditions. -/
structure PostOK (c : Ctx) (P : Post) : Prop where
  rule : ∀ name id r, c.rule? name = some (id, r) → ∀ m la a w f, At c.input a w →
      OkW P (bodyMode r.name r.ty m) la r.expr a w f →
      P m la name a w (if emitsFor r.ty m la then [.node id a (a + bLen w) none f] else f)
  builtin : ∀ name, c.rule? name = none → ∀ m la a w F, At c.input a w → BuiltinW c m la name a w F →
      P m la name a w F

abbrev RK (P : Post) (m : Atomicity) (la : Bool) (e : Expr) : Nat → Str → List Tree → Prop :=
  fun a w F => OkW P m la e a w F ∨ SkW P m la a w F

abbrev WC (P : Post) (la : Bool) : Nat → Str → List Tree → Prop :=
  fun a w F => P .nonAtomic la "WHITESPACE" a w F ∨ P .nonAtomic la "COMMENT" a w F

/-- from `s` to `s'` a word `w` was consumed: it stands in the input unless it is empty (from a position that is no
boundary nothing else can be consumed), and satisfies `Φ` (with its offset) if `s` is on a boundary. -/
def Span (c : Ctx) (s s' : St) (Φ : Nat → Str → Prop) : Prop :=
  ∃ w, s'.pos = s.pos + bLen w ∧ (w = [] ∨ At c.input s.pos w) ∧ (Valid c s → Φ s.pos w)

section
variable {c : Ctx} {s s1 s2 s' : St} {Φ Φ1 Φ2 Φ3 : Nat → Str → Prop}

theorem valid_step {w : Str} (hs : Valid c s) (p : s'.pos = s.pos + bLen w) (a : w = [] ∨ At c.input s.pos w) :
    Valid c s' := by
  rcases a with rfl | a
  · exact valid_of_pos hs (by simpa using p)
  · exact a.valid_at p

theorem at_of_valid {w : Str} (hs : Valid c s) (a : w = [] ∨ At c.input s.pos w) : At c.input s.pos w :=
  a.elim (fun e => e ▸ At.nil hs) fun a => a

theorem Span.valid_end (hs : Valid c s) (h : Span c s s' Φ) : Valid c s' :=
  let ⟨_, p, a, _⟩ := h
  valid_step hs p a

/-- from a boundary: the word stands in the input. -/
theorem Span.at (hs : Valid c s) (h : Span c s s' Φ) : ∃ w, At c.input s.pos w ∧ s'.pos = s.pos + bLen w ∧ Φ s.pos w := by
  obtain ⟨w, p, a, o⟩ := h
  exact ⟨w, at_of_valid hs a, p, o hs⟩

theorem Span.nil (hp : s'.pos = s.pos) (h : Φ s.pos []) : Span c s s' Φ :=
  ⟨[], hp, .inl rfl, fun _ => h⟩

theorem Span.mono (h : Span c s s' Φ1) (hΦ : ∀ w, Φ1 s.pos w → Φ s.pos w) : Span c s s' Φ :=
  let ⟨w, p, a, o⟩ := h
  ⟨w, p, a, fun hs => hΦ w (o hs)⟩

theorem Span.append (h1 : Span c s s1 Φ1) (h2 : Span c s1 s' Φ2)
    (h : ∀ w1 w2, Φ1 s.pos w1 → Φ2 (s.pos + bLen w1) w2 → Φ s.pos (w1 ++ w2)) : Span c s s' Φ := by
  obtain ⟨w1, p1, a1, o1⟩ := h1
  obtain ⟨w2, p2, a2, o2⟩ := h2
  rw [p1] at a2 p2 o2
  refine ⟨w1 ++ w2, by rw [p2, bLen_append, Nat.add_assoc], ?_, fun hs => h w1 w2 (o1 hs) (o2 (valid_step hs p1 a1))⟩
  rcases a1 with rfl | a1
  · simpa using a2
  · rcases a2 with rfl | a2
    · exact .inr (by simpa using a1)
    · exact .inr (a1.append a2)

theorem Span.append3 (h1 : Span c s s1 Φ1) (h2 : Span c s1 s2 Φ2) (h3 : Span c s2 s' Φ3)
    (h : ∀ w1 w2 w3, Φ1 s.pos w1 → Φ2 (s.pos + bLen w1) w2 → Φ3 (s.pos + bLen w1 + bLen w2) w3 →
      Φ s.pos (w1 ++ (w2 ++ w3))) : Span c s s' Φ :=
  h1.append (Φ2 := fun a w => ∃ w2 w3, w = w2 ++ w3 ∧ Φ2 a w2 ∧ Φ3 (a + bLen w2) w3)
    (h2.append h3 fun w2 w3 o2 o3 => ⟨w2, w3, rfl, o2, o3⟩)
    fun w1 _ o1 ⟨w2, w3, e, o2, o3⟩ => e ▸ h w1 w2 w3 o1 o2 o3

end

/-- what is claimed of the word consumed by a call that succeeded with forest `F`. -/
def Q.Claim (P : Post) (F : List Tree) : Q → Nat → Str → Prop
  | .d m la e _ => fun a w => OkW P m la e a w F
  | .l m la e _ acc => fun a w => ∃ f, F = acc ++ f ∧ StarW (RK P m la e) a w f
  | .k m la _ => fun a w => SkW P m la a w F
  | .st la nm _ acc => fun a w => ∃ f, F = acc ++ f ∧ StarW (fun a w F => P .nonAtomic la nm a w F) a w f
  | .cl la _ acc => fun a w => ∃ f, F = acc ++ f ∧ StarW (WC P la) a w f
  | .ca m la nm _ => fun a w => P m la nm a w F

def Sound (c : Ctx) (P : Post) (X : Fam) : Prop :=
  ∀ q s' F, X.at q = .ok s' F → Span c q.s s' (q.Claim P F)

theorem Sound.keeps {c : Ctx} {P : Post} {X : Fam} (hX : Sound c P X) : X.Keeps (Valid c) :=
  fun q s' F hs h => (hX q s' F h).valid_end hs

theorem okW_seqOfList {P : Post} {m : Atomicity} {la : Bool} {e : Expr} {L : List Expr}
    (hL : ∀ x ∈ L, ∀ a w F, OkW P m la x a w F → StarW (RK P m la e) a w F) {u : Expr} (hu : seqOfList L = some u) :
    ∀ a w F, OkW P m la u a w F → StarW (RK P m la e) a w F :=
  seqOfList_all (p := fun u => ∀ a w F, OkW P m la u a w F → StarW (RK P m la e) a w F)
    (fun x v hx hv a w F h => by
      obtain ⟨w1, f1, w2, f2, w3, f3, h1, h2, h3, rfl, rfl⟩ := h
      have := StarW.append (hx _ _ _ h1)
        (StarW.append (StarW.one (Or.inr h2)) (by simpa [Nat.add_assoc] using hv _ _ _ h3))
      simpa [List.append_assoc] using this) hL hu

theorem okW_self_star {P : Post} {m : Atomicity} {la : Bool} {e : Expr} (a : Nat) (w : Str) (F : List Tree)
    (h : OkW P m la e a w F) : StarW (RK P m la e) a w F := StarW.one (Or.inl h)

theorem okW_opt_star {P : Post} {m : Atomicity} {la : Bool} {e : Expr} (a : Nat) (w : Str) (F : List Tree)
    (h : OkW P m la (.opt e) a w F) : StarW (RK P m la e) a w F := by
  rcases h with h | ⟨rfl, rfl⟩
  · exact StarW.one (Or.inl h)
  · exact .nil a

theorem okW_rep_star {P : Post} {m : Atomicity} {la : Bool} {e : Expr} (a : Nat) (w : Str) (F : List Tree)
    (h : OkW P m la (.rep e) a w F) : StarW (RK P m la e) a w F := h

theorem denoteF_sound {c : Ctx} {P : Post} {X : Fam} (hX : Sound c P X) m la e s s' F
    (h : denoteF c X m la e s = .ok s' F) : Span c s s' fun a w => OkW P m la e a w F := by
  -- a bounded repetition: the unrolling is evaluated, and its copies are steps of the star over the body
  have unr : ∀ {L : List Expr} {b : Expr}, (∀ x ∈ L, ∀ a w F, OkW P m la x a w F → StarW (RK P m la b) a w F) →
      (match seqOfList L with | some u => X.d m la u s | none => .stuck) = .ok s' F →
      Span c s s' fun a w => StarW (RK P m la b) a w F := by
    intro L b hL h
    split at h
    · rename_i u hu; exact (hX (.d ..) _ _ h).mono fun w => okW_seqOfList hL hu _ _ _
    · cases h
  cases e <;> simp only [denoteF] at h <;> simp only [OkW]
  case str str =>
    obtain ⟨a, p, hF⟩ := lit_word h
    exact ⟨str, p, .inr a, fun _ => ⟨rfl, hF⟩⟩
  case insens str =>
    obtain ⟨w, heq, a, p, _, hF⟩ := insensM_word (c := c) (s := s) (str := str) h
    exact ⟨w, p, .inr a, fun _ => ⟨heq, hF⟩⟩
  case range a b =>
    obtain ⟨ch, hp, a1, p1, hF⟩ := oneChar_word h
    have hp' : a ≤ ch ∧ ch ≤ b := by simpa using hp
    exact ⟨[ch], p1, .inr a1, fun _ => ⟨ch, rfl, hp'.1, hp'.2, hF⟩⟩
  case ident n => exact hX (.ca ..) _ _ h
  case peekSlice a b =>
    split at h
    · split at h
      · cases h; exact .nil rfl rfl
      · split at h
        · rename_i p hp
          cases h
          obtain ⟨w, hw, rfl⟩ := matchStrs_word hp
          exact ⟨w, rfl, hw, fun _ => rfl⟩
        · cases h
    · cases h
  case posPred e =>
    obtain ⟨_, _, _, h⟩ := Res.bind_eq_ok' h
    cases h; exact .nil rfl ⟨rfl, rfl⟩
  case negPred e =>
    obtain ⟨_, _, _, h⟩ | ⟨_, h⟩ := Res.bind_eq_ok h <;> cases h
    exact .nil rfl ⟨rfl, rfl⟩
  case seq a b =>
    obtain ⟨s1, f1, h1, h⟩ := Res.bind_eq_ok' h
    obtain ⟨s2, f2, h2, h⟩ := Res.bind_eq_ok' h
    obtain ⟨s3, f3, h3, h⟩ := Res.bind_eq_ok' h
    cases h
    exact (hX (.d ..) _ _ h1).append3 (hX (.k ..) _ _ h2) (hX (.d ..) _ _ h3) fun w1 w2 w3 o1 o2 o3 =>
      ⟨w1, f1, w2, f2, w3, f3, o1, o2, o3, (List.append_assoc ..).symm, rfl⟩
  case choice a b =>
    obtain h | ⟨_, h⟩ := Res.orElse_eq_ok h
    · exact (hX (.d ..) _ _ h).mono fun _ => Or.inl
    · exact (hX (.d ..) _ _ h).mono fun _ => Or.inr
  case opt e =>
    obtain h | ⟨_, h⟩ := Res.orElse_eq_ok h
    · exact (hX (.d ..) _ _ h).mono fun _ => Or.inl
    · cases h; exact .nil rfl (Or.inr ⟨rfl, rfl⟩)
  case rep e =>
    obtain ⟨s1, f1, h1, h⟩ | ⟨_, h⟩ := Res.bind_eq_ok h
    · exact (hX (.d ..) _ _ h1).append (hX (.l ..) _ _ h) fun _ _ o1 ⟨_, hF, st⟩ => hF ▸ StarW.cons (Or.inl o1) st
    · cases h; exact .nil rfl (.nil _)
  case repOnce e =>
    split at h
    · obtain ⟨s1, f1, h1, h⟩ := Res.bind_eq_ok' h
      exact (hX (.d ..) _ _ h1).append (hX (.l ..) _ _ h) fun _ _ o1 ⟨_, hF, st⟩ => hF ▸ StarW.cons (Or.inl o1) st
    · refine (hX (.d ..) _ _ h).mono fun w o => ?_
      exact okW_seqOfList (L := [e, .rep e]) (fun x hx => by
        rcases List.mem_cons.1 hx with rfl | hx
        · exact okW_self_star
        · cases List.mem_singleton.1 hx; exact okW_rep_star) rfl _ _ _ o
  case skip strs =>
    split at h
    · rename_i rest hr
      cases h
      obtain ⟨w, hw, hp⟩ := search_word strs hr
      exact ⟨w, hp, .inr hw, fun _ => rfl⟩
    · cases h
  case push e =>
    obtain ⟨s1, f1, h1, h⟩ := Res.bind_eq_ok' h
    have d1 := hX (.d ..) _ _ h1
    split at h <;> cases h
    exact d1
  case pushLiteral str => cases h; exact .nil rfl ⟨rfl, rfl⟩
  case nodeTag e t =>
    obtain ⟨s1, f1, h1, h⟩ := Res.bind_eq_ok' h
    cases h
    exact (hX (.d ..) _ _ h1).mono fun _ o => ⟨f1, o, by split <;> simp⟩
  case repExact e n => exact unr (fun x hx => by cases (List.mem_replicate.1 hx).2; exact okW_self_star) h
  case repMin e n =>
    refine unr (fun x hx => ?_) h
    rcases List.mem_append.1 hx with hx | hx
    · cases (List.mem_replicate.1 hx).2; exact okW_self_star
    · cases List.mem_singleton.1 hx; exact okW_rep_star
  case repMax e n => exact unr (fun x hx => by cases (List.mem_replicate.1 hx).2; exact okW_opt_star) h
  case repMinMax e lo hi =>
    refine unr (fun x hx => ?_) h
    obtain ⟨i, _, rfl⟩ := List.mem_map.1 hx
    split
    · exact okW_self_star
    · exact okW_opt_star

theorem builtin_sound {c : Ctx} (m : Atomicity) (la : Bool) (nm : String) (s s' : St) (F : List Tree)
    (h : builtin c m la nm s = .ok s' F) : Span c s s' fun a w => BuiltinW c m la nm a w F := by
  -- a built-in that is neither `EOI` nor `SOI` yields no pair
  have gen : ∀ {s' : St} {F : List Tree} w, (w = [] ∨ At c.input s.pos w) → s'.pos = s.pos + bLen w → F = [] → nm ≠ "EOI" →
      nm ≠ "SOI" → (nm = "ANY" → ∃ ch, w = [ch]) → Span c s s' fun a w => BuiltinW c m la nm a w F := by
    intro s' F w hw hp hF h1 h2 h3
    refine ⟨w, hp, hw, fun _ => ?_⟩
    simp only [BuiltinW, if_neg h1, if_neg h2]
    split
    · exact ⟨h3 ‹_›, hF⟩
    · exact hF
  have lit1 : ∀ {x : Str} {s' : St} {F : List Tree}, lit c s x = .ok s' F → nm ≠ "EOI" → nm ≠ "SOI" → nm ≠ "ANY" →
      Span c s s' fun a w => BuiltinW c m la nm a w F :=
    fun hx h1 h2 h3 => let ⟨a1, p1, hF⟩ := lit_word hx; gen _ (.inr a1) p1 hF h1 h2 (absurd · h3)
  obtain ⟨k, hk, hn⟩ := builtin_kind c m la nm s
  rw [hk] at h
  cases k <;> simp only [BKind.run] at h <;> simp only [BKind.Names] at hn
  case char p =>
    obtain ⟨ch, _, a1, p1, hF⟩ := oneChar_word h
    exact gen [ch] (.inr a1) p1 hF hn.2 hn.1 fun _ => ⟨ch, rfl⟩
  case soi =>
    split at h <;> cases h
    rename_i h0
    exact .nil rfl (by simp [BuiltinW, hn, h0])
  case eoi =>
    split at h <;> cases h
    rename_i h0
    exact .nil rfl (by simp [BuiltinW, hn, h0])
  case peek =>
    subst hn
    split at h
    · cases h
    · exact lit1 h (by decide) (by decide) (by decide)
  case pop =>
    subst hn
    split at h
    · cases h
    · obtain ⟨s1, f1, hx, h⟩ := Res.bind_eq_ok' h
      have l := lit1 hx (by decide) (by decide) (by decide)
      cases h
      exact l
  case peekAll =>
    subst hn
    split at h <;> cases h
    rename_i p hp
    obtain ⟨w, hw, rfl⟩ := matchStrs_word hp
    exact gen w hw rfl rfl (by decide) (by decide) (absurd · (by decide))
  case popAll =>
    subst hn
    split at h <;> cases h
    rename_i p hp
    obtain ⟨w, hw, rfl⟩ := matchStrs_word hp
    exact gen w hw rfl rfl (by decide) (by decide) (absurd · (by decide))
  case drop =>
    subst hn
    split at h <;> cases h
    exact gen [] (.inl rfl) rfl rfl (by decide) (by decide) (absurd · (by decide))
  case newline =>
    subst hn
    obtain h | ⟨_, h⟩ := Res.orElse_eq_ok h
    · exact lit1 h (by decide) (by decide) (by decide)
    · obtain h | ⟨_, h⟩ := Res.orElse_eq_ok h <;> exact lit1 h (by decide) (by decide) (by decide)
  case unknown => cases h

theorem step_sound {c : Ctx} {P : Post} (hP : PostOK c P) {X : Fam} (hX : Sound c P X) : Sound c P (step c X) :=
  fun q s' F h => by
  cases q with
  | d m la e s => exact denoteF_sound hX m la e s s' F h
  | l m la e s acc =>
    simp only [Q.Claim]
    have done : Span c s s fun a w => ∃ f, acc = acc ++ f ∧ StarW (RK P m la e) a w f :=
      .nil rfl ⟨[], (List.append_nil _).symm, .nil _⟩
    obtain ⟨s1, f1, h1, h⟩ | ⟨_, h⟩ := Res.bind_eq_ok (show repLoopF X m la e s acc = _ from h)
    · obtain ⟨s2, f2, h2, h⟩ | ⟨_, h⟩ := Res.bind_eq_ok h
      · exact (hX (.k ..) _ _ h1).append3 (hX (.d ..) _ _ h2) (hX (.l ..) _ _ h) fun _ _ _ o1 o2 ⟨f3, hF, st⟩ =>
          ⟨f1 ++ (f2 ++ f3), by rw [hF]; simp only [List.append_assoc], .cons (Or.inr o1) (.cons (Or.inl o2) st)⟩
      · cases h; exact done
    · cases h; exact done
  | k m la s =>
    have star : ∀ {nm s s' F}, Span c s s' (fun a w => ∃ f, F = [] ++ f ∧ StarW (fun a w F => P .nonAtomic la nm a w F) a w f) →
        Span c s s' fun a w => StarW (fun a w F => P .nonAtomic la nm a w F) a w F :=
      fun h => h.mono fun _ ⟨_, e, st⟩ => e ▸ st
    simp only [Fam.at, step, skipWsF] at h
    simp only [Q.Claim]
    split at h
    · rename_i hm
      cases h
      exact .nil rfl (by unfold SkW; rw [if_neg hm]; exact ⟨rfl, rfl⟩)
    · rename_i hm
      have hm' : m = .nonAtomic := by simpa using hm
      simp only [SkW, if_pos hm']
      split at h
      · cases h; exact .nil rfl (.nil _)
      · exact (star (hX (.st ..) _ _ h)).mono fun _ st => st.mono fun _ _ _ => Or.inl
      · exact (star (hX (.st ..) _ _ h)).mono fun _ st => st.mono fun _ _ _ => Or.inr
      · obtain ⟨s1, f1, h1, h⟩ := Res.bind_eq_ok' h
        exact (star (hX (.st ..) _ _ h1)).append (hX (.cl ..) _ _ h) fun _ _ st1 ⟨_, hF, st2⟩ =>
          hF ▸ (st1.mono fun _ _ _ => Or.inl).append st2
  | st la nm s acc =>
    simp only [Q.Claim]
    obtain ⟨s1, f1, h1, h⟩ | ⟨_, h⟩ := Res.bind_eq_ok (show starF X la nm s acc = _ from h)
    · exact (hX (.ca ..) _ _ h1).append (hX (.st ..) _ _ h) fun _ _ o1 ⟨f2, hF, st⟩ =>
        ⟨f1 ++ f2, by rw [hF, List.append_assoc], .cons o1 st⟩
    · cases h; exact .nil rfl ⟨[], (List.append_nil _).symm, .nil _⟩
  | cl la s acc =>
    simp only [Q.Claim]
    obtain ⟨s1, f1, h1, h⟩ | ⟨_, h⟩ := Res.bind_eq_ok (show commentLoopF X la s acc = _ from h)
    · obtain ⟨s2, f2, h2, h⟩ := Res.bind_eq_ok' h
      exact (hX (.ca ..) _ _ h1).append3 (hX (.st ..) _ _ h2) (hX (.cl ..) _ _ h) fun _ _ _ o1 ⟨f2', e2, st2⟩ ⟨f3, hF, st3⟩ => by
        cases (List.nil_append f2').symm.trans e2.symm
        exact ⟨f1 ++ (f2 ++ f3), by rw [hF]; simp only [List.append_assoc],
          .cons (Or.inr o1) ((st2.mono fun _ _ _ => Or.inl).append st3)⟩
    · cases h; exact .nil rfl ⟨[], (List.append_nil _).symm, .nil _⟩
  | ca m la nm s =>
    simp only [Fam.at, step, callF] at h
    simp only [Q.Claim]
    split at h
    · rename_i id r hr
      obtain ⟨s1, f1, h1, h⟩ := Res.bind_eq_ok' h
      obtain ⟨w, p1, a1, o1⟩ := hX (.d ..) _ _ h1
      refine ⟨w, ?_, a1, fun hs => ?_⟩
      · split at h <;> cases h <;> exact p1
      · have := hP.rule nm id r hr m la s.pos w f1 (at_of_valid hs a1) (o1 hs)
        split at h <;> rename_i he <;> cases h
        · rw [if_pos he] at this; rw [p1]; exact this
        · rw [if_neg he] at this; exact this
    · rename_i hr
      obtain ⟨w, p1, a1, b1⟩ := builtin_sound m la nm s s' F h
      exact ⟨w, p1, a1, fun hs => hP.builtin nm hr m la _ _ _ (at_of_valid hs a1) (b1 hs)⟩

theorem lev_sound {c : Ctx} {P : Post} (hP : PostOK c P) : ∀ n, Sound c P (lev c n) :=
  lev_induct c (fun _ h q _ _ hx => nomatch (h q).symm.trans hx) fun _ => step_sound hP

/-- **Rule postconditions hold of every successful call** (any amount of fuel). -/
theorem sound_call {c : Ctx} {P : Post} (hP : PostOK c P) (n : Nat) (m : Atomicity) (la : Bool) (nm : String)
    (s s' : St) (F : List Tree) (hs : Valid c s) (h : call c n m la nm s = .ok s' F) :
    ∃ w, At c.input s.pos w ∧ s'.pos = s.pos + bLen w ∧ P m la nm s.pos w F :=
  (lev_sound hP n (.ca m la nm s) s' F h).at hs

theorem sound_denote {c : Ctx} {P : Post} (hP : PostOK c P) (n : Nat) (m : Atomicity) (la : Bool) (e : Expr)
    (s s' : St) (F : List Tree) (hs : Valid c s) (h : denote c n m la e s = .ok s' F) :
    ∃ w, At c.input s.pos w ∧ s'.pos = s.pos + bLen w ∧ OkW P m la e s.pos w F :=
  (lev_sound hP n (.d m la e s) s' F h).at hs

/-- for `meaning` (a parse from offset 0 with an empty stack): the whole consumed word is a prefix of the
input and the start rule's postcondition holds of it. -/
theorem sound_meaning {rules : List Rule} {extras : Bool} {uni : String → Option CharSet} {input : Str}
    {P : Post} (hP : PostOK { rules, input, extras, uni } P) (n : Nat) (rule : String) (s' : St) (F : List Tree)
    (h : meaning rules extras uni n rule input = .ok s' F) :
    ∃ w, At input 0 w ∧ s'.pos = bLen w ∧ P .nonAtomic false rule 0 w F := by
  have hs : Valid { rules, input, extras, uni } ⟨0, []⟩ := by simp [Valid, restAt, splitAt?]
  obtain ⟨w, a1, p1, o1⟩ := sound_call hP n .nonAtomic false rule ⟨0, []⟩ s' F hs h
  exact ⟨w, a1, by simpa using p1, o1⟩

end PestModel.Ref
