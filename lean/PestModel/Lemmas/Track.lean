import PestModel.Model.RefTrace
import PestModel.Lemmas.PStateAtt
/-! Lemmas for C08: `ParserState::track` computes the specified failure report.
Here: facts about the specification (`furthest`, `surviving`) and the attempt bookkeeping as a
function of the call forest (`stepAtt`). -/
namespace PestModel.Track
open PestModel.RefTrace

theorem forest_ind {P : List Call → Prop} (nil : P [])
    (cons : ∀ r p m n rep kids cs, P kids → P cs → P (.node r p m n rep kids :: cs)) : ∀ cs, P cs
  | [] => nil
  | .node r p m n rep kids :: cs =>
    cons r p m n rep kids cs (forest_ind nil cons kids) (forest_ind nil cons cs)
termination_by cs => sizeOf cs
decreasing_by all_goals simp_wf <;> omega

theorem isAttempt_node (r p : Nat) (m n rep : Bool) (kids : List Call) :
    isAttempt (.node r p m n rep kids) = (rep && (m == n)) := by
  cases m <;> cases n <;> cases rep <;> rfl

theorem furthestList_nil : furthestList [] = 0 := by simp [furthestList]

theorem furthestList_cons (c : Call) (cs : List Call) :
    furthestList (c :: cs) = max (furthest c) (furthestList cs) := by simp [furthestList]

theorem furthest_node (r p : Nat) (m n rep : Bool) (kids : List Call) :
    furthest (.node r p m n rep kids) =
      max (if isAttempt (.node r p m n rep kids) then p else 0) (furthestList kids) := by
  simp [furthest]

theorem furthestList_append (a b : List Call) :
    furthestList (a ++ b) = max (furthestList a) (furthestList b) := by
  induction a with
  | nil => simp [furthestList_nil]
  | cons c cs ih => rw [List.cons_append, furthestList_cons, furthestList_cons, ih, Nat.max_assoc]

theorem survivingList_nil (P : Nat) : survivingList P [] = [] := by simp [survivingList]

theorem survivingList_cons (P : Nat) (c : Call) (cs : List Call) :
    survivingList P (c :: cs) = surviving P c ++ survivingList P cs := by simp [survivingList]

theorem surviving_node (P r p : Nat) (m n rep : Bool) (kids : List Call) :
    surviving P (.node r p m n rep kids) =
      if (isAttempt (.node r p m n rep kids) && p == P) = true then
        (if (survivingList P kids).length = 1 then survivingList P kids else [(r, n)])
      else survivingList P kids := by
  simp [surviving]

theorem survivingList_append (P : Nat) (a b : List Call) :
    survivingList P (a ++ b) = survivingList P a ++ survivingList P b := by
  induction a with
  | nil => simp [survivingList_nil]
  | cons c cs ih => rw [List.cons_append, survivingList_cons, survivingList_cons, ih, List.append_assoc]

/-- nothing survives at a position beyond the furthest attempt. -/
theorem survivingList_beyond (P : Nat) : ∀ cs, furthestList cs < P → survivingList P cs = [] := by
  refine forest_ind (by intro _; exact survivingList_nil P) ?_
  intro r p m n rep kids cs ihk ihc h
  rw [furthestList_cons, furthest_node] at h
  have h1 : furthestList kids < P := by omega
  have h2 : furthestList cs < P := by omega
  rw [survivingList_cons, surviving_node, ihk h1, ihc h2]
  by_cases ha : isAttempt (.node r p m n rep kids) = true
  · rw [if_pos ha] at h
    have : (p == P) = false := by simp; omega
    simp [this]
  · simp [ha]

/-! ### the attempt bookkeeping as a function of the calls made -/

def posPart (sv : List (Nat × Bool)) : List Nat := (sv.filter (!·.2)).map (·.1)
def negPart (sv : List (Nat × Bool)) : List Nat := (sv.filter (·.2)).map (·.1)

theorem posPart_append (a b : List (Nat × Bool)) : posPart (a ++ b) = posPart a ++ posPart b := by
  simp [posPart]
theorem negPart_append (a b : List (Nat × Bool)) : negPart (a ++ b) = negPart a ++ negPart b := by
  simp [negPart]

theorem parts_length (sv : List (Nat × Bool)) : (posPart sv).length + (negPart sv).length = sv.length := by
  induction sv with
  | nil => rfl
  | cons x xs ih =>
    obtain ⟨r, b⟩ := x
    cases b <;> simp [posPart, negPart] at ih ⊢ <;> omega

/-- the bookkeeping after the calls `cs` have been processed from bookkeeping `a`: attempts beyond
the current position reset the lists; attempts at it are appended; attempts before it are dropped. -/
def stepAtt (a : Att) (cs : List Call) : Att :=
  (max a.1 (furthestList cs),
   (if a.1 < furthestList cs then [] else a.2.1) ++ posPart (survivingList (max a.1 (furthestList cs)) cs),
   (if a.1 < furthestList cs then [] else a.2.2) ++ negPart (survivingList (max a.1 (furthestList cs)) cs))

theorem stepAtt_nil (a : Att) : stepAtt a [] = a := by
  obtain ⟨x, y, z⟩ := a
  simp [stepAtt, furthestList_nil, survivingList_nil, posPart, negPart]

theorem stepAtt_append (a : Att) (c1 c2 : List Call) :
    stepAtt a (c1 ++ c2) = stepAtt (stepAtt a c1) c2 := by
  obtain ⟨A, pl, nl⟩ := a
  simp only [stepAtt, furthestList_append, survivingList_append, posPart_append, negPart_append]
  have hmax : max A (max (furthestList c1) (furthestList c2)) =
      max (max A (furthestList c1)) (furthestList c2) := by omega
  rw [hmax]
  by_cases h2 : max A (furthestList c1) < furthestList c2
  · have e1 : survivingList (max (max A (furthestList c1)) (furthestList c2)) c1 = [] :=
      survivingList_beyond _ _ (by omega)
    have h3 : A < max (furthestList c1) (furthestList c2) := by omega
    rw [e1, if_pos h2, if_pos h2, if_pos h3, if_pos h3]
    simp [posPart, negPart]
  · have e : max (max A (furthestList c1)) (furthestList c2) = max A (furthestList c1) := by omega
    rw [e]
    by_cases h1 : A < furthestList c1
    · have h3 : A < max (furthestList c1) (furthestList c2) := by omega
      simp [h1, h2, h3]
    · have h3 : ¬ A < max (furthestList c1) (furthestList c2) := by omega
      simp [h1, h2, h3]

theorem stepAtt_trans {a b c : Att} {c1 c2 : List Call} (h1 : b = stepAtt a c1) (h2 : c = stepAtt b c2) :
    c = stepAtt a (c1 ++ c2) := by
  rw [h2, h1, stepAtt_append]

/-- the specification is the bookkeeping from the initial state. -/
theorem stepAtt_init (cs : List Call) :
    stepAtt (0, [], []) cs = ((specReport cs).1, (specReport cs).2.1, (specReport cs).2.2) := by
  simp [stepAtt, specReport, posPart, negPart]

theorem stepAtt_single (a : Att) (c : Call) :
    stepAtt a [c] = (max a.1 (furthest c),
      (if a.1 < furthest c then [] else a.2.1) ++ posPart (surviving (max a.1 (furthest c)) c),
      (if a.1 < furthest c then [] else a.2.2) ++ negPart (surviving (max a.1 (furthest c)) c)) := by
  simp [stepAtt, furthestList_cons, furthestList_nil, survivingList_cons, survivingList_nil]

/-- a call that is not a reported attempt leaves the bookkeeping of its interior. -/
theorem stepAtt_node_skip (a : Att) (r p : Nat) (m n rep : Bool) (kids : List Call)
    (h : isAttempt (.node r p m n rep kids) = false) :
    stepAtt a [.node r p m n rep kids] = stepAtt a kids := by
  rw [stepAtt_single, furthest_node, surviving_node, h]
  simp [stepAtt]

/-! ### `track` without atomicity, by the position of the attempt relative to the current one -/

theorem trackA_lt {a : Att} {p : Nat} (h : p < a.1) (n : Bool) (r pai nai prev : Nat) :
    trackA false n a r p pai nai prev = a := by
  have h1 : ¬ a.1 = p := by omega
  have h2 : ¬ p = a.1 := by omega
  have h3 : ¬ p > a.1 := by omega
  simp [trackA, h1, h2, h3]

theorem trackA_gt {a : Att} {p : Nat} (h : a.1 < p) (n : Bool) (r pai nai prev : Nat) :
    trackA false n a r p pai nai prev = (p, posPart [(r, n)], negPart [(r, n)]) := by
  have h1 : ¬ a.1 = p := by omega
  have h2 : ¬ p = a.1 := by omega
  cases n <;> simp [trackA, h1, h2, h, posPart, negPart]

theorem trackA_eq (n : Bool) (P r : Nat) (bp bn : List Nat) (S : List (Nat × Bool)) :
    trackA false n (P, bp ++ posPart S, bn ++ negPart S) r P bp.length bn.length (bp.length + bn.length) =
      (P, bp ++ posPart (if S.length = 1 then S else [(r, n)]),
        bn ++ negPart (if S.length = 1 then S else [(r, n)])) := by
  have hlen := parts_length S
  have t : ((bp ++ posPart S).length + (bn ++ negPart S).length > bp.length + bn.length ∧
      (bp ++ posPart S).length + (bn ++ negPart S).length - (bp.length + bn.length) = 1) ↔ S.length = 1 := by
    simp only [List.length_append]; omega
  simp only [trackA, Bool.false_eq_true, if_false, if_true, t, List.take_left', gt_iff_lt, Nat.lt_irrefl]
  split
  · rfl
  · cases n <;> simp [posPart, negPart]

/-- **the heart of C08**: `track`, run after the interior `kids` of a reported attempt has been
processed, leaves the bookkeeping the specification assigns to the call. -/
theorem trackA_spec (A0 : Nat) (pl nl : List Nat) (r p : Nat) (m n : Bool) (kids : List Call)
    (hA : isAttempt (.node r p m n true kids) = true) :
    trackA false n (stepAtt (A0, pl, nl) kids) r p (if p = A0 then pl.length else 0)
        (if p = A0 then nl.length else 0) (if A0 = p then pl.length + nl.length else 0) =
      stepAtt (A0, pl, nl) [.node r p m n true kids] := by
  rw [stepAtt_single, furthest_node, surviving_node, hA]
  simp only [if_true, Bool.true_and, beq_iff_eq]
  rcases Nat.lt_trichotomy p (max A0 (furthestList kids)) with hlt | rfl | hgt
  · -- an attempt before the current position: dropped
    have e : max A0 (max p (furthestList kids)) = max A0 (furthestList kids) := by omega
    have c : (A0 < max p (furthestList kids)) ↔ (A0 < furthestList kids) := by omega
    rw [trackA_lt (a := stepAtt (A0, pl, nl) kids) hlt]
    simp only [stepAtt, e, c, if_neg (Nat.ne_of_lt hlt)]
  · -- an attempt at the current position
    have e : max A0 (max (max A0 (furthestList kids)) (furthestList kids)) = max A0 (furthestList kids) := by omega
    have c : (A0 < max (max A0 (furthestList kids)) (furthestList kids)) ↔ (A0 < furthestList kids) := by omega
    have c1 : (max A0 (furthestList kids) = A0) ↔ ¬ A0 < furthestList kids := by omega
    have c2 : (A0 = max A0 (furthestList kids)) ↔ ¬ A0 < furthestList kids := by omega
    simp only [e, c, c1, c2, if_true]
    by_cases hb : A0 < furthestList kids <;>
      simp only [stepAtt, hb, if_true, if_false, not_true_eq_false, not_false_eq_true]
    · exact trackA_eq n _ r [] [] _
    · exact trackA_eq n _ r pl nl _
  · -- a new furthest position
    have e : max A0 (max p (furthestList kids)) = p := by omega
    have c : A0 < max p (furthestList kids) := by omega
    rw [trackA_gt (a := stepAtt (A0, pl, nl) kids) hgt, e, if_pos c, if_pos c,
      survivingList_beyond p kids (by omega), if_pos rfl]
    rfl
end PestModel.Track
