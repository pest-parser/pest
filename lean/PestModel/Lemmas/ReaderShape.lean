import PestModel.Model.ReaderP
import PestModel.Lemmas.ReaderStage
/-!
C09, part B: the shape of the pairs the meta-grammar produces (`GrammarForest`), and its literals: a quoted literal unescapes,
if at all, to a quoted string, so `ReaderP.literal` slices it without a panic.
-/
namespace PestModel.ReaderShape
open PestModel.G PestModel.Reader PestModel.ReaderFull PestModel.ReaderP
open PestModel.Views (Tree sizeList)
open PestModel.LineCol (Str)

def HasStr (text : Str) (t : Tree) : Prop := ∃ w, strOf text t = some w
/-- the pair's text starts and ends with the quote character. -/
def QuotedT (text : Str) (q : Char) (t : Tree) : Prop := ∃ body, strOf text t = some (q :: body ++ [q])
def TagT (text : Str) (t : Tree) : Prop := ∃ body, strOf text t = some ('#' :: body)

def IsInfix (t : Tree) : Prop := kind t = "sequence_operator" ∨ kind t = "choice_operator"
def IsPrefixOp (t : Tree) : Prop := kind t = "positive_predicate_operator" ∨ kind t = "negative_predicate_operator"
def IsModifier (t : Tree) : Prop :=
  kind t = "silent_modifier" ∨ kind t = "atomic_modifier" ∨ kind t = "compound_atomic_modifier" ∨
  kind t = "non_atomic_modifier"

def OptInt (text : Str) (l : List Tree) : Prop := l = [] ∨ ∃ x, l = [x] ∧ kind x = "integer" ∧ HasStr text x

def PeekKids (text : Str) (cs : List Tree) : Prop :=
  ∃ o i1 r i2 c, cs = o :: (i1 ++ r :: (i2 ++ [c])) ∧ kind r = "range_operator" ∧ kind c = "closing_brack" ∧
    OptInt text i1 ∧ OptInt text i2

def PostfixT (text : Str) (t : Tree) : Prop :=
  kind t = "optional_operator" ∨ kind t = "repeat_operator" ∨ kind t = "repeat_once_operator" ∨
  (kind t = "repeat_exact" ∧ ∃ o n c, t.children = [o, n, c] ∧ HasStr text n) ∨
  (kind t = "repeat_min" ∧ ∃ o n cm c, t.children = [o, n, cm, c] ∧ HasStr text n) ∨
  (kind t = "repeat_max" ∧ ∃ o cm n c, t.children = [o, cm, n, c] ∧ HasStr text n) ∨
  (kind t = "repeat_min_max" ∧ ∃ o a cm b c, t.children = [o, a, cm, b, c] ∧ HasStr text a ∧ HasStr text b)

/-- a terminal other than `PUSH(…)`. -/
def LeafT (text : Str) (t : Tree) : Prop :=
  (kind t = "_push_literal" ∧ ∃ o s c, t.children = [o, s, c] ∧ QuotedT text '"' s) ∨
  (kind t = "peek_slice" ∧ PeekKids text t.children) ∨
  (kind t = "identifier" ∧ HasStr text t) ∨
  (kind t = "string" ∧ QuotedT text '"' t) ∨
  (kind t = "insensitive_string" ∧ ∃ s, t.children = [s] ∧ QuotedT text '"' s) ∨
  (kind t = "range" ∧ ∃ a op b, t.children = [a, op, b] ∧ QuotedT text '\'' a ∧ QuotedT text '\'' b)

def LeadOK (lead : List Tree) : Prop := lead = [] ∨ ∃ l, lead = [l] ∧ kind l = "choice_operator"

mutual
  /-- the inner pairs of an `expression`: `choice_operator? ~ term ~ (infix_operator ~ term)*`. -/
  inductive ExprKids (text : Str) : List Tree → Prop
    | mk (lead : List Tree) (t0 : Tree) (rest : List (Tree × Tree)) :
        LeadOK lead → kind t0 = "term" → UnArgs text t0.children →
        (∀ p ∈ rest, IsInfix p.1 ∧ kind p.2 = "term") → (∀ p ∈ rest, UnArgs text p.2.children) →
        ExprKids text (lead ++ t0 :: rest.flatMap (fun p => [p.1, p.2]))
  /-- the lists `unaries` is called on: the inner pairs of a `term` (with or without a tag), what follows a
  prefix operator, and what follows an opening parenthesis. -/
  inductive UnArgs (text : Str) : List Tree → Prop
    | tagged {g asg : Tree} {rest : List Tree} : TagT text g → kind asg = "assignment_operator" →
        UnBody text rest → UnArgs text (g :: asg :: rest)
    | plain {rest : List Tree} : UnBody text rest → UnArgs text rest
    | parenRest {e c : Tree} {post : List Tree} : kind e = "expression" → ExprKids text e.children →
        kind c = "closing_paren" → (∀ p ∈ post, PostfixT text p) → UnArgs text (e :: c :: post)
  /-- `prefix_operator* ~ node ~ postfix_operator*`. -/
  inductive UnBody (text : Str) : List Tree → Prop
    | pre {p : Tree} {rest : List Tree} : IsPrefixOp p → UnBody text rest → UnBody text (p :: rest)
    | paren {o e c : Tree} {post : List Tree} : kind o = "opening_paren" → kind e = "expression" →
        ExprKids text e.children → kind c = "closing_paren" → (∀ p ∈ post, PostfixT text p) →
        UnBody text (o :: e :: c :: post)
    | push {t o e c : Tree} {post : List Tree} : kind t = "_push" → t.children = [o, e, c] →
        kind e = "expression" → ExprKids text e.children → (∀ p ∈ post, PostfixT text p) → UnBody text (t :: post)
    | leaf {t : Tree} {post : List Tree} : LeafT text t → (∀ p ∈ post, PostfixT text p) → UnBody text (t :: post)
end

/-- a `grammar_rule` pair. -/
def RuleT (text : Str) (t : Tree) : Prop :=
  (∃ c rest, t.children = c :: rest ∧ kind c = "line_doc") ∨
  (∃ id asg mods ob e cb, t.children = id :: asg :: (mods ++ [ob, e, cb]) ∧ kind id = "identifier" ∧ HasStr text id ∧
    (mods = [] ∨ ∃ m, mods = [m] ∧ IsModifier m) ∧ kind ob = "opening_brace" ∧
    kind e = "expression" ∧ ExprKids text e.children)

/-- what `parse(Rule::grammar_rules, text)` returns. -/
def GrammarForest (text : Str) (forest : List Tree) : Prop :=
  ∀ t ∈ forest, kind t = "grammar_rule" → RuleT text t

theorem hexVal_dquote : hexVal '"' = none := by decide
theorem hexVal_squote : hexVal '\'' = none := by decide

theorem utf8Len_append (a b : Str) : utf8Len (a ++ b) = utf8Len a + utf8Len b := by
  simp [utf8Len, List.map_append, List.sum_append]

theorem length_le_utf8Len (s : Str) : s.length ≤ utf8Len s := by
  induction s with
  | nil => simp [utf8Len]
  | cons c cs ih =>
    have := Char.utf8Size_pos c
    simp only [utf8Len, List.map_cons, List.sum_cons, List.length_cons] at *
    omega

theorem size_of_le {c d : Char} (h : c ≤ d) (hd : d.toNat < 128) : c.utf8Size = 1 := by
  have h1 : c.val.toNat ≤ d.toNat := UInt32.le_iff_toNat_le.1 (Char.le_def.1 h)
  simp only [Char.utf8Size]
  split
  · rfl
  · rename_i h'; exact absurd (UInt32.le_iff_toNat_le.2 (by simpa using Nat.le_of_lt_succ (Nat.lt_of_le_of_lt h1 hd))) h'

theorem hexVal_size {c : Char} {v : Nat} (h : hexVal c = some v) : c.utf8Size = 1 := by
  unfold hexVal at h
  split at h
  · rename_i hc; exact size_of_le hc.2 (by decide)
  · split at h
    · rename_i hc; exact size_of_le hc.2 (by decide)
    · split at h
      · rename_i hc; exact size_of_le hc.2 (by decide)
      · simp at h

theorem foldl_hex_all : ∀ (ds : Str) (a v : Nat),
    ds.foldlM (fun acc c => (hexVal c).map fun x => acc * 16 + x) a = some v → ∀ c ∈ ds, c.utf8Size = 1
  | [], _, _, _, c, hc => by simp at hc
  | d :: ds, a, v, h, c, hc => by
    simp only [List.foldlM_cons, Option.bind_eq_bind] at h
    cases hd : hexVal d with
    | none => simp [hd] at h
    | some x =>
      simp only [hd, Option.map_some, Option.bind_some] at h
      rcases List.mem_cons.1 hc with rfl | hc
      · exact hexVal_size hd
      · exact foldl_hex_all ds _ v h c hc

theorem utf8Len_eq_length {s : Str} (h : ∀ c ∈ s, c.utf8Size = 1) : utf8Len s = s.length := by
  induction s with
  | nil => simp [utf8Len]
  | cons c cs ih =>
    have h1 := h c (by simp)
    have := ih (fun c hc => h c (by simp [hc]))
    simp only [utf8Len, List.map_cons, List.sum_cons, List.length_cons] at *
    omega

theorem fromStrRadix16_ascii {ds : Str} {v : Nat} (h : fromStrRadix16 ds = some v) : utf8Len ds = ds.length := by
  unfold fromStrRadix16 at h
  simp only [] at h
  apply utf8Len_eq_length
  intro c hc
  split at h
  · split at h
    · simp at h
    · rcases List.mem_cons.1 hc with rfl | hc
      · decide
      · exact foldl_hex_all _ _ _ h c hc
  · split at h
    · simp at h
    · exact foldl_hex_all _ _ _ h c hc

theorem fromStrRadix16_quote {a q : Char} (hq : q = '"' ∨ q = '\'') : fromStrRadix16 [a, q] = none := by
  have hv : hexVal q = none := hq.elim (· ▸ hexVal_dquote) (· ▸ hexVal_squote)
  unfold fromStrRadix16
  simp only []
  split
  · rename_i rest heq
    simp at heq
    rw [← heq.2]
    simp [hv]
  · (simp [hv]) <;> (cases hexVal a <;> simp)

/-- One step of `unescapeGo`, inverted: it stops at the end of the string, or consumes a token `tok` and pushes one
character `c`. A token that ends in a quote pushes that quote: a quote is neither a hex digit nor `}`, so it ends only the
token that is the quote itself, or `\"`, `\'`. -/
theorem unescapeGo_step {f : Nat} {s acc u : Str} (h : unescapeGo (f + 1) s acc = some u) :
    (s = [] ∧ u = acc.reverse) ∨ ∃ tok c rest, s = tok ++ rest ∧ unescapeGo f rest (c :: acc) = some u ∧
      ∀ q, q = '"' ∨ q = '\'' → tok.getLast? = some q → c = q := by
  have esc : ∀ (e c : Char) (r : Str), unescapeGo f r (c :: acc) = some u → (e = '"' ∨ e = '\'' → c = e) →
      ∃ tok c rest, '\\' :: e :: r = tok ++ rest ∧ unescapeGo f rest (c :: acc) = some u ∧
        ∀ q, q = '"' ∨ q = '\'' → tok.getLast? = some q → c = q :=
    fun e c r h he => ⟨['\\', e], c, r, rfl, h, fun q hq hl => by cases hl; exact he hq⟩
  unfold unescapeGo at h
  split at h
  · exact .inl ⟨rfl, (Option.some.inj h).symm⟩
  · right
    split at h
    · cases h
    -- the seven one-character escapes
    iterate 7 exact esc _ _ _ h (by decide)
    · rename_i r
      simp only [] at h
      split at h
      · cases h
      · rename_i hlen
        split at h
        · rename_i v hv
          split at h
          · refine ⟨'\\' :: 'x' :: r.take 2, _, r.drop 2, by simp, h, fun q hq hl => False.elim ?_⟩
            have hq1 : q.utf8Size = 1 := by rcases hq with rfl | rfl <;> decide
            have h2 := List.length_take_le 2 r
            generalize r.take 2 = two at *
            rcases two with _ | ⟨a, _ | ⟨b, _ | ⟨c, t⟩⟩⟩
            · simp [utf8Len] at hlen
            · obtain rfl : a = q := by simpa using hl
              simp [utf8Len, hq1] at hlen
            · obtain rfl : b = q := by simpa using hl
              rw [fromStrRadix16_quote hq] at hv; cases hv
            · simp at h2
          · cases h
        · cases h
    · rename_i r
      split at h
      · rename_i r'
        simp only [] at h
        split at h
        · cases h
        · split at h
          · cases h
          · rename_i hn hl
            split at h
            · rename_i v hv
              split at h
              · rename_i c hc
                rw [fromStrRadix16_ascii hv] at h hl
                generalize hdig : r'.takeWhile (· ≠ '}') = digits at *
                have hsplit := List.takeWhile_append_dropWhile (p := (· ≠ '}')) (l := r')
                rw [hdig] at hsplit
                rcases hdw : r'.dropWhile (· ≠ '}') with _ | ⟨d, tail⟩
                · rw [hdw, List.append_nil] at hsplit; subst hsplit; omega
                · have hd : d = '}' := by
                    have := List.head_dropWhile_not (· ≠ '}') (l := r') (by rw [hdw]; exact List.cons_ne_nil _ _)
                    simp only [hdw, List.head_cons] at this
                    simpa using this
                  subst hd
                  rw [hdw] at hsplit
                  subst hsplit
                  rw [show digits ++ '}' :: tail = (digits ++ ['}']) ++ tail by simp, List.drop_left' (by simp)] at h
                  exact ⟨('\\' :: 'u' :: '{' :: digits) ++ ['}'], c, tail, by simp, h, fun q hq hl => by
                    rw [List.getLast?_concat] at hl; cases hl; rcases hq with hq | hq <;> cases hq⟩
              · cases h
            · cases h
      · cases h
    · cases h
  · rename_i c rest _
    exact .inr ⟨[c], c, rest, rfl, h, fun q _ hl => by cases hl; rfl⟩

theorem unescapeGo_quoted (q : Char) (hq : q = '"' ∨ q = '\'') :
    ∀ (fuel : Nat) (s acc u : Str), unescapeGo fuel (s ++ [q]) acc = some u → ∃ v, u = acc.reverse ++ v ++ [q]
  | 0, _, _, _, h => by simp [unescapeGo] at h
  | fuel + 1, s, acc, u, h => by
    rcases unescapeGo_step h with ⟨he, _⟩ | ⟨tok, c, rest, hs, hgo, hc⟩
    · simp at he
    · rcases List.eq_nil_or_concat rest with rfl | ⟨r, x, rfl⟩
      · rw [List.append_nil] at hs
        subst hs
        obtain rfl := hc q hq (by simp)
        cases fuel with
        | zero => simp [unescapeGo] at hgo
        | succ f => simp [unescapeGo] at hgo; exact ⟨[], by simp [← hgo]⟩
      · rw [List.concat_eq_append] at hs hgo
        rw [← List.append_assoc] at hs
        obtain ⟨rfl, hx⟩ := List.append_inj' hs rfl
        cases hx
        obtain ⟨v, hv⟩ := unescapeGo_quoted q hq fuel r (c :: acc) u hgo
        exact ⟨c :: v, by simp [hv]⟩

/-- a literal that is opened and closed by the quote unescapes (if at all) to a string opened and closed by
the quote: the slice `string[1..string.len() - 1]` is in range and on character boundaries. -/
theorem unescape_quoted {q : Char} (hq : q = '"' ∨ q = '\'') {body u : Str}
    (h : unescape (q :: body ++ [q]) = some u) : ∃ v, u = q :: v ++ [q] := by
  unfold unescape at h
  have hne : q ≠ '\\' := by rcases hq with rfl | rfl <;> decide
  have h2 : unescapeGo ((q :: body ++ [q]).length + 1) (q :: body ++ [q]) [] =
      unescapeGo (q :: body ++ [q]).length (body ++ [q]) [q] := step_plain _ q hne _ _
  rw [h2] at h
  obtain ⟨v, hv⟩ := unescapeGo_quoted q hq _ body [q] u h
  exact ⟨v, by simpa using hv⟩

theorem stripEnds_quoted {q : Char} (hq : q.utf8Size = 1) (v : Str) : stripEnds (q :: (v ++ [q])) = some v := by
  simp [stripEnds, hq]

theorem literal_np {text : Str} {q : Char} (hq : q = '"' ∨ q = '\'') {t : Tree} (h : QuotedT text q t) :
    ReaderP.literal text t ≠ .panic := by
  obtain ⟨body, hb⟩ := h
  have hq1 : q.utf8Size = 1 := by rcases hq with rfl | rfl <;> decide
  unfold ReaderP.literal
  rw [hb]
  simp only [orPanic, R3.bind]
  cases hu : unescape (q :: body ++ [q]) with
  | none => simp [orErr]
  | some u =>
    obtain ⟨v, rfl⟩ := unescape_quoted hq hu
    simp [orErr, stripEnds_quoted hq1]

end PestModel.ReaderShape
