import PestModel.Model.Grammar
/-! What `seqOfList` computes: it is defined exactly on the non-empty lists, and what is closed under
`.seq` passes from the elements to the folded sequence. What `populateChoices` computes: the strings
an alternation of literals and rule names inlines to. -/
namespace PestModel.G
open PestModel.LineCol (Str)

theorem seqOfList_cons : ∀ (x : Expr) (xs : List Expr),
    seqOfList (x :: xs) = some (match seqOfList xs with | none => x | some u => .seq x u)
  | _, [] => rfl
  | x, y :: ys => by simp only [seqOfList, seqOfList_cons y ys, Option.map_some]

theorem seqOfList_cons_cons {x y : Expr} {ys : List Expr} {u : Expr} :
    seqOfList (x :: y :: ys) = some u ↔ ∃ u', seqOfList (y :: ys) = some u' ∧ u = .seq x u' := by
  simp only [seqOfList, Option.map_eq_some_iff]
  exact ⟨fun ⟨u', h, e⟩ => ⟨u', h, e.symm⟩, fun ⟨u', h, e⟩ => ⟨u', h, e.symm⟩⟩

theorem seqOfList_eq_none {l : List Expr} : seqOfList l = none ↔ l = [] := by
  cases l with
  | nil => simp [seqOfList]
  | cons x xs => simp [seqOfList_cons]

theorem seqOfList_all {p : Expr → Prop} (hseq : ∀ a b, p a → p b → p (.seq a b)) :
    ∀ {l : List Expr} {u : Expr}, (∀ x ∈ l, p x) → seqOfList l = some u → p u
  | [], _, _, h => by simp [seqOfList] at h
  | x :: xs, u, hl, h => by
    rw [seqOfList_cons] at h
    cases hx : seqOfList xs with
    | none => simp only [hx, Option.some.injEq] at h; exact h ▸ hl x (by simp)
    | some v =>
      simp only [hx, Option.some.injEq] at h
      exact h ▸ hseq _ _ (hl x (by simp)) (seqOfList_all hseq (fun z hz => hl z (by simp [hz])) hx)

/-- `e` inlines to the strings `own`: what `populateChoices` collects from `e`, whatever the fuel. -/
inductive Pop (rules : List Rule) : Expr → List Str → Prop
  | str (s : Str) : Pop rules (.str s) [s]
  | ident {n : String} {body : Expr} {own : List Str} :
      lookupExpr rules n = some body → Pop rules body own → Pop rules (.ident n) own
  | choiceStr (s : Str) {rhs : Expr} {own : List Str} : Pop rules rhs own → Pop rules (.choice (.str s) rhs) (s :: own)
  | choiceIdent {n : String} {body rhs : Expr} {inl own : List Str} :
      lookupExpr rules n = some body → Pop rules body inl → Pop rules rhs own →
      Pop rules (.choice (.ident n) rhs) (inl ++ own)

theorem populate_pop (rules : List Rule) : ∀ (fuel : Nat) (e : Expr) (ch : List Str) (res : Expr),
    populateChoices rules fuel e ch = some res → ∃ own, res = .skip (ch ++ own) ∧ Pop rules e own
  | 0, _, _, _, h => by simp [populateChoices] at h
  | fuel + 1, e, ch, res, h => by
    unfold populateChoices at h
    split at h
    · rename_i x rhs
      obtain ⟨own, rfl, hp⟩ := populate_pop rules fuel _ _ _ h
      exact ⟨x :: own, by simp, .choiceStr x hp⟩
    · rename_i name rhs
      split at h
      · rename_i inl heq
        obtain ⟨body, hb1, hb2⟩ := Option.bind_eq_some_iff.1 heq
        obtain ⟨ownx, hx, hpx⟩ := populate_pop rules fuel _ _ _ hb2
        obtain ⟨own, rfl, hp⟩ := populate_pop rules fuel _ _ _ h
        simp only [List.nil_append, Expr.skip.injEq] at hx
        subst hx
        exact ⟨inl ++ own, by simp, .choiceIdent hb1 hpx hp⟩
      · cases h
    · cases h
    · cases h; exact ⟨[_], rfl, .str _⟩
    · obtain ⟨body, hb1, hb2⟩ := Option.bind_eq_some_iff.1 h
      obtain ⟨own, rfl, hp⟩ := populate_pop rules fuel _ _ _ hb2
      exact ⟨own, rfl, .ident hb1 hp⟩
    · cases h

end PestModel.G
