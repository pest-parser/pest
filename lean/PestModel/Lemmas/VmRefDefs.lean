import PestModel.Model.Grammar
import PestModel.Model.Ref
import PestModel.Model.Lower
/-! Definitions for C01 about what the restorer pass guarantees (`Dirty`, `GoodE`, `GoodRules`) and
the reachability notion its analysis `modifies` decides (`Mod`). -/
namespace PestModel.VmRef
open PestModel.G
open PestModel.PS (Atomicity)

/-- the items of `iter_top_down` that `child_modifies_state` answers `true` for directly. -/
def isModItem : OExpr → Bool
  | .push _ => true
  | .ident n => n = "DROP" ∨ n = "POP" ∨ n = "POP_ALL"
  | _ => false

/-- a state-modifying item is reachable from `e` through `iter_top_down` and rule references:
what `modifies` (a memoised depth-first search) decides. -/
inductive Mod (extras : Bool) (rules : List ORule) : OExpr → Prop
  | here {e x : OExpr} : x ∈ e.topDown extras → isModItem x = true → Mod extras rules e
  | there {e : OExpr} {n : String} {body : OExpr} : OExpr.ident n ∈ e.topDown extras →
      lookupO rules n = some body → Mod extras rules body → Mod extras rules e

/-- `e` may FAIL and leave the stack changed (only `POP`/`POP_ALL` fail after popping; failure
propagates through rule references, `PUSH(..)`, node tags and the alternatives of a choice; `~`, `*`, `+`, `?`,
predicates and `restore_on_err` either restore the stack or never fail).
A user rule named `POP`/`POP_ALL` is counted as dirty too (harmless over-approximation). -/
inductive Dirty (rs : List ORule) : OExpr → Prop
  | pop : Dirty rs (.ident "POP")
  | popAll : Dirty rs (.ident "POP_ALL")
  | ident {n : String} {body : OExpr} : lookupO rs n = some body → Dirty rs body → Dirty rs (.ident n)
  | push {e : OExpr} : Dirty rs e → Dirty rs (.push e)
  | choiceL {a b : OExpr} : Dirty rs a → Dirty rs (.choice a b)
  | choiceR {a b : OExpr} : Dirty rs b → Dirty rs (.choice a b)
  | nodeTag {e : OExpr} {t : PestModel.LineCol.Str} : Dirty rs e → Dirty rs (.nodeTag e t)

def noTag : OExpr → Bool
  | .posPred e | .negPred e | .opt e | .rep e | .repOnce e | .push e | .restoreOnErr e => noTag e
  | .seq a b | .choice a b => noTag a && noTag b
  | .nodeTag _ _ => false
  | _ => true

/-- what the simulation needs of an expression (as far as the restorer is concerned): the operand of
`?`/`*` and the left operand of `|` cannot fail dirty; `e+` only occurs with `grammar-extras`. -/
def GoodE (extras : Bool) (rs : List ORule) : OExpr → Prop
  | .posPred e | .negPred e | .push e | .restoreOnErr e | .nodeTag e _ => GoodE extras rs e
  | .seq a b => GoodE extras rs a ∧ GoodE extras rs b
  | .choice a b => ¬ Dirty rs a ∧ GoodE extras rs a ∧ GoodE extras rs b
  | .opt e | .rep e => ¬ Dirty rs e ∧ GoodE extras rs e
  | .repOnce e => extras = true ∧ GoodE extras rs e
  | _ => True

structure GoodRules (extras : Bool) (rs : List ORule) : Prop where
  expr : ∀ r ∈ rs, GoodE extras rs r.expr
  ws : ¬ Dirty rs (.ident "WHITESPACE")
  cm : ¬ Dirty rs (.ident "COMMENT")

/-- `e`, when it succeeds outside a predicate in atomicity mode `m`, emits at least one token (so that
`tag_node` tags a token of `e` itself): a reference to a rule that produces a pair in this mode,
propagated through the constructs that keep the tokens of an operand. -/
def emits (rs : List ORule) (m : Atomicity) : OExpr → Bool
  | .ident n =>
    match rs.find? (fun r => r.name = n) with
    | some r => PestModel.Ref.emitsFor r.ty m false
    | none => false
  | .seq a b => emits rs m a || emits rs m b
  | .choice a b => emits rs m a && emits rs m b
  | .push e | .restoreOnErr e | .repOnce e | .nodeTag e _ => emits rs m e
  | _ => false

/-- every node tag in `e` (evaluated in mode `m`) sits on an operand that emits a token, and node tags
only occur with `grammar-extras`. -/
def TagOK (extras : Bool) (rs : List ORule) (m : Atomicity) : OExpr → Prop
  | .nodeTag e _ => extras = true ∧ emits rs m e = true ∧ TagOK extras rs m e
  | .posPred e | .negPred e | .opt e | .rep e | .repOnce e | .push e | .restoreOnErr e => TagOK extras rs m e
  | .seq a b | .choice a b => TagOK extras rs m a ∧ TagOK extras rs m b
  | _ => True

/-- the atomicity modes a rule can be entered in: every rule can be the start rule (and `WHITESPACE`,
`COMMENT` are called by the implicit `skip`) in the non-atomic context; a rule referenced in the body
of a rule entered in mode `m` is entered in that body's mode. -/
inductive Reach (rs : List ORule) : String → Atomicity → Prop
  | entry (n : String) : Reach rs n .nonAtomic
  | step {n n' : String} {m : Atomicity} {r : ORule} : Reach rs n m →
      rs.find? (fun r => r.name = n) = some r → n' ∈ PestModel.Lower.identsOf r.expr →
      Reach rs n' (PestModel.Ref.bodyMode r.name r.ty m)

/-- the side condition on node tags: in every mode a rule can be entered in, its tags are `TagOK`. -/
def TagRules (extras : Bool) (rs : List ORule) : Prop :=
  ∀ r ∈ rs, ∀ m, Reach rs r.name m → TagOK extras rs (PestModel.Ref.bodyMode r.name r.ty m) r.expr

theorem tagOK_of_noTag (extras : Bool) (rs : List ORule) (m : Atomicity) (e : OExpr) (h : noTag e = true) :
    TagOK extras rs m e := by
  induction e with
  | nodeTag e t _ => simp [noTag] at h
  | seq a b iha ihb | choice a b iha ihb =>
    simp only [noTag, Bool.and_eq_true] at h
    exact ⟨iha h.1, ihb h.2⟩
  | posPred e ih | negPred e ih | opt e ih | rep e ih | repOnce e ih | push e ih | restoreOnErr e ih =>
    exact ih (by simpa [noTag] using h)
  | _ => trivial

theorem tagRules_of_noTag (extras : Bool) (rs : List ORule) (h : ∀ r ∈ rs, noTag r.expr = true) :
    TagRules extras rs := fun r hr _ _ => tagOK_of_noTag extras rs _ r.expr (h r hr)

/-- node tags only with `grammar-extras` (a consequence of `TagRules`). -/
def tagsExtras (extras : Bool) (e : OExpr) : Prop := extras = true ∨ noTag e = true

theorem tagsExtras_of_tagOK {extras : Bool} {rs : List ORule} {m : Atomicity} {e : OExpr}
    (h : TagOK extras rs m e) : tagsExtras extras e := by
  cases extras with
  | true => exact Or.inl rfl
  | false =>
    right
    induction e with
    | nodeTag e t _ => exact absurd h.1 (by simp)
    | seq a b iha ihb | choice a b iha ihb =>
      simp only [noTag, Bool.and_eq_true]
      exact ⟨iha h.1, ihb h.2⟩
    | posPred e ih | negPred e ih | opt e ih | rep e ih | repOnce e ih | push e ih | restoreOnErr e ih =>
      simpa [noTag] using ih h
    | _ => rfl

end PestModel.VmRef
