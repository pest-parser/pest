import PestModel.Model.Ref
import PestModel.Model.Lower
import PestModel.Lemmas.VmRefDefs
/-! C01: the lowered environment — rule lookup in the VM (`Env.index`, slot `3 * i + ctx`), in
the reference (`Ctx.rule?`) and in the restorer (`lookupO`) agree. -/
namespace PestModel.VmRef
open PestModel.G PestModel.PS PestModel.Lower PestModel.Ref PestModel.Views
open PestModel.LineCol (Str)

def mkCtx (env : Env) (extras : Bool) (input : Str) : Ctx :=
  { rules := ofOptimizedRules env.rules, input, extras, uni := env.uni }

def mkCfg (env : Env) (memchr : Bool) : Cfg := { memchr, env := lowerAll .vm env }

def oruleToRule (r : ORule) : Rule := ⟨r.name, r.ty, ofOptimized r.expr⟩

theorem index_go_spec (name : String) : ∀ (rs : List ORule) (i : Nat),
    match Env.index.go name rs i with
    | some j => ∃ r, i ≤ j ∧ rs[j - i]? = some r ∧ r.name = name ∧
        rs.find? (fun r => r.name = name) = some r ∧
        Ctx.rule?.go name (ofOptimizedRules rs) i = some (j, oruleToRule r)
    | none => Ctx.rule?.go name (ofOptimizedRules rs) i = none ∧
        rs.find? (fun r => r.name = name) = none
  | [], i => by
    rw [Env.index.go]
    exact ⟨by simp [ofOptimizedRules, Ctx.rule?.go], rfl⟩
  | r :: rs, i => by
    rw [Env.index.go]
    by_cases h : r.name = name
    · rw [if_pos h]
      refine ⟨r, Nat.le_refl _, by simp, h, by simp [h], ?_⟩
      simp [ofOptimizedRules, Ctx.rule?.go, h, oruleToRule]
    · rw [if_neg h]
      have ih := index_go_spec name rs (i + 1)
      cases hg : Env.index.go name rs (i + 1) with
      | some j =>
        rw [hg] at ih
        obtain ⟨r', hle, hget, hn, hf, hr⟩ := ih
        refine ⟨r', by omega, ?_, hn, ?_, ?_⟩
        · have : j - i = (j - (i + 1)) + 1 := by omega
          rw [this, List.getElem?_cons_succ]; exact hget
        · rw [List.find?_cons_of_neg (by simpa using h)]; exact hf
        · simp only [ofOptimizedRules, List.map_cons, Ctx.rule?.go, h, if_false]
          exact hr
      | none =>
        rw [hg] at ih
        refine ⟨?_, ?_⟩
        · simp only [ofOptimizedRules, List.map_cons, Ctx.rule?.go, h, if_false]
          exact ih.1
        · rw [List.find?_cons_of_neg (by simpa using h)]; exact ih.2

theorem index_some {env : Env} {extras : Bool} {input : Str} {name : String} {i : Nat}
    (h : env.index name = some i) :
    ∃ r, env.rules[i]? = some r ∧ r.name = name ∧ lookupO env.rules name = some r.expr ∧
      (mkCtx env extras input).rule? name = some (i, oruleToRule r) ∧
      env.rules.find? (fun r => r.name = name) = some r := by
  have := index_go_spec name env.rules 0
  unfold Env.index at h
  rw [h] at this
  obtain ⟨r, -, hget, hn, hf, hr⟩ := this
  exact ⟨r, by simpa using hget, hn, by simp [lookupO, hf], hr, hf⟩

theorem index_none {env : Env} {extras : Bool} {input : Str} {name : String}
    (h : env.index name = none) :
    (mkCtx env extras input).rule? name = none ∧ lookupO env.rules name = none ∧
      env.rules.find? (fun r => r.name = name) = none := by
  have := index_go_spec name env.rules 0
  unfold Env.index at h
  rw [h] at this
  exact ⟨this.1, by simp [lookupO, this.2], this.2⟩

theorem has_eq (env : Env) (extras : Bool) (input : Str) (name : String) :
    (mkCtx env extras input).has name = env.has name := by
  unfold Ctx.has Env.has
  cases h : env.index name with
  | some i =>
    obtain ⟨r, -, -, -, hr, -⟩ := index_some (extras := extras) (input := input) h
    rw [hr]; rfl
  | none => rw [(index_none (extras := extras) (input := input) h).1]; rfl

theorem ctxIdx_lt (m : Atomicity) : ctxIdx m < 3 := by cases m <;> simp [ctxIdx]

theorem contexts_ctxIdx (m : Atomicity) : contexts[ctxIdx m]? = some m := by
  cases m <;> rfl

theorem lowerAll_go_get (env : Env) : ∀ (rs : List ORule) (i k : Nat) (m : Atomicity),
    (lowerAll.go .vm env rs i)[3 * k + ctxIdx m]? = (rs[k]?).map fun r => vmRule env (i + k) r m
  | [], i, k, m => by simp [lowerAll.go]
  | r :: rs, i, k, m => by
    rw [lowerAll.go]
    have hlen : (contexts.map fun c => vmRule env i r c).length = 3 := rfl
    cases k with
    | zero =>
      have := ctxIdx_lt m
      rw [List.getElem?_append_left (by rw [hlen]; omega)]
      simp only [Nat.mul_zero, Nat.zero_add, List.getElem?_map, contexts_ctxIdx, Option.map_some,
        List.getElem?_cons_zero, Nat.add_zero]
    | succ k =>
      rw [List.getElem?_append_right (by rw [hlen]; omega), hlen]
      have : 3 * (k + 1) + ctxIdx m - 3 = 3 * k + ctxIdx m := by omega
      rw [this, lowerAll_go_get env rs (i + 1) k m, List.getElem?_cons_succ]
      have : i + 1 + k = i + (k + 1) := by omega
      rw [this]

theorem env_get {env : Env} {memchr : Bool} {i : Nat} {r : ORule} (m : Atomicity)
    (h : env.rules[i]? = some r) :
    (mkCfg env memchr).env[3 * i + ctxIdx m]? = some (vmRule env i r m) := by
  show (lowerAll.go .vm env env.rules 0)[3 * i + ctxIdx m]? = _
  rw [lowerAll_go_get, h]
  simp

theorem undefined_none (hsize : env.rules.length ≤ 333333333) :
    (mkCfg env memchr).env[1000000000]? = none := by
  have : (1000000000 : Nat) = 3 * 333333333 + ctxIdx .atomic := by simp [ctxIdx]
  show (lowerAll.go .vm env env.rules 0)[1000000000]? = none
  rw [this, lowerAll_go_get]
  simp
  omega

/-- the one pass over the table of `builtin`: what holds of its leaves (of `POP` and `POP_ALL` under their names), of
`EOI` and of the undefined rule, and is kept by `orElse`, holds of every built-in. -/
theorem _root_.PestModel.Lower.builtin_ind (env : Env) (name : String) {M : Prog → Prop}
    (skip : M (.skip 1)) (eoi : M (.rule env.rules.length .endOfInput)) (soi : M .startOfInput)
    (peek : M .stackPeek) (peekAll : M .stackMatchPeek) (pop : name = "POP" → M .stackPop)
    (popAll : name = "POP_ALL" → M .stackMatchPop) (drop : M .stackDrop) (range : ∀ a b, M (rng a b))
    (str : ∀ s, M (.matchString s)) (charBy : ∀ cs, M (.matchCharBy cs)) (undef : M undefinedRule)
    (or : ∀ {P Q}, M P → M Q → M (.orElse P Q)) : M (builtin env name) := by
  unfold builtin
  split
  case h_1 => exact skip
  case h_2 => exact eoi
  case h_3 => exact soi
  case h_4 => exact peek
  case h_5 => exact peekAll
  case h_6 => exact pop rfl
  case h_7 => exact popAll rfl
  case h_8 => exact drop
  case h_13 => exact or (or (range _ _) (range _ _)) (range _ _)
  case h_16 => exact or (range _ _) (range _ _)
  case h_17 => exact or (or (range _ _) (range _ _)) (range _ _)
  case h_19 => exact or (or (str _) (str _)) (str _)
  case h_20 => split; exact charBy _; exact undef
  all_goals exact range _ _

end PestModel.VmRef
