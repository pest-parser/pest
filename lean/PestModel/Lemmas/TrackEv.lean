import PestModel.Model.Lower
import PestModel.Lemmas.Track
import PestModel.Lemmas.RefVal
/-! Lemmas for C08: the instrumented reference as a big-step relation. `EvD c m la e s r cs`:
from some fuel on, `denoteT c · m la e s` is `(r, cs)`. For every clause of the mutual block
that a lowered optimized expression can reach with a definite outcome (`ok`/`fail`) there is a lemma: the
clause is the combination (`seqT`, `altT`, …) of its parts. Expressions without sub-expressions go through
`EvD.of_const` (on them, and on the built-in rules other than `EOI`, the instrumented reference is the
reference with the forest forgotten), the bounded repetitions do not occur in optimized expressions, and
the three loops come as `IsLoopT` at the end. -/
namespace PestModel.Track
open PestModel.G PestModel.Ref PestModel.RefTrace
open PestModel.LineCol (Str bLen cLen splitAt? slice?)
open PestModel.PS (Atomicity CharSet restAt eqIgnoreAsciiCase normalizeIndex)

def EvD (c : Ctx) (m : Atomicity) (la : LA) (e : Expr) (s : St) (r : R) (cs : List Call) : Prop :=
  ∃ F, ∀ f, F ≤ f → denoteT c f m la e s = (r, cs)
def EvL (c : Ctx) (m : Atomicity) (la : LA) (e : Expr) (s : St) (acc : List Call) (r : R) (cs : List Call) : Prop :=
  ∃ F, ∀ f, F ≤ f → repLoopT c f m la e s acc = (r, cs)
def EvK (c : Ctx) (m : Atomicity) (la : LA) (s : St) (r : R) (cs : List Call) : Prop :=
  ∃ F, ∀ f, F ≤ f → skipT c f m la s = (r, cs)
def EvSt (c : Ctx) (la : LA) (name : String) (s : St) (acc : List Call) (r : R) (cs : List Call) : Prop :=
  ∃ F, ∀ f, F ≤ f → starT c f la name s acc = (r, cs)
def EvCl (c : Ctx) (la : LA) (s : St) (acc : List Call) (r : R) (cs : List Call) : Prop :=
  ∃ F, ∀ f, F ≤ f → commentLoopT c f la s acc = (r, cs)
def EvCa (c : Ctx) (m : Atomicity) (la : LA) (name : String) (s : St) (r : R) (cs : List Call) : Prop :=
  ∃ F, ∀ f, F ≤ f → callT c f m la name s = (r, cs)

variable {c : Ctx} {m : Atomicity} {la : LA} {s s1 s2 : St} {r : R} {cs c1 c2 c3 acc : List Call}

theorem succ_of_le {F f : Nat} (h : F + 1 ≤ f) : ∃ f', f = f' + 1 ∧ F ≤ f' := ⟨f - 1, by omega, by omega⟩

/-- `X f = t` from some fuel on: the notion behind `EvD … EvCa`. Stated for all larger fuels, it needs
no monotonicity of the instrumented reference in its fuel. -/
def Ev {α : Type} (X : Nat → α) (t : α) : Prop := ∃ F, ∀ f, F ≤ f → X f = t

section
variable {α β γ δ : Type} {X : Nat → α} {Y : Nat → β} {Z : Nat → γ} {W : Nat → δ} {t : α} {u : β} {v : γ} {w : δ}

theorem Ev.const (h : ∀ f, X (f + 1) = t) : Ev X t :=
  ⟨1, fun f hf => by obtain ⟨f', rfl, -⟩ := succ_of_le (F := 0) hf; exact h f'⟩

/-- a clause that at fuel `f + 1` consults `Y` at fuel `f`. -/
theorem Ev.mk1 (h : Ev Y u) (step : ∀ f, Y f = u → X (f + 1) = t) : Ev X t := by
  obtain ⟨F, hF⟩ := h
  exact ⟨F + 1, fun f hf => by obtain ⟨f', rfl, hf'⟩ := succ_of_le hf; exact step f' (hF f' hf')⟩

theorem Ev.mk2 (h : Ev Y u) (h2 : Ev Z v) (step : ∀ f, Y f = u → Z f = v → X (f + 1) = t) : Ev X t := by
  obtain ⟨F, hF⟩ := h
  obtain ⟨G, hG⟩ := h2
  exact ⟨F + G + 1, fun f hf => by
    obtain ⟨f', rfl, hf'⟩ := succ_of_le hf
    exact step f' (hF f' (by omega)) (hG f' (by omega))⟩

theorem Ev.mk3 (h : Ev Y u) (h2 : Ev Z v) (h3 : Ev W w)
    (step : ∀ f, Y f = u → Z f = v → W f = w → X (f + 1) = t) : Ev X t := by
  obtain ⟨F, hF⟩ := h
  obtain ⟨G, hG⟩ := h2
  obtain ⟨H, hH⟩ := h3
  exact ⟨F + G + H + 1, fun f hf => by
    obtain ⟨f', rfl, hf'⟩ := succ_of_le hf
    exact step f' (hF f' (by omega)) (hG f' (by omega)) (hH f' (by omega))⟩

theorem Ev.exists (h : Ev X t) : ∃ f, X f = t := h.elim fun F hF => ⟨F, hF F (Nat.le_refl F)⟩
end

/-! ### the leaves of the instrumented reference are those of the reference -/

/-- forget the forest. -/
def eraseR : Res → R
  | .ok s _ => .ok s
  | .fail => .fail
  | .stuck => .stuck
  | .fuel => .fuel

theorem lit_erase (c : Ctx) (s : St) (str : Str) :
    RefTrace.lit c s str = (eraseR (Ref.lit c s str), []) := by
  unfold RefTrace.lit Ref.lit
  cases restAt c.input s.pos with
  | none => rfl
  | some rest => dsimp only; split <;> rfl

theorem oneChar_erase (c : Ctx) (s : St) (p : Char → Bool) :
    RefTrace.oneChar c s p = (eraseR (Ref.oneChar c s p), []) := by
  unfold RefTrace.oneChar Ref.oneChar
  cases restAt c.input s.pos with
  | none => rfl
  | some rest =>
    cases rest with
    | nil => rfl
    | cons ch cs => dsimp only; split <;> rfl

/-- expressions without sub-expressions and rule references. -/
def isLeaf : Expr → Bool
  | .str _ | .insens _ | .range _ _ | .peekSlice _ _ | .skip _ | .pushLiteral _ => true
  | _ => false

theorem leaf_erase (c : Ctx) (m : Atomicity) (la : LA) (b : Bool) (e : Expr) (s : St) (f : Nat)
    (h : isLeaf e = true) :
    denoteT c (f + 1) m la e s = (eraseR (val c m b e s), []) := by
  rw [val_eq]
  cases e with
  | str x => rw [denoteT]; exact lit_erase c s _
  | insens x =>
    rw [denoteT]; simp only [denoteF]
    cases restAt c.input s.pos with
    | none => rfl
    | some rest =>
      dsimp only
      cases splitAt? rest (bLen x) with
      | none => rfl
      | some pq => obtain ⟨pre, post⟩ := pq; dsimp only; split <;> rfl
  | range a b => rw [denoteT]; exact oneChar_erase c s _
  | peekSlice a b =>
    simp only [denoteT, denoteF]
    have key : ∀ (x y : Option Nat),
        (match x, y with
          | some i, some j =>
            if j ≤ i then ((R.ok s, []) : T) else
            match matchStrs c.input (List.take (j - i) (List.drop i s.stack.reverse)) s.pos with
            | some p => (R.ok { s with pos := p }, [])
            | none => (R.fail, [])
          | _, _ => (R.fail, [])) =
        (eraseR (match x, y with
          | some i, some j =>
            if j ≤ i then Res.ok s [] else
            match matchStrs c.input (List.take (j - i) (List.drop i s.stack.reverse)) s.pos with
            | some p => Res.ok { s with pos := p } []
            | none => Res.fail
          | _, _ => Res.fail), []) := by
      intro x y
      cases x with
      | none => rfl
      | some i =>
        cases y with
        | none => rfl
        | some j =>
          dsimp only
          split
          · rfl
          · cases matchStrs c.input (List.take (j - i) (List.drop i s.stack.reverse)) s.pos <;> rfl
    exact key _ _
  | skip ss =>
    rw [denoteT]; simp only [denoteF]
    cases restAt c.input s.pos <;> rfl
  | pushLiteral x => rw [denoteT]; rfl
  | _ => simp [isLeaf] at h

/-- The three tables of built-in rules, walked once: the lowered program, the reference's result and the instrumented
reference's result at `s` are, row by row, as listed. Facts about built-ins are instances (`M` may ignore a component). -/
theorem _root_.PestModel.Lower.builtin_rows (env : PestModel.Lower.Env) (c : Ctx) (hu : c.uni = env.uni) (m : Atomicity)
    (la : LA) (b : Bool) (name : String) (s : St) (hr : c.rule? name = none) {M : PestModel.PS.Prog → Res → T → Prop}
    (any : M (.skip 1) (Ref.oneChar c s fun _ => true) (RefTrace.oneChar c s fun _ => true))
    (soi : M .startOfInput (if s.pos = 0 then .ok s [] else .fail) (if s.pos = 0 then (.ok s, []) else (.fail, [])))
    (eoi : name = "EOI" → M (.rule env.rules.length .endOfInput)
      (if s.pos = bLen c.input then
        .ok s (if emitsFor .normal m b then [.node c.rules.length s.pos s.pos none []] else []) else .fail)
      ((if s.pos = bLen c.input then .ok s else .fail),
        [.node c.rules.length s.pos (decide (s.pos = bLen c.input)) (decide (la = .neg)) (decide (m ≠ .atomic)) []]))
    (peek : M .stackPeek (match s.stack with | [] => .stuck | top :: _ => Ref.lit c s top)
      (match s.stack with | [] => (.stuck, []) | top :: _ => RefTrace.lit c s top))
    (pop : name = "POP" → M .stackPop
      (match s.stack with
        | [] => .stuck
        | top :: rest => match Ref.lit c s top with | .ok s1 f => .ok { s1 with stack := rest } f | r => r)
      (match s.stack with
        | [] => (.stuck, [])
        | top :: rest => match RefTrace.lit c s top with | (.ok s1, cs) => (.ok { s1 with stack := rest }, cs) | r => r))
    (peekAll : M .stackMatchPeek
      (match matchStrs c.input s.stack s.pos with | some p => .ok { s with pos := p } [] | none => .fail)
      (match matchStrs c.input s.stack s.pos with | some p => (.ok { s with pos := p }, []) | none => (.fail, [])))
    (popAll : name = "POP_ALL" → M .stackMatchPop
      (match matchStrs c.input s.stack s.pos with | some p => .ok { pos := p, stack := [] } [] | none => .fail)
      (match matchStrs c.input s.stack s.pos with | some p => (.ok { pos := p, stack := [] }, []) | none => (.fail, [])))
    (drop : M .stackDrop (match s.stack with | [] => .fail | _ :: rest => .ok { s with stack := rest } [])
      (match s.stack with | [] => (.fail, []) | _ :: rest => (.ok { s with stack := rest }, [])))
    (r1 : ∀ a z, M (PestModel.Lower.rng a z) (Ref.oneChar c s fun ch => a ≤ ch ∧ ch ≤ z)
      (RefTrace.oneChar c s fun ch => a ≤ ch ∧ ch ≤ z))
    (r2 : ∀ a z a' z', M (.orElse (PestModel.Lower.rng a z) (PestModel.Lower.rng a' z'))
      (Ref.oneChar c s fun ch => (a ≤ ch ∧ ch ≤ z) ∨ (a' ≤ ch ∧ ch ≤ z'))
      (RefTrace.oneChar c s fun ch => (a ≤ ch ∧ ch ≤ z) ∨ (a' ≤ ch ∧ ch ≤ z')))
    (r3 : ∀ a z a' z' a'' z'',
      M (.orElse (.orElse (PestModel.Lower.rng a z) (PestModel.Lower.rng a' z')) (PestModel.Lower.rng a'' z''))
      (Ref.oneChar c s fun ch => (a ≤ ch ∧ ch ≤ z) ∨ (a' ≤ ch ∧ ch ≤ z') ∨ (a'' ≤ ch ∧ ch ≤ z''))
      (RefTrace.oneChar c s fun ch => (a ≤ ch ∧ ch ≤ z) ∨ (a' ≤ ch ∧ ch ≤ z') ∨ (a'' ≤ ch ∧ ch ≤ z'')))
    (nl : M (.orElse (.orElse (.matchString ['\n']) (.matchString ['\r', '\n'])) (.matchString ['\r']))
      (match Ref.lit c s ['\n'] with
        | .fail => (match Ref.lit c s ['\r', '\n'] with | .fail => Ref.lit c s ['\r'] | r => r)
        | r => r)
      (match RefTrace.lit c s ['\n'] with
        | (.fail, _) => (match RefTrace.lit c s ['\r', '\n'] with | (.fail, _) => RefTrace.lit c s ['\r'] | r => r)
        | r => r))
    (uni : ∀ cs, M (.matchCharBy cs) (Ref.oneChar c s cs.mem) (RefTrace.oneChar c s cs.mem))
    (undef : M PestModel.Lower.undefinedRule .stuck (.stuck, [])) :
    M (PestModel.Lower.builtin env name) (Ref.builtin c m b name s) (callT c 1 m la name s) := by
  unfold PestModel.Lower.builtin
  split
  case h_1 => rw [callT, hr]; exact any
  case h_2 => rw [callT, hr]; exact eoi rfl
  case h_3 => rw [callT, hr]; exact soi
  case h_4 => rw [callT, hr]; exact peek
  case h_5 => rw [callT, hr]; exact peekAll
  case h_6 => rw [callT, hr]; exact pop rfl
  case h_7 => rw [callT, hr]; exact popAll rfl
  case h_8 => rw [callT, hr]; exact drop
  case h_13 => rw [callT, hr]; exact r3 _ _ _ _ _ _
  case h_16 => rw [callT, hr]; exact r2 _ _ _ _
  case h_17 => rw [callT, hr]; exact r3 _ _ _ _ _ _
  case h_19 => rw [callT, hr]; exact nl
  case h_20 =>
    -- an unknown name: the other two tables are in their last row too
    have e1 : Ref.builtin c m b name s =
        match c.uni name with | some cs => Ref.oneChar c s cs.mem | none => .stuck := by
      unfold Ref.builtin
      split <;> first | contradiction | rfl
    have e2 : callT c 1 m la name s =
        match c.uni name with | some cs => RefTrace.oneChar c s cs.mem | none => (.stuck, []) := by
      rw [callT, hr]
      dsimp only
      split <;> first | contradiction | rfl
    rw [e1, e2, hu]
    cases env.uni name with
    | some cs => exact uni cs
    | none => exact undef
  all_goals (rw [callT, hr]; exact r1 _ _)

/-- the built-in rules other than `EOI` make no calls. -/
theorem builtin_erase (c : Ctx) (m : Atomicity) (la : LA) (b : Bool) (name : String) (s : St)
    (hr : c.rule? name = none) (hn : name ≠ "EOI") :
    callT c 1 m la name s = (eraseR (Ref.builtin c m b name s), []) :=
  PestModel.Lower.builtin_rows ⟨[], c.uni⟩ c rfl m la b name s hr (M := fun _ r t => t = (eraseR r, []))
    (any := oneChar_erase c s _) (soi := by split <;> rfl) (eoi := fun h => absurd h hn)
    (peek := by cases s.stack with | nil => rfl | cons top rest => exact lit_erase c s top)
    (pop := fun _ => by
      cases s.stack with
      | nil => rfl
      | cons top rest => dsimp only; rw [lit_erase]; cases Ref.lit c s top <;> rfl)
    (peekAll := by cases matchStrs c.input s.stack s.pos <;> rfl)
    (popAll := fun _ => by cases matchStrs c.input s.stack s.pos <;> rfl)
    (drop := by cases s.stack <;> rfl)
    (r1 := fun _ _ => oneChar_erase c s _) (r2 := fun _ _ _ _ => oneChar_erase c s _)
    (r3 := fun _ _ _ _ _ _ => oneChar_erase c s _)
    (nl := by
      rw [lit_erase, lit_erase, lit_erase]
      cases Ref.lit c s ['\n'] <;> try rfl
      cases Ref.lit c s ['\r', '\n'] <;> rfl)
    (uni := fun _ => oneChar_erase c s _) (undef := rfl)

def _root_.PestModel.RefTrace.R.isOk : R → Bool
  | .ok _ => true
  | _ => false

/-- a traced reference function: from `σ` the result is `r` and the calls made are `cs`. -/
abbrev DT := St → R → List Call → Prop

def seqT (D1 D2 : DT) : DT := fun σ r cs =>
  (r = .fail ∧ D1 σ .fail cs) ∨ (∃ σ1 c1 c2, D1 σ (.ok σ1) c1 ∧ D2 σ1 r c2 ∧ cs = c1 ++ c2)

def altT (D1 D2 : DT) : DT := fun σ r cs =>
  (∃ σ1, r = .ok σ1 ∧ D1 σ r cs) ∨ (∃ c1 c2, D1 σ .fail c1 ∧ D2 σ r c2 ∧ cs = c1 ++ c2)

def optT (D : DT) : DT := fun σ r cs =>
  (∃ σ1, r = .ok σ1 ∧ D σ r cs) ∨ (r = .ok σ ∧ D σ .fail cs)

def laT (positive : Bool) (D : DT) : DT := fun σ r cs =>
  (∃ σ1, D σ (.ok σ1) cs ∧ r = if positive then .ok σ else .fail) ∨
  (D σ .fail cs ∧ r = if positive then .fail else .ok σ)

def ruleT (id : Nat) (m : Atomicity) (la : LA) (D : DT) : DT := fun σ r cs =>
  ∃ kids, D σ r kids ∧
    cs = [.node id σ.pos r.isOk (decide (la = .neg)) (decide (m ≠ .atomic)) kids]

def pushT (input : Str) (D : DT) : DT := fun σ r cs =>
  (r = .fail ∧ D σ .fail cs) ∨
  (∃ σ1 str, D σ (.ok σ1) cs ∧ slice? input σ.pos σ1.pos = some str ∧
    r = .ok { σ1 with stack := str :: σ1.stack })

/-- the loop `L` (with accumulator) over the unit `U`. -/
structure IsLoopT (U : DT) (L : St → List Call → R → List Call → Prop) : Prop where
  step : ∀ s s1 c1 acc r cs, U s (.ok s1) c1 → L s1 (acc ++ c1) r cs → L s acc r cs
  stop : ∀ s c1 acc, U s .fail c1 → L s acc (.ok s) (acc ++ c1)

def loopT (L : St → List Call → R → List Call → Prop) : DT := fun σ r cs => ∀ acc, L σ acc r (acc ++ cs)

theorem loopT_nil {L : St → List Call → R → List Call → Prop} {σ : St} {r : R} {cs : List Call}
    (h : loopT L σ r cs) : L σ [] r cs :=
  h []

theorem EvD.of_const {e : Expr} {t : T} (h : ∀ f, denoteT c (f + 1) m la e s = t) : EvD c m la e s t.1 t.2 :=
  Ev.const h

theorem EvD.ident {n : String} (h : EvCa c m la n s r cs) : EvD c m la (.ident n) s r cs :=
  Ev.mk1 h fun f e1 => by rw [denoteT]; exact e1

theorem EvD.posPred {e : Expr} (h : laT true (EvD c m la.enterPos e) s r cs) : EvD c m la (.posPred e) s r cs := by
  rcases h with ⟨s1, h, rfl⟩ | ⟨h, rfl⟩ <;> exact Ev.mk1 h fun f e1 => by simp only [denoteT, e1]; rfl

theorem EvD.negPred {e : Expr} (h : laT false (EvD c m la.enterNeg e) s r cs) : EvD c m la (.negPred e) s r cs := by
  rcases h with ⟨s1, h, rfl⟩ | ⟨h, rfl⟩ <;> exact Ev.mk1 h fun f e1 => by simp only [denoteT, e1]; rfl

theorem EvD.seq {a b : Expr} (h : seqT (seqT (EvD c m la a) (EvK c m la)) (EvD c m la b) s r cs) :
    EvD c m la (.seq a b) s r cs := by
  rcases h with ⟨rfl, ⟨-, h⟩ | ⟨s1, c1, c2, h, hk, rfl⟩⟩ | ⟨s2, c12, c3, ⟨h, -⟩ | ⟨s1, c1, c2, h, hk, rfl⟩, hb, rfl⟩
  · exact Ev.mk1 h fun f e1 => by simp only [denoteT, e1]
  · exact Ev.mk2 h hk fun f e1 e2 => by simp only [denoteT, e1, e2]
  · cases h
  · exact Ev.mk3 h hk hb fun f e1 e2 e3 => by simp only [denoteT, e1, e2, e3]

theorem EvD.choice {a b : Expr} (h : altT (EvD c m la a) (EvD c m la b) s r cs) :
    EvD c m la (.choice a b) s r cs := by
  rcases h with ⟨s1, rfl, h⟩ | ⟨c1, c2, h, hb, rfl⟩
  · exact Ev.mk1 h fun f e1 => by simp only [denoteT, e1]
  · exact Ev.mk2 h hb fun f e1 e2 => by simp only [denoteT, e1, e2]

theorem EvD.opt {e : Expr} (h : optT (EvD c m la e) s r cs) : EvD c m la (.opt e) s r cs := by
  rcases h with ⟨s1, rfl, h⟩ | ⟨rfl, h⟩ <;> exact Ev.mk1 h fun f e1 => by simp only [denoteT, e1]

theorem EvD.rep {e : Expr} (hne : ∀ s acc cs, ¬ EvL c m la e s acc .fail cs)
    (h : optT (seqT (EvD c m la e) (loopT (EvL c m la e))) s r cs) : EvD c m la (.rep e) s r cs := by
  rcases h with ⟨s1, rfl, ⟨h, -⟩ | ⟨s', c1, c2, h, hl, rfl⟩⟩ | ⟨rfl, ⟨-, h⟩ | ⟨s', c1, c2, h, hl, rfl⟩⟩
  · cases h
  · exact Ev.mk2 h (hl c1) fun f e1 e2 => by simp only [denoteT, e1, e2]
  · exact Ev.mk1 h fun f e1 => by simp only [denoteT, e1]
  · exact (hne _ _ _ (hl [])).elim

theorem EvD.repOnce {e : Expr} (hx : c.extras = true) (h : seqT (EvD c m la e) (loopT (EvL c m la e)) s r cs) :
    EvD c m la (.repOnce e) s r cs := by
  rcases h with ⟨rfl, h⟩ | ⟨s', c1, c2, h, hl, rfl⟩
  · exact Ev.mk1 h fun f e1 => by simp only [denoteT, hx, if_true, e1]
  · exact Ev.mk2 h (hl c1) fun f e1 e2 => by simp only [denoteT, hx, if_true, e1, e2]

theorem EvD.push {e : Expr} (h : pushT c.input (EvD c m la e) s r cs) : EvD c m la (.push e) s r cs := by
  rcases h with ⟨rfl, h⟩ | ⟨s1, str, h, hs, rfl⟩
  · exact Ev.mk1 h fun f e1 => by simp only [denoteT, e1]
  · exact Ev.mk1 h fun f e1 => by simp only [denoteT, e1, hs]

theorem EvD.nodeTag {e : Expr} {t : Str} (h : EvD c m la e s r cs) : EvD c m la (.nodeTag e t) s r cs :=
  Ev.mk1 h fun f e1 => by rw [denoteT]; exact e1

theorem EvK.atomic (h : m ≠ .nonAtomic) : EvK c m la s (.ok s) [] :=
  Ev.const fun f => by simp only [skipT, h, ne_eq, not_false_eq_true, if_true]

theorem EvK.none (h1 : c.has "WHITESPACE" = false) (h2 : c.has "COMMENT" = false) :
    EvK c m la s (.ok s) [] :=
  Ev.const fun f => by
    rw [skipT]
    split
    · rfl
    · simp only [h1, h2]

theorem EvK.ws (hm : m = .nonAtomic) (h1 : c.has "WHITESPACE" = true) (h2 : c.has "COMMENT" = false)
    (h : EvSt c la "WHITESPACE" s [] r cs) : EvK c m la s r cs :=
  Ev.mk1 h fun f e1 => by simp only [skipT, hm, ne_eq, not_true_eq_false, if_false, h1, h2, e1]

theorem EvK.cm (hm : m = .nonAtomic) (h1 : c.has "WHITESPACE" = false) (h2 : c.has "COMMENT" = true)
    (h : EvSt c la "COMMENT" s [] r cs) : EvK c m la s r cs :=
  Ev.mk1 h fun f e1 => by simp only [skipT, hm, ne_eq, not_true_eq_false, if_false, h1, h2, e1]

theorem EvK.both (hm : m = .nonAtomic) (h1 : c.has "WHITESPACE" = true) (h2 : c.has "COMMENT" = true)
    (h : EvSt c la "WHITESPACE" s [] (.ok s1) c1) (hc : EvCl c la s1 c1 r cs) : EvK c m la s r cs :=
  Ev.mk2 h hc fun f e1 e2 => by simp only [skipT, hm, ne_eq, not_true_eq_false, if_false, h1, h2, e1, e2]

/-- the calls a rule call contributes: its interior if the rule is silent, else one node. -/
def ruleCalls (id : Nat) (rl : Rule) (m : Atomicity) (la : LA) (s : St) (res : R) (kids : List Call) : List Call :=
  if rl.ty = .silent then kids else
    [.node id s.pos res.isOk (decide (la = .neg)) (decide (modeAtRule rl.name rl.ty m ≠ .atomic)) kids]

theorem EvCa.rule {name : String} {id : Nat} {rl : Rule} {kids : List Call}
    (hr : c.rule? name = some (id, rl))
    (h : EvD c (bodyMode rl.name rl.ty m) la rl.expr s r kids) :
    EvCa c m la name s r (ruleCalls id rl m la s r kids) :=
  Ev.mk1 h fun f e1 => by
    rw [callT, hr]; simp only [e1, ruleCalls]
    split
    · rfl
    · cases r <;> rfl

/-- a name that is no rule of the grammar is a built-in, which needs no fuel beyond the first unit:
`callT c 1` is the instrumented table of built-ins. -/
theorem callT_builtin {name : String} (hr : c.rule? name = none) (f : Nat) :
    callT c (f + 1) m la name s = callT c 1 m la name s := by
  rw [callT, callT, hr]

theorem EvCa.builtin {name : String} (hr : c.rule? name = none) :
    EvCa c m la name s (callT c 1 m la name s).1 (callT c 1 m la name s).2 :=
  Ev.const (callT_builtin hr)

theorem isLoopT_rep (c : Ctx) (m : Atomicity) (la : LA) (e : Expr) :
    IsLoopT (seqT (EvK c m la) (EvD c m la e)) (EvL c m la e) where
  step := by
    rintro s s1 cu acc r cs (⟨h, -⟩ | ⟨σ1, c1, c2, hk, he, rfl⟩) hl
    · cases h
    · rw [← List.append_assoc] at hl
      exact Ev.mk3 hk he hl fun f e1 e2 e3 => by simp only [repLoopT, e1, e2, e3]
  stop := by
    rintro s cu acc (⟨-, hk⟩ | ⟨σ1, c1, c2, hk, he, rfl⟩)
    · exact Ev.mk1 hk fun f e1 => by simp only [repLoopT, e1]
    · rw [← List.append_assoc]
      exact Ev.mk2 hk he fun f e1 e2 => by simp only [repLoopT, e1, e2]

theorem isLoopT_star (c : Ctx) (la : LA) (name : String) :
    IsLoopT (EvCa c .nonAtomic la name) (EvSt c la name) where
  step := fun _ _ _ _ _ _ hu hl => Ev.mk2 hu hl fun f e1 e2 => by simp only [starT, e1, e2]
  stop := fun _ _ _ hu => Ev.mk1 hu fun f e1 => by simp only [starT, e1]

theorem starT_ne_fail (c : Ctx) (la : LA) (name : String) :
    ∀ (f : Nat) (s : St) (acc : List Call), (starT c f la name s acc).1 ≠ .fail
  | 0, s, acc => by rw [starT]; exact fun h => nomatch h
  | f + 1, s, acc => by
    rw [starT]
    rcases h : callT c f .nonAtomic la name s with ⟨r, c1⟩
    cases r with
    | ok s1 => exact starT_ne_fail c la name f s1 _
    | fail | stuck | fuel => exact fun h => nomatch h

theorem EvSt.ne_fail {c : Ctx} {la : LA} {name : String} {s : St} {acc cs : List Call}
    (h : EvSt c la name s acc .fail cs) : False :=
  (Ev.exists h).elim fun f hf => starT_ne_fail c la name f s acc (congrArg Prod.fst hf)

theorem repLoopT_ne_fail (c : Ctx) (m : Atomicity) (la : LA) (e : Expr) :
    ∀ (f : Nat) (s : St) (acc : List Call), (repLoopT c f m la e s acc).1 ≠ .fail
  | 0, s, acc => by rw [repLoopT]; exact fun h => nomatch h
  | f + 1, s, acc => by
    rw [repLoopT]
    rcases h : skipT c f m la s with ⟨r, c1⟩
    cases r with
    | ok s1 =>
      dsimp only
      rcases h2 : denoteT c f m la e s1 with ⟨r2, c2⟩
      cases r2 with
      | ok s2 => exact repLoopT_ne_fail c m la e f s2 _
      | fail | stuck | fuel => exact fun h => nomatch h
    | fail | stuck | fuel => exact fun h => nomatch h

theorem EvL.ne_fail {c : Ctx} {m : Atomicity} {la : LA} {e : Expr} {s : St} {acc cs : List Call}
    (h : EvL c m la e s acc .fail cs) : False :=
  (Ev.exists h).elim fun f hf => repLoopT_ne_fail c m la e f s acc (congrArg Prod.fst hf)

theorem isLoopT_comment (c : Ctx) (la : LA) :
    IsLoopT (seqT (EvCa c .nonAtomic la "COMMENT") (loopT (EvSt c la "WHITESPACE"))) (EvCl c la) where
  step := by
    rintro s s1 cu acc r cs (⟨h, -⟩ | ⟨σ1, c1, c2, hk, he, rfl⟩) hl
    · cases h
    · rw [← List.append_assoc] at hl
      exact Ev.mk3 hk (loopT_nil he) hl fun f e1 e2 e3 => by simp only [commentLoopT, e1, e2, e3]
  stop := by
    rintro s cu acc (⟨-, hk⟩ | ⟨σ1, c1, c2, hk, he, rfl⟩)
    · exact Ev.mk1 hk fun f e1 => by simp only [commentLoopT, e1]
    · exact (EvSt.ne_fail (he [])).elim

end PestModel.Track
