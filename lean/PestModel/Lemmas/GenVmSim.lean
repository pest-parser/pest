import PestModel.Lemmas.GenVmFrameRun
/-! C02: fuel-stratified simulation between two configurations (`Sim`) and its congruence
rules for the bracketing combinators, `repLoop`, `call` and the leaves (`and_then` / `or_else`: `GenVmChain`). -/
namespace PestModel.GenVm
open PestModel.PS PestModel.Stack
open PestModel.LineCol (Str isBoundary slice?)
open PestModel.VmRef (run_mono)

/-- every definite run of `P` in `A` with fuel `≤ n` is matched by a definite run of `Q` in `B`. -/
def Sim (A B : Cfg) (n : Nat) (P Q : Prog) : Prop :=
  ∀ k, k ≤ n → ∀ s1 s2, SEq s1 s2 → run A k P s1 ≠ .fuel → ∃ o2, Ev B Q s2 o2 ∧ OEq (run A k P s1) o2

def Both (A B : Cfg) (n : Nat) (P Q : Prog) : Prop := Sim A B n P Q ∧ Sim B A n Q P

variable {A B : Cfg} {n : Nat}

theorem Sim.mono {m : Nat} {P Q : Prog} (h : Sim A B n P Q) (hm : m ≤ n) : Sim A B m P Q :=
  fun k hk => h k (Nat.le_trans hk hm)

theorem Both.mono {m : Nat} {P Q : Prog} (h : Both A B n P Q) (hm : m ≤ n) : Both A B m P Q :=
  ⟨h.1.mono hm, h.2.mono hm⟩

theorem Both.symm {P Q : Prog} (h : Both A B n P Q) : Both B A n Q P := ⟨h.2, h.1⟩

theorem sim_zero (P Q : Prog) : Sim A B 0 P Q := by
  intro k hk s1 s2 _ hne
  obtain ⟨k, rfl⟩ := fuel_pos hne
  omega

theorem OEq.ok_inv {a : PState} {o : Out} (h : OEq (.ok a) o) : ∃ b, o = .ok b ∧ SEq a b := by
  cases o with
  | ok b => exact ⟨b, rfl, h.1⟩
  | _ => exact False.elim h.1

theorem OEq.err_inv {a : PState} {o : Out} (h : OEq (.err a) o) : ∃ b, o = .err b ∧ SEq a b := by
  cases o with
  | err b => exact ⟨b, rfl, h.1⟩
  | _ => exact False.elim h.1

theorem OEq.panic_inv {o : Out} (h : OEq .panic o) : o = .panic := by
  cases o with
  | panic => rfl
  | _ => exact False.elim h.1

theorem OEq.mk_ok {a b : PState} (h : SEq a b) : OEq (.ok a) (.ok b) := ⟨h, by simp⟩
theorem OEq.mk_err {a b : PState} (h : SEq a b) : OEq (.err a) (.err b) := ⟨h, by simp⟩
theorem OEq.mk_panic : OEq .panic .panic := ⟨trivial, by simp⟩

theorem OEq.mk_inv {π : Pol} {a : PState} {o : Out} (h : OEq (π.mk a) o) : ∃ b, o = π.mk b ∧ SEq a b := by
  cases π
  · exact h.ok_inv
  · exact h.err_inv

theorem OEq.sel_none {π : Pol} {o1 o2 : Out} (h : OEq o1 o2) (hn : π.sel o1 = none) : π.sel o2 = none := by
  cases π <;> cases o1 <;> cases o2 <;> first | exact False.elim h.1 | rfl | cases hn

/-- what a simulated definite run can be: both sides `ok`, both `err`, or both `panic`. -/
theorem Sim.inv {P Q : Prog} (h : Sim A B n P Q) {k : Nat} (hk : k ≤ n) {s1 s2 : PState} (hs : SEq s1 s2)
    (hne : run A k P s1 ≠ .fuel) :
    (∃ t1 t2, run A k P s1 = .ok t1 ∧ Ev B Q s2 (.ok t2) ∧ SEq t1 t2) ∨
    (∃ t1 t2, run A k P s1 = .err t1 ∧ Ev B Q s2 (.err t2) ∧ SEq t1 t2) ∨
    (run A k P s1 = .panic ∧ Ev B Q s2 .panic) := by
  obtain ⟨o2, ev, oe⟩ := h k hk s1 s2 hs hne
  cases h1 : run A k P s1 with
  | fuel => exact absurd h1 hne
  | ok t1 => rw [h1] at oe; obtain ⟨t2, rfl, ht⟩ := oe.ok_inv; exact .inl ⟨t1, t2, rfl, ev, ht⟩
  | err t1 => rw [h1] at oe; obtain ⟨t2, rfl, ht⟩ := oe.err_inv; exact .inr (.inl ⟨t1, t2, rfl, ev, ht⟩)
  | panic => rw [h1] at oe; have := oe.panic_inv; subst this; exact .inr (.inr ⟨rfl, ev⟩)

/-- environment slots related at level `n`. -/
def EnvSim (A B : Cfg) (n : Nat) : Prop :=
  ∀ i : Nat, (A.env[i]? = none ∧ B.env[i]? = none) ∨ ∃ p q, A.env[i]? = some p ∧ B.env[i]? = some q ∧ Sim A B n p q

theorem sim_call (h : EnvSim A B n) (i : Nat) : Sim A B (n + 1) (.call i) (.call i) := by
  intro k hk s1 s2 hs hne
  obtain ⟨k, rfl⟩ := fuel_pos hne
  rw [run_call] at hne ⊢
  rcases h i with ⟨h1, h2⟩ | ⟨p, q, h1, h2, hsim⟩
  · rw [h1]
    exact ⟨.panic, ev_call_none h2, OEq.mk_panic⟩
  · rw [h1] at hne ⊢
    obtain ⟨o2, ev, oe⟩ := hsim k (by omega) s1 s2 hs hne
    exact ⟨o2, ev_call h2 ev, oe⟩

theorem oeq_K {pre : PState → PState} {K : PState → Out → Out} (hK : KOK K) (hF : KFrame pre K)
    {s1 s2 : PState} (hs : SEq s1 s2) {o1 o2 : Out} (ho : OEq o1 o2)
    (r1 : ∀ x, o1.state? = some x → Rel (pre s1) x) (r2 : ∀ x, o2.state? = some x → Rel (pre s2) x)
    (g1 : ∀ x, (K s1 o1).state? = some x → Good x) (g2 : ∀ x, (K s2 o2).state? = some x → Good x) :
    OEq (K s1 o1) (K s2 o2) :=
  ⟨ORel.upgrade (frame_K hK hF hs ho.1 r1 r2) g1 g2, hK.ne_fuel _ _ ho.2⟩

theorem Ev.rel {cfg : Cfg} {p : Prog} {s x : PState} {o : Out} (h : Ev cfg p s o) (hx : o.state? = some x) :
    Rel s x := by
  obtain ⟨m, rfl, -⟩ := h
  exact rel_of_state hx

theorem sim_bracket {X Y P Q : Prog} {pre : PState → PState} {K : PState → Out → Out}
    (hA : Br A X P pre K) (hB : Br B Y Q pre K) (hK : KOK K) (hF : KFrame pre K) (h : Sim A B n P Q) :
    Sim A B n X Y := by
  intro k hk s1 s2 hs hne
  obtain ⟨k, rfl⟩ := fuel_pos hne
  have g1 := fun x (hx : (run A (k+1) X s1).state? = some x) => good_run hs.g1 hx
  rw [hA k s1 hs.g1] at hne g1 ⊢
  have hne' : run A k P (pre s1) ≠ .fuel := by
    intro hf; rw [hf, hK.fuel] at hne; exact hne rfl
  obtain ⟨o2, ev, oe⟩ := h k (by omega) _ _ (hF.hpre _ _ hs) hne'
  have ev2 := ev_bracket hB hK hs.g2 ev
  exact ⟨_, ev2, oeq_K hK hF hs oe (fun _ hx => rel_of_state hx) (fun _ hx => ev.rel hx) g1
    (fun _ hx => ev2.good hs.g2 hx)⟩

theorem sim_repLoop {P Q : Prog} (h : Sim A B n P Q) : Sim A B n (.repLoop P) (.repLoop Q) := by
  intro k
  induction k with
  | zero => intro _ s1 s2 _ hne; exact absurd (run_zero _ _ _) hne
  | succ k ih =>
    intro hk s1 s2 hs hne
    rw [run_repLoop] at hne ⊢
    have hP : run A k P s1 ≠ .fuel := by intro hf; rw [hf] at hne; exact hne rfl
    rcases h.inv (by omega) hs hP with ⟨t1, t2, e, ev, ht⟩ | ⟨t1, t2, e, ev, ht⟩ | ⟨e, ev⟩
    · rw [e] at hne ⊢
      obtain ⟨o2', ev', oe'⟩ := ih (by omega) t1 t2 ht hne
      exact ⟨o2', ev_repLoop_ok ev ev', oe'⟩
    · rw [e]; exact ⟨_, ev_repLoop_err ev, OEq.mk_ok ht⟩
    · rw [e]; exact ⟨_, ev_repLoop_panic ev, OEq.mk_panic⟩

/-- programs without sub-programs and without `call`. -/
def Prog.isLeaf : Prog → Bool
  | .matchString _ | .matchInsensitive _ | .matchRange _ _ | .matchCharBy _ | .skip _ | .skipUntil _
  | .startOfInput | .endOfInput | .tagNode _ | .ok | .fail | .stackPeek | .stackPop | .stackMatchPeek
  | .stackMatchPop | .stackDrop | .stackMatchPeekSlice _ _ _ | .stackPushLiteral _ => true
  | _ => false

theorem leaf_cfg (hm : A.memchr = B.memchr) {p : Prog} (hp : Prog.isLeaf p = true) (k : Nat) (s : PState) :
    run A k p s = run B k p s := by
  cases k with
  | zero => rw [run_zero, run_zero]
  | succ k =>
    -- `skipUntil` is the only leaf that looks at the configuration
    cases p <;> first | exact Bool.noConfusion hp | rfl | rw [PS.run, PS.run, hm]

theorem sim_leaf (hm : A.memchr = B.memchr) {p : Prog} (hp : Prog.isLeaf p = true) : Sim A B n p p := by
  intro k _ s1 s2 hs hne
  have hf := run_frame B k p s1 s2 hs
  rw [← leaf_cfg hm hp k s1] at hf
  exact ⟨_, Ev.of_run (hf.ne_fuel hne), hf, hne⟩

theorem run_ok_succ (cfg : Cfg) (k : Nat) (s : PState) : run cfg (k+1) .ok s = .ok s := by rw [PS.run]

theorem ev_ok (cfg : Cfg) (s : PState) : Ev cfg .ok s (.ok s) := ⟨1, run_ok_succ cfg 0 s, by simp⟩

theorem sim_andThen_ok_src {P Q : Prog} (h : Sim A B n P Q) : Sim A B n (.andThen P .ok) Q := by
  intro k hk s1 s2 hs hne
  obtain ⟨k, rfl⟩ := fuel_pos hne
  have e : run A (k+1) (.andThen P .ok) s1 = run A k P s1 := by
    rw [run_andThen]
    cases k with
    | zero => rw [run_zero]
    | succ k => cases run A (k+1) P s1 <;> simp [run_ok_succ]
  rw [e] at hne ⊢
  exact h k (by omega) s1 s2 hs hne

theorem sim_andThen_ok_tgt {P Q : Prog} (h : Sim A B n P Q) : Sim A B n P (.andThen Q .ok) := by
  intro k hk s1 s2 hs hne
  obtain ⟨o2, ev, oe⟩ := h k hk s1 s2 hs hne
  refine ⟨o2, ?_, oe⟩
  cases o2 with
  | ok t => exact ev_comb_go .ok ev (ev_ok B t)
  | err t => exact ev_comb_stop .ok ev rfl
  | panic => exact ev_comb_stop .ok ev rfl
  | fuel => exact absurd rfl ev.ne_fuel

theorem sim_ok_andThen_src {P Q : Prog} (h : Sim A B n P Q) : Sim A B n (.andThen .ok P) Q := by
  intro k hk s1 s2 hs hne
  obtain ⟨k, rfl⟩ := fuel_pos hne
  obtain ⟨k, rfl⟩ := fuel_pos (run_comb_ne_fuel (π := .ok) hne)
  rw [run_andThen, run_ok_succ] at hne ⊢
  exact h (k+1) (by omega) s1 s2 hs hne

theorem sim_ok_andThen_tgt {P Q : Prog} (h : Sim A B n P Q) : Sim A B n P (.andThen .ok Q) := by
  intro k hk s1 s2 hs hne
  obtain ⟨o2, ev, oe⟩ := h k hk s1 s2 hs hne
  exact ⟨o2, ev_comb_go .ok (ev_ok B s2) ev, oe⟩

end PestModel.GenVm
