import PestModel.Lemmas.VmRefMod
/-! The restorer on a grammar without stack operations: `modifies` answers `false` everywhere, so `restore_on_err` changes
nothing and `optimizeWith` is the AST passes followed by the conversion. (For evaluating `optimize` on a concrete grammar
this leaves out the memoised search, which is run afresh at every branching node.) -/
namespace PestModel.G
open PestModel.VmRef (Cache.get_set Cache.get_nil)

/-- neither `PUSH(…)` nor a call of `DROP`, `POP`, `POP_ALL`: what `child_modifies_state` looks for. -/
def plainItem : OExpr → Bool
  | .push _ => false
  | .ident n => !decide (n = "DROP" ∨ n = "POP" ∨ n = "POP_ALL")
  | _ => true

def plainExpr (extras : Bool) (e : OExpr) : Bool := (e.topDown extras).all plainItem

/-- every memo entry that is an answer is `false`. -/
def AllFalse (c : Cache) : Prop := ∀ n b, c.get n = some (some b) → b = false

theorem AllFalse.set {c : Cache} (h : AllFalse c) (n : String) {v : Option Bool} (hv : v = none ∨ v = some false) :
    AllFalse (c.set n v) := by
  intro m b hm
  rw [Cache.get_set] at hm
  split at hm
  · rcases hv with rfl | rfl <;> cases hm; rfl
  · exact h m b hm

theorem lookupO_mem {rules : List ORule} {n : String} {body : OExpr} (h : lookupO rules n = some body) :
    ∃ r ∈ rules, r.expr = body := by
  simp only [lookupO, Option.map_eq_some_iff] at h
  obtain ⟨r, hr, rfl⟩ := h
  exact ⟨r, List.mem_of_find?_eq_some hr, rfl⟩

variable {extras : Bool} {rules : List ORule}

/-- what `anyModifies` does with the head of its list. -/
def headStep (extras : Bool) (rules : List ORule) (fuel : Nat) (x : OExpr) (c : Cache) : Bool × Cache :=
  match x with
  | .push _ => (true, c)
  | .ident name =>
    if name = "DROP" ∨ name = "POP" ∨ name = "POP_ALL" then (true, c) else
    match c.get name with
    | some (some cached) => (cached, c)
    | some none => (false, c.set name (some false))
    | none =>
      let c := c.set name none
      let (r, c) := match lookupO rules name with
        | some body => childModifies extras rules fuel body c
        | none => (false, c)
      (r, c.set name (some r))
  | _ => (false, c)

theorem anyModifies_cons (fuel : Nat) (x : OExpr) (xs : List OExpr) (c : Cache) :
    anyModifies extras rules (fuel + 1) (x :: xs) c =
      if (headStep extras rules fuel x c).1 then (true, (headStep extras rules fuel x c).2)
      else anyModifies extras rules fuel xs (headStep extras rules fuel x c).2 := by
  cases x <;> rfl

theorem modifies_plain (hr : ∀ r ∈ rules, plainExpr extras r.expr = true) : ∀ fuel : Nat,
    (∀ e c, plainExpr extras e = true → AllFalse c →
      (childModifies extras rules fuel e c).1 = false ∧ AllFalse (childModifies extras rules fuel e c).2) ∧
    (∀ l c, l.all plainItem = true → AllFalse c →
      (anyModifies extras rules fuel l c).1 = false ∧ AllFalse (anyModifies extras rules fuel l c).2)
  | 0 => ⟨fun _ _ _ hc => ⟨rfl, hc⟩, fun l _ _ hc => by cases l <;> exact ⟨rfl, hc⟩⟩
  | fuel + 1 => by
    obtain ⟨ihc, iha⟩ := modifies_plain hr fuel
    refine ⟨fun e c he hc => iha _ c he hc, fun l c hl hc => ?_⟩
    cases l with
    | nil => exact ⟨rfl, hc⟩
    | cons x xs =>
      rw [List.all_cons, Bool.and_eq_true] at hl
      have h : (headStep extras rules fuel x c).1 = false ∧ AllFalse (headStep extras rules fuel x c).2 := by
        unfold headStep
        split
        · simp [plainItem] at hl
        · rename_i name
          have hn : ¬ (name = "DROP" ∨ name = "POP" ∨ name = "POP_ALL") := by simpa [plainItem] using hl.1
          rw [if_neg hn]
          split
          · rename_i cached hg
            exact ⟨hc _ _ hg, hc⟩
          · exact ⟨rfl, hc.set _ (.inr rfl)⟩
          · have hc1 := hc.set name (v := none) (.inl rfl)
            split
            · rename_i body hb
              obtain ⟨r, hrm, rfl⟩ := lookupO_mem hb
              obtain ⟨h1, h2⟩ := ihc r.expr _ (hr r hrm) hc1
              exact ⟨h1, h2.set _ (by rw [h1]; exact .inr rfl)⟩
            · exact ⟨rfl, hc1.set _ (.inr rfl)⟩
        · exact ⟨rfl, hc⟩
      rw [anyModifies_cons, h.1]
      exact iha xs _ hl.2 h.2

theorem modifies_eq_false (hr : ∀ r ∈ rules, plainExpr extras r.expr = true) {e : OExpr} (he : plainExpr extras e = true) :
    modifies extras rules e = false :=
  ((modifies_plain hr _).1 e [] he (fun n b h => by rw [Cache.get_nil] at h; cases h)).1

theorem omapBottomUp_plain (hr : ∀ r ∈ rules, plainExpr extras r.expr = true) : ∀ e : OExpr, plainExpr extras e = true →
    omapBottomUp extras (wrapBranching extras rules) e = e := by
  intro e h
  induction e with
  | posPred e ih | negPred e ih =>
    simp only [plainExpr, OExpr.topDown, List.all_cons, Bool.and_eq_true] at h
    simp only [omapBottomUp, ih h.2, wrapBranching]
  | seq a b iha ihb =>
    simp only [plainExpr, OExpr.topDown, List.all_cons, List.all_append, Bool.and_eq_true] at h
    simp only [omapBottomUp, iha h.2.1, ihb h.2.2, wrapBranching]
  | choice a b iha ihb =>
    simp only [plainExpr, OExpr.topDown, List.all_cons, List.all_append, Bool.and_eq_true] at h
    simp [omapBottomUp, iha h.2.1, ihb h.2.2, wrapBranching, modifies_eq_false hr h.2.1, modifies_eq_false hr h.2.2]
  | opt e ih | rep e ih =>
    simp only [plainExpr, OExpr.topDown, List.all_cons, Bool.and_eq_true] at h
    simp [omapBottomUp, ih h.2, wrapBranching, modifies_eq_false hr h.2]
  | push e _ => simp [plainExpr, OExpr.topDown, plainItem] at h
  | repOnce e ih | nodeTag e _ ih =>
    cases extras
    · simp only [omapBottomUp, wrapBranching, Bool.false_eq_true, if_false]
    · simp only [plainExpr, OExpr.topDown, if_true, List.all_cons, Bool.and_eq_true] at h
      simp only [omapBottomUp, if_true, ih h.2, wrapBranching]
  | _ => rfl

theorem restoreOnErr_plain (hr : ∀ r ∈ rules, plainExpr extras r.expr = true) {r : ORule}
    (h : plainExpr extras r.expr = true) : restoreOnErr extras rules r = r := by
  simp [restoreOnErr, omapBottomUp_plain hr _ h, modifies_eq_false hr h]

/-- the AST passes and the conversion, rule by rule: `optimizeWith` before the restorer. -/
def convertRules (extras withList : Bool) (rules : List Rule) : Option (List ORule) :=
  rules.mapM fun r => (astPasses extras withList rules r).bind fun r =>
    (toOptimized extras r.expr).map fun e => (⟨r.name, r.ty, e⟩ : ORule)

theorem optimizeWith_of_plain {extras withList : Bool} {rules : List Rule} {opt : List ORule}
    (hm : convertRules extras withList rules = some opt) (hp : opt.all (fun r => plainExpr extras r.expr) = true) :
    optimizeWith extras withList rules = some opt := by
  have hr : ∀ r ∈ opt, plainExpr extras r.expr = true := List.all_eq_true.1 hp
  unfold convertRules at hm
  unfold optimizeWith
  rw [hm]
  show some (opt.map (restoreOnErr extras opt)) = some opt
  rw [List.map_congr_left fun r h => restoreOnErr_plain hr (hr r h), List.map_id']

end PestModel.G
