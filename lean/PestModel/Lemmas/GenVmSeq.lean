import PestModel.Lemmas.GenVmChain
/-! C02: a `sequence` in the last position of a `sequence` can be dissolved. -/
namespace PestModel.GenVm
open PestModel.PS PestModel.Stack
open PestModel.LineCol (Str isBoundary slice?)
open PestModel.VmRef (run_mono)

theorem OEq0F.trans {o1 o2 o3 : Out} (h1 : OEq0F o1 o2) (h2 : OEq0F o2 o3) : OEq0F o1 o3 :=
  ORel.trans (R := SEq0) (fun _ _ _ a b => SEq0.trans a b) h1 h2

theorem OEq0F.symm {o1 o2 : Out} (h : OEq0F o1 o2) : OEq0F o2 o1 :=
  ORel.symm (R := SEq0) (fun _ _ a => SEq0.symm a) h

/-- a success inside `sequence` changes nothing but the snapshots. -/
theorem seqK_ok_oeq {t x y : PState} (h : SEq x y) : OEq (seqK t (.ok x)) (.ok y) := by
  obtain ⟨c, h1, e1, i1, -⟩ := checkpointOk_good h.g1.wf.2
  have e : seqK t (.ok x) = .ok (ws c x) := by
    show (match checkpointOk x with | some ns => Out.ok ns | none => .panic) = _
    rw [h1]
  rw [e]
  exact OEq.mk_ok (SEq.trans ⟨⟨rfl, e1⟩, ⟨⟨h.g1.wf.1, i1⟩, h.g1.calls⟩, h.g1⟩ h)

/-- **Dissolving a nested `sequence`**: finishing an inner `sequence` (started at `u`) and then the outer
one (started at `s`) is the same as finishing only the outer one. `o'` is the outcome of the body run from
`checkpoint u`, `o''` the outcome of the same body run from `u`. -/
theorem seqK_seqK {s u : PState} {o' o'' : Out} (hs : Good s) (hu : Good u) (r : Rel (checkpoint s) u)
    (ho : OEqF o' o'')
    (r' : ∀ x, o'.state? = some x → Rel (checkpoint u) x) (r'' : ∀ x, o''.state? = some x → Rel u x) :
    OEq0F (seqK s (seqK u o')) (seqK s o'') := by
  cases o' <;> cases o'' <;> try exact False.elim ho
  · rename_i n' n''
    obtain ⟨z, ez, hz⟩ := (seqK_ok_oeq (t := u) ho).symm.ok_inv
    rw [ez]
    exact frame_clear hz.symm
  · rename_i n' n''
    have rn' := r' n' rfl
    have rn'' := r'' n'' rfl
    obtain ⟨b, rfl, -⟩ := SEq.core (s1 := n') ho |>.exists
    -- the inner restore goes back to `u`'s stack contents and leaves `u`'s snapshots
    obtain ⟨i', f'⟩ := rel_checkpoint_saved hu rn'
    obtain ⟨r1, e1, -, i1, sv1⟩ := seqK_err_eq (t := u) i' f' rn'.q
    -- the outer one, on both sides, to `s`'s
    obtain ⟨iu, fu⟩ := rel_checkpoint_saved hs r
    obtain ⟨r2, e2, c2, -⟩ := seqK_err_eq (t := s) (x := ws r1 { n' with pos := u.pos, queue := u.queue }) i1
      (sv1.trans fu) r.q
    obtain ⟨r3, e3, c3, -⟩ := seqK_err_eq (t := s) (x := ws b n') (rn''.stk hu.wf.2).1
      (((rn''.stk hu.wf.2).2).trans fu) (r.q.trans rn''.q)
    rw [e1, e2, e3]
    exact ⟨rfl, by rw [ws_stack, ws_stack, c2, c3]⟩
  · trivial
  · trivial

/-- the same for a body that is run once from `checkpoint u` and once from `u`. -/
theorem seq_dissolve {C : Cfg} {s u : PState} (hs : Good s) (hu : Good u) (r : Rel (checkpoint s) u) (m : Nat)
    (X : Prog) : OEq0F (seqK s (seqK u (run C m X (checkpoint u)))) (seqK s (run C m X u)) :=
  seqK_seqK hs hu r (run_frame C m X (checkpoint u) u (seq_checkpoint_left hu)) (fun _ hx => rel_of_state hx)
    (fun _ hx => rel_of_state hx)

variable {A B : Cfg} {n : Nat}

/-- VM shape to generator shape. -/
theorem flatten_VG {PV VB P0 X' X : Prog} (h1 : Sim A B n PV P0) (h2 : Sim A B n VB (.sequence X))
    (hp : Prefix .ok B P0 X' X) : Sim A B n (.sequence (.andThen PV VB)) (.sequence X') := by
  intro k hk s1 s2 hs hne
  obtain ⟨k, rfl⟩ := fuel_pos hne
  have g1 := fun x (hx : (run A (k+1) (.sequence (.andThen PV VB)) s1).state? = some x) => good_run hs.g1 hx
  rw [(Shape.sequence _).br k s1 hs.g1] at hne g1 ⊢
  have hne' : run A k (.andThen PV VB) (checkpoint s1) ≠ .fuel := fun hf => hne (by rw [hf]; rfl)
  obtain ⟨k, rfl⟩ := fuel_pos hne'
  obtain ⟨o2, ev, oe⟩ := h1 k (by omega) _ _ (seq_checkpoint hs) (run_comb_ne_fuel (π := .ok) hne')
  have e : run A (k+1) (.andThen PV VB) (checkpoint s1) = _ := run_comb .ok k PV VB (checkpoint s1)
  rw [e] at hne' g1 ⊢
  have hB := (Shape.sequence X').br (cfg := B)
  cases hsel : Pol.sel .ok (run A k PV (checkpoint s1)) with
  | none =>
    rw [hsel] at g1
    have ev2 := ev_bracket hB (Shape.sequence .ok).kok hs.g2 (hp.intro_stop _ _ ev (oe.sel_none hsel))
    exact ⟨_, ev2, oeq_K (Shape.sequence .ok).kok seqK_frame hs oe (fun _ hx => rel_of_state hx) (fun _ hx => ev.rel hx) g1
      (fun _ hx => ev2.good hs.g2 hx)⟩
  | some t1 =>
    have e1 : run A k PV (checkpoint s1) = .ok t1 := Pol.sel_some hsel
    rw [hsel] at hne' g1
    rw [e1] at oe
    obtain ⟨t2, rfl, ht⟩ := oe.ok_inv
    -- the tail: a run of `sequence X` from `t2`, whose body also runs from `t2` itself
    obtain ⟨o2', evb, oeb⟩ := h2 k (by omega) t1 t2 ht hne'
    obtain ⟨o', ⟨m, em, nem⟩, rfl⟩ := ev_bracket_inv (Shape.sequence X).br (Shape.sequence X).kok ht.g2 evb
    have hfr := run_frame B m X (checkpoint t2) t2 (seq_checkpoint_left ht.g2)
    have ev2 := ev_bracket hB (Shape.sequence .ok).kok hs.g2
      (hp.intro_go _ _ _ ev (Ev.of_run (hfr.ne_fuel (by rw [em]; exact nem))))
    refine ⟨_, ev2, ORel.upgrade ?_ g1 (fun _ hx => ev2.good hs.g2 hx), (Shape.sequence .ok).kok.ne_fuel _ _ hne'⟩
    have rt2 : Rel (checkpoint s2) t2 := ev.rel_ok
    have step : OEq0F (seqK s1 (run A k VB t1)) (seqK s2 (seqK t2 o')) :=
      frame_K (Shape.sequence .ok).kok seqK_frame hs oeb.1
        (fun _ hx => (run_ok_rel e1).trans (rel_of_state hx))
        (fun _ hx => rt2.trans (evb.rel hx))
    rw [← em] at step
    exact step.trans (seq_dissolve hs.g2 ht.g2 rt2 m X)

/-- generator shape to VM shape. -/
theorem flatten_GV {PV VB P0 X' X : Prog} (h1 : Sim A B n P0 PV) (h2 : Sim A B n (.sequence X) VB)
    (hp : Prefix .ok A P0 X' X) : Sim A B n (.sequence X') (.sequence (.andThen PV VB)) := by
  intro k hk s1 s2 hs hne
  obtain ⟨k, rfl⟩ := fuel_pos hne
  have g1 := fun x (hx : (run A (k+1) (.sequence X') s1).state? = some x) => good_run hs.g1 hx
  rw [(Shape.sequence _).br k s1 hs.g1] at hne g1 ⊢
  have hne' : run A k X' (checkpoint s1) ≠ .fuel := fun hf => hne (by rw [hf]; rfl)
  have hB := (Shape.sequence (.andThen PV VB)).br (cfg := B)
  rcases hp.elim k _ hne' with ⟨t1, F1, hF1, e1, e2⟩ | ⟨F1, hF1, e1, e2⟩
  · obtain ⟨o2, ev, oe⟩ := h1 F1 (by omega) _ _ (seq_checkpoint hs) (by rw [e1]; exact Out.noConfusion)
    rw [e1] at oe
    obtain ⟨t2, rfl, ht⟩ := oe.ok_inv
    have rt1 : Rel (checkpoint s1) t1 := run_ok_rel e1
    -- a run of `sequence X` from `t1`
    have step := seq_dissolve hs.g1 ht.g1 rt1 k (C := A) X
    rw [e2] at step
    have nex : run A k X (checkpoint t1) ≠ .fuel :=
      (run_frame A k X (checkpoint t1) t1 (seq_checkpoint_left ht.g1)).ne_fuel' (by rw [e2]; exact hne')
    have erun := (Shape.sequence X).br (cfg := A) k t1 ht.g1
    obtain ⟨o2', evb, oeb⟩ := h2 (k+1) hk t1 t2 ht (by rw [erun]; exact (Shape.sequence .ok).kok.ne_fuel _ _ nex)
    have ev2 := ev_bracket hB (Shape.sequence .ok).kok hs.g2 (ev_comb_go .ok ev evb)
    refine ⟨_, ev2, ORel.upgrade ?_ g1 (fun _ hx => ev2.good hs.g2 hx), (Shape.sequence .ok).kok.ne_fuel _ _ hne'⟩
    have step2 : OEq0F (seqK s1 (run A (k+1) (.sequence X) t1)) (seqK s2 o2') :=
      frame_K (Shape.sequence .ok).kok seqK_frame hs oeb.1 (fun _ hx => rt1.trans (rel_of_state hx))
        (fun _ hx => ev.rel_ok.trans (evb.rel hx))
    rw [erun] at step2
    exact step.symm.trans step2
  · obtain ⟨o2, ev, oe⟩ := h1 F1 (by omega) _ _ (seq_checkpoint hs) (by rw [e1]; exact hne')
    rw [e1] at oe
    have ev2 := ev_bracket hB (Shape.sequence .ok).kok hs.g2 (ev_comb_stop .ok (q := VB) ev (oe.sel_none e2))
    exact ⟨_, ev2, oeq_K (Shape.sequence .ok).kok seqK_frame hs oe (fun _ hx => rel_of_state hx)
      (fun _ hx => ev.rel hx) g1 (fun _ hx => ev2.good hs.g2 hx)⟩

end PestModel.GenVm
