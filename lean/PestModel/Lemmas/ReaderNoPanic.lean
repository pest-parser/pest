import PestModel.Lemmas.ReaderShape
import PestModel.Lemmas.ReaderAgree
/-! C09, part B (continued): the functions of `ReaderP` below the recursion (leaves, postfix operators, `build` over the
skeleton of the infix stage) reach no panic site on pairs of the shape `GrammarForest`; `nodeOf` by the kind of its pair. -/
namespace PestModel.ReaderShape
open PestModel.G PestModel.Reader PestModel.ReaderP
open PestModel.ReaderFull (kind strOf stripEnds dropFirstByte theChar tokens isOp dropLead modifierOf)
open PestModel.Views (Tree sizeList)
open PestModel.LineCol (Str)
open PestModel.C07Full (shape shapeGo joinB IsTerm IsOpOf OpTerms stage_parse stage_terms)

theorem bind_np {α β : Type} {x : R3 α} {f : α → R3 β} (hx : x ≠ .panic) (hf : ∀ a, x = .ok a → f a ≠ .panic) :
    x.bind f ≠ .panic := by
  cases x with
  | ok a => exact hf a rfl
  | err => simp [R3.bind]
  | panic => exact absurd rfl hx

theorem map_np {α β : Type} {x : R3 α} {f : α → β} (hx : x ≠ .panic) : x.map f ≠ .panic := by
  unfold R3.map
  exact bind_np hx (fun _ _ => by simp)

theorem orErr_np {α : Type} (o : Option α) : orErr o ≠ .panic := by cases o <;> simp [orErr]

theorem numberOf_np {text : Str} {t : Tree} (h : HasStr text t) : numberOf text t ≠ .panic := by
  obtain ⟨w, hw⟩ := h
  simp only [numberOf, hw, orPanic, R3.bind]
  exact orErr_np _

theorem integerOf_np {text : Str} {t : Tree} (h : HasStr text t) : integerOf text t ≠ .panic := by
  obtain ⟨w, hw⟩ := h
  simp only [integerOf, hw, orPanic, R3.bind]
  exact orErr_np _

theorem peekSlice_np {text : Str} {cs : List Tree} (h : PeekKids text cs) : peekSlice text cs ≠ .panic := by
  obtain ⟨o, i1, r, i2, c, rfl, hr, hc, h1, h2⟩ := h
  have tail : ∀ a : Int, ReaderAgree.P.peekEnd text a (i2 ++ [c]) ≠ R3.panic := by
    intro a
    rcases h2 with rfl | ⟨x, rfl, hx, hs⟩
    · simp [ReaderAgree.P.peekEnd, hc]
    · simp [ReaderAgree.P.peekEnd, hx]
      exact map_np (integerOf_np hs)
  rcases h1 with rfl | ⟨x, rfl, hx, hs⟩
  · simp only [peekSlice, List.nil_append, hr, if_true, R3.bind]
    exact tail 0
  · simp only [peekSlice, List.cons_append, List.nil_append, hx]
    simp only [show ("integer" = "range_operator") = False from by decide, if_false, if_true]
    apply bind_np (map_np (integerOf_np hs))
    intro _ hm
    obtain ⟨a, _, rfl⟩ := R3.map_eq_ok.1 hm
    exact tail a

theorem leafNode_np {extras : Bool} {text : Str} {t : Tree} (h : LeafT text t) : leafNode extras text t ≠ .panic := by
  rcases h with ⟨hk, o, s, c, hc, hs⟩ | ⟨hk, hp⟩ | ⟨hk, w, hw⟩ | ⟨hk, hs⟩ | ⟨hk, s, hc, hs⟩ | ⟨hk, a, op, b, hc, ha, hb⟩
  · simp only [leafNode, hk, if_true, hc]
    cases extras
    · simp
    · simp only [if_true]
      exact map_np (literal_np (Or.inl rfl) hs)
  · simp [leafNode, hk]
    exact peekSlice_np hp
  · simp [leafNode, hk, hw, orPanic, R3.map, R3.bind]
  · simp [leafNode, hk]
    exact map_np (literal_np (Or.inl rfl) hs)
  · simp [leafNode, hk, hc]
    exact map_np (literal_np (Or.inl rfl) hs)
  · simp [leafNode, hk, hc]
    apply bind_np (literal_np (Or.inr rfl) ha)
    intro x _
    apply bind_np (literal_np (Or.inr rfl) hb)
    intro y _
    cases theChar x <;> cases theChar y <;> simp [orErr, R3.bind]

theorem sizeList_append (a b : List Tree) : sizeList (a ++ b) = sizeList a + sizeList b := by
  induction a with
  | nil => simp [sizeList]
  | cons t ts ih => simp [sizeList, ih]; omega

theorem size_eq (t : Tree) : t.size = 2 + sizeList t.children := by
  cases t; simp [Tree.size, Tree.children]

theorem size_le_of_mem {t : Tree} {l : List Tree} (h : t ∈ l) : t.size ≤ sizeList l := by
  induction l with
  | nil => simp at h
  | cons x xs ih =>
    rcases List.mem_cons.1 h with rfl | h
    · simp [sizeList]
    · have := ih h; simp [sizeList]; omega

/-- the three ways a recursive call fits the fuel: on what follows the first pair, on the inner pairs of a pair of the
list, on the inner pairs of a child of such a pair. -/
theorem fit_tail {x : Tree} {r : List Tree} {f : Nat} (h : sizeList (x :: r) ≤ f) : sizeList r + 1 ≤ f := by
  have := size_eq x; simp only [sizeList] at h; omega

theorem fit_child {t : Tree} {l : List Tree} {f : Nat} (ht : t ∈ l) (h : sizeList l ≤ f) : sizeList t.children + 1 ≤ f := by
  have := size_le_of_mem ht; have := size_eq t; omega

theorem fit_grandchild {t e : Tree} {l : List Tree} {f : Nat} (ht : t ∈ l) (he : e ∈ t.children) (h : sizeList l ≤ f) :
    sizeList e.children + 1 ≤ f :=
  fit_child he (Nat.le_of_succ_le (fit_child ht h))

def opsOf (rest : List (Tree × Tree)) : List Bool := rest.map fun p => decide (kind p.1 = "choice_operator")

theorem isOpOf_of_infix {t : Tree} (h : IsInfix t) : IsOpOf t (decide (kind t = "choice_operator")) := by
  rcases h with h | h <;> simp [IsOpOf, h]

theorem isTerm_of_kind {t : Tree} (h : kind t = "term") : IsTerm t := by simp [IsTerm, h]

theorem opTerms_flat : ∀ (rest : List (Tree × Tree)), (∀ p ∈ rest, IsInfix p.1 ∧ kind p.2 = "term") →
    OpTerms (rest.flatMap fun p => [p.1, p.2]) (opsOf rest) (rest.map (·.2))
  | [], _ => .nil
  | p :: rest, h => by
    have hp := h p (by simp)
    simpa [opsOf] using OpTerms.cons (isOpOf_of_infix hp.1) (isTerm_of_kind hp.2)
      (opTerms_flat rest fun q hq => h q (by simp [hq]))

/-- the three-valued stage on `t₀ (op t)*`: a panic among the primaries wins, otherwise `build` over `shape ops`. -/
theorem infixStage_eq {t0 : Tree} {ps ts : List Tree} {os : List Bool} (ht : IsTerm t0) (h : OpTerms ps os ts)
    (rd : Tree → R3 Expr) :
    infixStage (t0 :: ps) (((t0 :: ps).filter fun p => !isOp p).map rd) =
      if anyPanic ((t0 :: ts).map rd) then .panic else build ((t0 :: ts).map rd) (shape os) := by
  obtain ⟨t, hp, hb⟩ := stage_parse ht h
  simp only [infixStage, hp, hb, stage_terms ht h]

def below (n : Nat) : Bin → Prop
  | .leaf i => i < n
  | .seq a b => below n a ∧ below n b
  | .alt a b => below n a ∧ below n b

theorem leaves_joinB (acc : Option Bin) (cur : Bin) : leaves (joinB acc cur) = acc.elim [] leaves ++ leaves cur := by
  cases acc <;> simp [joinB, leaves]

theorem leaves_shapeGo : ∀ (ops : List Bool) (acc : Option Bin) (cur : Bin) (i : Nat),
    leaves (shapeGo acc cur i ops) = acc.elim [] leaves ++ leaves cur ++ List.range' i ops.length
  | [], acc, cur, i => by simp [shapeGo, leaves_joinB]
  | false :: r, acc, cur, i => by simp [shapeGo, leaves_shapeGo r, leaves, List.range'_succ]
  | true :: r, acc, cur, i => by simp [shapeGo, leaves_shapeGo r, leaves, leaves_joinB, List.range'_succ]

/-- the skeleton of `t₀ (op t)*` uses every primary, once and in order. -/
theorem leaves_shape (ops : List Bool) : leaves (shape ops) = List.range (ops.length + 1) := by
  simp [shape, leaves_shapeGo, leaves, List.range_eq_range', List.range'_succ]

theorem below_iff {n : Nat} : ∀ {b : Bin}, below n b ↔ ∀ i ∈ leaves b, i < n
  | .leaf i => by simp [below, leaves]
  | .seq a b => by simp [below, leaves, or_imp, forall_and, below_iff (b := a), below_iff (b := b)]
  | .alt a b => by simp [below, leaves, or_imp, forall_and, below_iff (b := a), below_iff (b := b)]

theorem below_shapeGo : ∀ (ops : List Bool) (acc : Option Bin) (cur : Bin) (i : Nat),
    (∀ a, acc = some a → below i a) → below i cur → below (i + ops.length) (shapeGo acc cur i ops) := by
  intro ops acc cur i ha hc
  rw [below_iff, leaves_shapeGo]
  intro k hk
  simp only [List.mem_append, List.mem_range'_1] at hk
  rcases hk with (hk | hk) | hk
  · cases acc with
    | none => simp at hk
    | some a => have := below_iff.1 (ha a rfl) k hk; omega
  · have := below_iff.1 hc k hk; omega
  · omega

theorem build_np (prims : List (R3 Expr)) (hp : ∀ r ∈ prims, r ≠ .panic) :
    ∀ b : Bin, below prims.length b → build prims b ≠ .panic
  | .leaf i, hb => by
    simp only [below] at hb
    simp only [build, List.getElem?_eq_getElem hb]
    exact hp _ (List.getElem_mem hb)
  | .seq a b, hb => by
    simp only [build]
    exact bind_np (build_np prims hp a hb.1) (fun _ _ => bind_np (build_np prims hp b hb.2) (fun _ _ => by simp))
  | .alt a b, hb => by
    simp only [build]
    exact bind_np (build_np prims hp a hb.1) (fun _ _ => bind_np (build_np prims hp b hb.2) (fun _ _ => by simp))

theorem PostfixT.ne_asg {text : Str} {t : Tree} (h : PostfixT text t) : kind t ≠ "assignment_operator" := by
  rcases h with h | h | h | ⟨h, _⟩ | ⟨h, _⟩ | ⟨h, _⟩ | ⟨h, _⟩ <;> simp [h]

theorem LeafT.kinds {text : Str} {t : Tree} (h : LeafT text t) : ReaderFull.LeafKind (kind t) := by
  rcases h with ⟨h, _⟩ | ⟨h, _⟩ | ⟨h, _⟩ | ⟨h, _⟩ | ⟨h, _⟩ | ⟨h, _⟩ <;> simp [ReaderFull.LeafKind, h]

theorem UnBody.head {text : Str} {l : List Tree} (h : UnBody text l) :
    ∃ x r, l = x :: r ∧ kind x ≠ "assignment_operator" := by
  cases h with
  | pre hp _ => exact ⟨_, _, rfl, by rcases hp with h | h <;> simp [h]⟩
  | paren ho _ _ _ _ => exact ⟨_, _, rfl, by simp [ho]⟩
  | push ht _ _ _ _ => exact ⟨_, _, rfl, by simp [ht]⟩
  | leaf hl _ => exact ⟨_, _, rfl, hl.kinds.ne.2.2.2.2.2⟩

/-- without a tag, the pair after the first one is never an `assignment_operator`. -/
theorem UnBody.second {text : Str} {x y : Tree} {r : List Tree} (h : UnBody text (x :: y :: r)) :
    kind y ≠ "assignment_operator" := by
  cases h with
  | pre _ hb => obtain ⟨x', r', he, hk⟩ := hb.head; cases he; exact hk
  | paren _ he _ _ _ => simp [he]
  | push _ _ _ _ hp => exact (hp y (by simp)).ne_asg
  | leaf _ hp => exact (hp y (by simp)).ne_asg

theorem getNodeTag_plain {text : Str} {x : Tree} {r : List Tree} (h : UnBody text (x :: r)) :
    getNodeTag text (x :: r) = .ok (x, r, none) := by
  cases r with
  | nil => rfl
  | cons y r' => simp [getNodeTag, h.second]

section nodeOf
variable {extras : Bool} {text : Str} {ce un : List Tree → R3 Expr} {p : Tree} {rest : List Tree}

theorem nodeOfP_paren (hk : kind p = "opening_paren") : nodeOf extras text ce un p rest = un rest := by
  simp [nodeOf, hk]

theorem nodeOfP_pos (hk : kind p = "positive_predicate_operator") :
    nodeOf extras text ce un p rest = (un rest).map .posPred := by
  simp [nodeOf, hk]

theorem nodeOfP_neg (hk : kind p = "negative_predicate_operator") :
    nodeOf extras text ce un p rest = (un rest).map .negPred := by
  simp [nodeOf, hk]

theorem nodeOfP_expression (hk : kind p = "expression") :
    nodeOf extras text ce un p rest = (ce p.children).bind fun n => postfixes text n rest := by
  simp [nodeOf, hk]

theorem nodeOfP_push {o e : Tree} {cs : List Tree} (hk : kind p = "_push") (hc : p.children = o :: e :: cs) :
    nodeOf extras text ce un p rest = ((ce e.children).map .push).bind fun n => postfixes text n rest := by
  simp [nodeOf, hk, hc]

theorem nodeOfP_leaf (hk : ReaderFull.LeafKind (kind p)) :
    nodeOf extras text ce un p rest = (leafNode extras text p).bind fun n => postfixes text n rest := by
  obtain ⟨h1, h2, h3, h4, h5, _⟩ := hk.ne
  simp only [nodeOf, h1, h2, h3, h4, h5, if_false]

end nodeOf

theorem dropLead_lead {lead : List Tree} {t0 : Tree} {r : List Tree} (hl : LeadOK lead) (h0 : kind t0 = "term") :
    dropLead (lead ++ t0 :: r) = t0 :: r := by
  rcases hl with rfl | ⟨l, rfl, hk⟩
  · exact ReaderFull.dropLead_cons_of_ne (by simp [h0])
  · exact ReaderFull.dropLead_cons_choice hk

theorem dropLead_kids {text : Str} {pairs : List Tree} (h : ExprKids text pairs) :
    ∃ (t0 : Tree) (rest : List (Tree × Tree)), dropLead pairs = t0 :: rest.flatMap (fun p => [p.1, p.2]) ∧ kind t0 = "term" ∧
      UnArgs text t0.children ∧ (∀ p ∈ rest, IsInfix p.1 ∧ kind p.2 = "term") ∧ (∀ p ∈ rest, UnArgs text p.2.children) := by
  cases h with
  | mk lead t0 rest hl h0 hu0 hr hur => exact ⟨t0, rest, dropLead_lead hl h0, h0, hu0, hr, hur⟩

/-- the body of a rule fits the fuel the rule fits. -/
theorem fit_body {t e : Tree} {fuel : Nat} (he : e ∈ t.children) (hfit : t.size ≤ fuel) :
    sizeList (dropLead e.children) + 1 ≤ fuel := by
  have := fit_child he (f := fuel) (by have := size_eq t; omega)
  have := ReaderFull.sizeList_dropLead_le e.children
  omega

theorem exprKids_ne_nil {text : Str} {pairs : List Tree} (h : ExprKids text pairs) : pairs ≠ [] := by
  cases h with
  | mk lead t0 rest _ _ _ _ _ => simp

end PestModel.ReaderShape
