import PestModel.Lemmas.ReaderSound
import PestModel.Lemmas.RefSkip
/-!
C09, behind the reader: **the optimizer's panic sites are unreachable on what the reader returns** — the unroller's `unwrap`
on an empty unrolling and `rule_to_optimized_rule`'s `unreachable!` on a construct that should have been unrolled.
-/
namespace PestModel.OptTotal
open PestModel.G PestModel.ReaderValue
open PestModel.LineCol (Str)

/-- the counts the reader lets through: `{n}`, `{,n}`, `{m,n}` with `n ≠ 0`. -/
def posCounts : Expr → Bool
  | .repExact e n => decide (n ≠ 0) && posCounts e
  | .repMax e n => decide (n ≠ 0) && posCounts e
  | .repMinMax e _ hi => decide (hi ≠ 0) && posCounts e
  | .posPred e | .negPred e | .opt e | .rep e | .repOnce e | .repMin e _ | .push e | .nodeTag e _ => posCounts e
  | .seq a b | .choice a b => posCounts a && posCounts b
  | _ => true

/-- what `rule_to_optimized_rule` can convert: no bounded repetition left, `e+` only with `grammar-extras`. -/
def convOK (extras : Bool) : Expr → Bool
  | .repExact _ _ | .repMin _ _ | .repMax _ _ | .repMinMax _ _ _ => false
  | .repOnce e => extras && convOK extras e
  | .posPred e | .negPred e | .opt e | .rep e | .push e | .nodeTag e _ => convOK extras e
  | .seq a b | .choice a b => convOK extras a && convOK extras b
  | _ => true

theorem toOptimized_total (extras : Bool) : ∀ e : Expr, convOK extras e = true → (toOptimized extras e).isSome = true := by
  intro e h
  rw [Option.isSome_iff_exists]
  induction e with
  | seq a b iha ihb | choice a b iha ihb =>
    simp only [convOK, Bool.and_eq_true] at h
    obtain ⟨a', ha⟩ := iha h.1; obtain ⟨b', hb⟩ := ihb h.2
    exact ⟨_, by simp only [toOptimized, ha, hb]; rfl⟩
  | posPred e ih | negPred e ih | opt e ih | rep e ih | push e ih | nodeTag e _ ih =>
    obtain ⟨e', he⟩ := ih h; exact ⟨_, by simp only [toOptimized, he]; rfl⟩
  | repOnce e ih =>
    simp only [convOK, Bool.and_eq_true] at h
    obtain ⟨rfl, h2⟩ := h
    obtain ⟨e', he⟩ := ih h2; exact ⟨.repOnce e', by simp [toOptimized, he]⟩
  | repExact | repMin | repMax | repMinMax => simp [convOK] at h
  | _ => exact ⟨_, rfl⟩

/-- the only count `unrollF` looks at: the one at the root. -/
def topCountOK : Expr → Bool
  | .repExact _ n | .repMax _ n | .repMinMax _ _ n => decide (n ≠ 0)
  | _ => true

def kids : Expr → List Expr
  | .posPred x | .negPred x | .opt x | .rep x | .repOnce x | .repExact x _ | .repMin x _ | .repMax x _ | .repMinMax x _ _
  | .push x | .nodeTag x _ => [x]
  | .seq a b | .choice a b => [a, b]
  | _ => []

/-- the unroller's `unwrap` is on a non-empty list when the count at the root is not 0. -/
theorem unrollF_isSome (extras : Bool) (e : Expr) (hc : topCountOK e = true) : (unrollF extras e).isSome = true := by
  have fin : ∀ l, l ≠ [] → (seqOfList l).isSome = true := fun l hl => Option.isSome_iff_ne_none.2 (mt seqOfList_eq_none.1 hl)
  cases e <;> simp only [topCountOK, decide_eq_true_eq] at hc
  case repOnce x => cases extras <;> rfl
  case repExact x n => exact fin _ (by simpa using hc)
  case repMin x n => exact fin _ (by simp)
  case repMax x n => exact fin _ (by simpa using hc)
  case repMinMax x lo hi => exact fin _ (fun h => hc (by simpa using congrArg List.length h))
  all_goals rfl

/-- one node of the unroller on converted operands: no panic, and the result is convertible. -/
theorem unrollF_node (extras : Bool) (e : Expr) (hc : topCountOK e = true) (hk : ∀ k ∈ kids e, convOK extras k = true) :
    ∃ e', unrollF extras e = some e' ∧ convOK extras e' = true := by
  obtain ⟨u, hu⟩ := Option.isSome_iff_exists.1 (unrollF_isSome extras e hc)
  refine ⟨u, hu, ?_⟩
  have fin : ∀ l, seqOfList l = some u → (∀ x ∈ l, convOK extras x = true) → convOK extras u = true :=
    fun l hu hl => seqOfList_all (p := (convOK extras · = true)) (fun a b ha hb => by simp [convOK, ha, hb]) hl hu
  cases e <;> simp only [kids, List.mem_cons, List.not_mem_nil, forall_eq_or_imp, forall_eq, or_false, false_imp_iff,
    implies_true] at hk
  case repOnce x => cases extras <;> cases hu <;> simp [convOK, hk]
  case repExact x n => exact fin _ hu (fun z hz => by rw [(List.mem_replicate.1 hz).2]; exact hk)
  case repMin x n =>
    refine fin _ hu (fun z hz => ?_)
    rcases List.mem_append.1 hz with hz | hz
    · rw [(List.mem_replicate.1 hz).2]; exact hk
    · simp at hz; subst hz; simpa [convOK] using hk
  case repMax x n => exact fin _ hu (fun z hz => by rw [(List.mem_replicate.1 hz).2]; simpa [convOK] using hk)
  case repMinMax x lo hi =>
    refine fin _ hu (fun z hz => ?_)
    obtain ⟨i, _, rfl⟩ := List.mem_map.1 hz
    split
    · exact hk
    · simpa [convOK] using hk
  all_goals cases hu; simp [convOK, hk]

/-- **the unroller does not panic on the reader's counts, and leaves nothing it should have unrolled.** -/
theorem unrollExpr_total (extras : Bool) : ∀ e : Expr, posCounts e = true →
    ∃ e', unrollExpr extras e = some e' ∧ convOK extras e' = true := by
  intro e h
  induction e with
  | seq a b iha ihb | choice a b iha ihb =>
    simp only [posCounts, Bool.and_eq_true] at h
    obtain ⟨a', ha1, ha2⟩ := iha h.1
    obtain ⟨b', hb1, hb2⟩ := ihb h.2
    simp only [unrollExpr, ha1, hb1, Option.bind_some]
    exact ⟨_, rfl, by simp [convOK, ha2, hb2]⟩
  | posPred e ih | negPred e ih | opt e ih | rep e ih | repOnce e ih | push e ih | nodeTag e _ ih | repMin e _ ih =>
    obtain ⟨e', h1, h2⟩ := ih h
    simp only [unrollExpr, h1, Option.bind_some]
    exact unrollF_node extras _ rfl (by simpa [kids] using h2)
  | repExact e _ ih | repMax e _ ih | repMinMax e _ _ ih =>
    simp only [posCounts, Bool.and_eq_true, decide_eq_true_eq] at h
    obtain ⟨e', h1, h2⟩ := ih h.2
    simp only [unrollExpr, h1, Option.bind_some]
    exact unrollF_node extras _ (by simpa [topCountOK] using h.1) (by simpa [kids] using h2)
  | _ => exact ⟨_, rfl, rfl⟩

/-! ### the passes around the unroller keep these invariants -/

theorem mapTopDown_posCounts (f : Expr → Expr) (hf : ∀ x, posCounts x = true → posCounts (f x) = true) :
    ∀ (fuel : Nat) (e : Expr), posCounts e = true → posCounts (mapTopDown f fuel e) = true
  | 0, e, h => h
  | fuel + 1, e, h => by
    have hfe := hf e h
    have ih := mapTopDown_posCounts f hf fuel
    cases hx : f e <;> simp only [mapTopDown, hx] <;> simp only [hx, posCounts, Bool.and_eq_true, decide_eq_true_eq] at hfe ⊢ <;>
      first
        | exact ih _ hfe
        | exact ⟨ih _ hfe.1, ih _ hfe.2⟩
        | exact ⟨hfe.1, ih _ hfe.2⟩
        | trivial

theorem mapTopDown_convOK (extras : Bool) (f : Expr → Expr) (hf : ∀ x, convOK extras x = true → convOK extras (f x) = true) :
    ∀ (fuel : Nat) (e : Expr), convOK extras e = true → convOK extras (mapTopDown f fuel e) = true
  | 0, e, h => h
  | fuel + 1, e, h => by
    have hfe := hf e h
    have ih := mapTopDown_convOK extras f hf fuel
    cases hx : f e <;> simp only [mapTopDown, hx] <;> simp only [hx, convOK, Bool.and_eq_true] at hfe ⊢ <;>
      first
        | exact ih _ hfe
        | exact ⟨ih _ hfe.1, ih _ hfe.2⟩
        | exact ⟨hfe.1, ih _ hfe.2⟩
        | trivial
        | (exfalso; exact Bool.noConfusion hfe)

theorem mapBottomUp_convOK (extras : Bool) (f : Expr → Expr) (hf : ∀ x, convOK extras x = true → convOK extras (f x) = true) :
    ∀ (e : Expr), convOK extras e = true → convOK extras (mapBottomUp f e) = true
  | .str _, h | .insens _, h | .range _ _, h | .ident _, h | .peekSlice _ _, h | .skip _, h | .pushLiteral _, h => hf _ h
  | .posPred e, h | .negPred e, h | .opt e, h | .rep e, h | .push e, h | .nodeTag e _, h => by
    simp only [mapBottomUp]; apply hf; simp only [convOK] at h ⊢; exact mapBottomUp_convOK extras f hf e h
  | .repOnce e, h => by
    simp only [mapBottomUp]; apply hf
    simp only [convOK, Bool.and_eq_true] at h ⊢
    exact ⟨h.1, mapBottomUp_convOK extras f hf e h.2⟩
  | .seq a b, h | .choice a b, h => by
    simp only [mapBottomUp]; apply hf
    simp only [convOK, Bool.and_eq_true] at h ⊢
    exact ⟨mapBottomUp_convOK extras f hf a h.1, mapBottomUp_convOK extras f hf b h.2⟩
  | .repExact _ _, h | .repMin _ _, h | .repMax _ _, h | .repMinMax _ _ _, h => by simp [convOK] at h

theorem rotateInternal_posCounts : ∀ (fuel : Nat) (e : Expr), posCounts e = true → posCounts (rotateInternal fuel e) = true
  | 0, e, h => h
  | fuel + 1, e, h => by
    unfold rotateInternal
    split
    · exact h
    · rename_i f' a b c heq
      cases heq
      apply rotateInternal_posCounts
      simp only [posCounts, Bool.and_eq_true] at h ⊢
      exact ⟨h.1.1, h.1.2, h.2⟩
    · rename_i f' a b c heq
      cases heq
      apply rotateInternal_posCounts
      simp only [posCounts, Bool.and_eq_true] at h ⊢
      exact ⟨h.1.1, h.1.2, h.2⟩
    · exact h

theorem skipF_posCounts (rules : List Rule) (e : Expr) (h : posCounts e = true) : posCounts (skipF rules e) = true := by
  unfold skipF
  split
  · split
    · rename_i x hx
      obtain ⟨l, rfl⟩ := PestModel.Ref.populate_is_skip rules _ _ _ x hx
      split
      · exact h
      · rfl
    · exact h
  · exact h

theorem concatF_convOK (extras : Bool) (e : Expr) (h : convOK extras e = true) : convOK extras (concatF e) = true := by
  unfold concatF
  split <;> first | rfl | exact h

theorem factorF_convOK (extras : Bool) (ty : RuleType) (e : Expr) (h : convOK extras e = true) :
    convOK extras (factorF ty e) = true := by
  unfold factorF
  split
  · split
    · simp only [convOK, Bool.and_eq_true] at h ⊢; exact ⟨h.1.1, h.1.2, h.2.2⟩
    · exact h
  · split
    · split
      · simp only [convOK, Bool.and_eq_true] at h ⊢; exact ⟨h.1.1, h.1.2⟩
      · exact h
    · exact h
  · split
    · simp only [convOK, Bool.and_eq_true] at h; exact h.1
    · exact h
  · exact h

theorem listF_convOK (extras : Bool) (e : Expr) (h : convOK extras e = true) : convOK extras (listF e) = true := by
  unfold listF
  split
  · split
    · simp only [convOK, Bool.and_eq_true] at h ⊢; exact ⟨h.1.1, h.1.2, h.2⟩
    · exact h
  · exact h

theorem astPasses_total (extras withList : Bool) (rules : List Rule) (r : Rule) (h : posCounts r.expr = true) :
    ∃ r', astPasses extras withList rules r = some r' ∧ convOK extras r'.expr = true := by
  have h1 : posCounts (rotate r).expr = true := by
    simp only [rotate, rotateExpr]
    exact mapTopDown_posCounts _ (fun x hx => rotateInternal_posCounts _ x hx) _ _ h
  have h2 : posCounts (skip rules (rotate r)).expr = true := by
    unfold skip
    split
    · exact mapTopDown_posCounts _ (fun x hx => skipF_posCounts rules x hx) _ _ h1
    · exact h1
  obtain ⟨e', hu, hc⟩ := unrollExpr_total extras _ h2
  have hc1 : ∀ q : Rule, convOK extras q.expr = true → convOK extras (concatenate q).expr = true := by
    intro q hq
    unfold concatenate
    split
    · exact mapBottomUp_convOK extras _ (concatF_convOK extras) _ hq
    · exact hq
  have hc2 : ∀ q : Rule, convOK extras q.expr = true → convOK extras (factor q).expr = true := by
    intro q hq
    exact mapTopDown_convOK extras _ (factorF_convOK extras q.ty) _ _ hq
  have hc3 : ∀ q : Rule, convOK extras q.expr = true → convOK extras (list q).expr = true := by
    intro q hq
    exact mapBottomUp_convOK extras _ (listF_convOK extras) _ hq
  simp only [astPasses, unroll, hu, Option.map_some]
  refine ⟨_, rfl, ?_⟩
  have hq : convOK extras (factor (concatenate { skip rules (rotate r) with expr := e' })).expr = true := hc2 _ (hc1 _ hc)
  cases withList
  · simpa using hq
  · simpa using hc3 _ hq

theorem mapM_some {α β : Type} (f : α → Option β) : ∀ (l : List α), (∀ a ∈ l, (f a).isSome = true) → (l.mapM f).isSome = true
  | [], _ => rfl
  | a :: l, h => by
    have ha := h a (by simp)
    have hl := mapM_some f l (fun b hb => h b (by simp [hb]))
    cases hfa : f a with
    | none => simp [hfa] at ha
    | some b =>
      cases hfl : l.mapM f with
      | none => simp [hfl] at hl
      | some bs => simp [List.mapM_cons, hfa, hfl]

/-- **`optimize` reaches none of its panic sites on rules whose counts the reader lets through.** -/
theorem optimizeWith_total (extras withList : Bool) (rules : List Rule) (h : ∀ r ∈ rules, posCounts r.expr = true) :
    (optimizeWith extras withList rules).isSome = true := by
  obtain ⟨opt, hm⟩ := Option.isSome_iff_exists.1 (mapM_some (fun r => (astPasses extras withList rules r).bind fun r =>
      (toOptimized extras r.expr).map fun e => (⟨r.name, r.ty, e⟩ : ORule)) rules (by
    intro r hr
    obtain ⟨r', h1, h2⟩ := astPasses_total extras withList rules r (h r hr)
    obtain ⟨e, he⟩ := Option.isSome_iff_exists.1 (toOptimized_total extras r'.expr h2)
    simp only [h1, he, Option.bind_some, Option.map_some, Option.isSome_some]))
  simp only [optimizeWith, hm, Option.isSome_some]

/-! ### what the reader returns has such counts -/

theorem posCounts_applyPosts : ∀ (posts : List Post) (x : Expr), posCounts x = true → (∀ p ∈ posts, p.ok) →
    posCounts (applyPosts x posts) = true
  | [], x, h, _ => h
  | p :: ps, x, h, hok => by
    have : applyPosts x (p :: ps) = applyPosts (p.apply x) ps := rfl
    rw [this]
    apply posCounts_applyPosts ps _ _ (fun q hq => hok q (by simp [hq]))
    have hp := hok p (by simp)
    cases p <;> simp_all [Post.apply, Post.ok, posCounts]

theorem posCounts_leaf {extras : Bool} {x : Expr} (h : isLeaf extras x = true) : posCounts x = true := by
  cases x <;> simp [isLeaf] at h <;> rfl

mutual
  theorem posCounts_denE {extras : Bool} : ∀ {e : Expr}, DenE extras e → posCounts e = true
    | _, .mk x0 xs h0 hxs =>
      have step : ∀ a b : Expr, posCounts a = true → posCounts b = true → (posCounts a && posCounts b) = true :=
        fun _ _ ha hb => by rw [ha, hb]; rfl
      foldGo_closed (posCounts · = true) step step xs none x0 (by intro a h; cases h) (posCounts_denT h0)
        (fun p hp => posCounts_denT (hxs p hp))
  theorem posCounts_denT {extras : Bool} : ∀ {e : Expr}, DenT extras e → posCounts e = true
    | _, .tagged _ _ hb => by simpa [posCounts] using posCounts_denB hb
    | _, .plain hb => posCounts_denB hb
  theorem posCounts_denB {extras : Bool} : ∀ {e : Expr}, DenB extras e → posCounts e = true
    | _, .pos hb => by simpa [posCounts] using posCounts_denB hb
    | _, .neg hb => by simpa [posCounts] using posCounts_denB hb
    | _, .node posts hn hok => posCounts_applyPosts posts _ (posCounts_denN hn) hok
  theorem posCounts_denN {extras : Bool} : ∀ {e : Expr}, DenN extras e → posCounts e = true
    | _, .paren he => posCounts_denE he
    | _, .push he => by simpa [posCounts] using posCounts_denE he
    | _, .leaf hl => posCounts_leaf hl
end

theorem posCounts_rulesV {extras : Bool} {text : Str} {forest : List PestModel.Views.Tree} {rs : List Rule}
    (h : RulesV extras text forest rs) : ∀ r ∈ rs, posCounts r.expr = true := by
  induction h with
  | nil => intro r hr; simp at hr
  | other _ _ ih => exact ih
  | doc _ _ _ _ ih => exact ih
  | rule _ hr _ ih =>
    intro r hmem
    rcases List.mem_cons.1 hmem with rfl | hmem
    · obtain ⟨_, _, _, _, _, _, _, _, _, _, _, he⟩ := hr
      exact posCounts_denE (denE_of_exprV he)
    · exact ih r hmem

end PestModel.OptTotal
