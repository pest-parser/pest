import PestModel.Lemmas.JsonStr
/-!
The structural part of the RFC side (`value`, `object`, `members`, `array`,
`elements`): accumulators, fuel-free unfoldings in which every test of the next character is a `chL`, and
that every result is at a cursor further on.
-/
namespace PestModel.Json
open PestModel.LineCol (Str cLen bLen)

theorem literal_reach {lit : Str} {label : String} {c : Cur} {t : JTree} {c' : Cur}
    (h : literal lit label c = some (t, c')) (hl : bLen lit = lit.length) : Reach c c' := by
  unfold literal at h
  split at h
  · rename_i hp
    cases h
    obtain ⟨t, ht⟩ := List.isPrefixOf_iff_prefix.1 hp
    refine ⟨lit, ?_, ?_⟩
    · simp [← ht]
    · simp [hl]
  · cases h

theorem number_reach {c : Cur} {t : JTree} {c' : Cur} (h : number c = some (t, c')) : Reach c c' := by
  rw [number_eq] at h
  cases hn : numL c with
  | none => rw [hn] at h; cases h
  | some c4 => rw [hn] at h; cases h; exact numL_adv _ _ hn

/-- the alternatives of `value`. -/
def valueInner (f : Nat) (c : Cur) : Option (JTree × Cur) :=
  match c.rest with
  | '"' :: _ => string c
  | '{' :: _ => object f c
  | '[' :: _ => array f c
  | 't' :: _ => literal ['t', 'r', 'u', 'e'] "bool" c
  | 'f' :: _ => literal ['f', 'a', 'l', 's', 'e'] "bool" c
  | 'n' :: _ => literal ['n', 'u', 'l', 'l'] "null" c
  | _ => number c

theorem value_succ (f : Nat) (c : Cur) : value (f + 1) c =
    match valueInner f c with
    | some (t, c') => some (.node "value" c.pos c'.pos [t], c')
    | none => none := by
  rfl

/-- a parser of the RFC side only moves forward. -/
def AdvJ {α : Type} (P : Cur → Option (α × Cur)) : Prop := ∀ c t c', P c = some (t, c') → Reach c c'

/-- prepend to the list of a result. -/
def preJ (a : List JTree) (o : Option (List JTree × Cur)) : Option (List JTree × Cur) :=
  match o with
  | some (ms, c) => some (a ++ ms, c)
  | none => none

@[simp] theorem preJ_none (a : List JTree) : preJ a none = none := rfl
@[simp] theorem preJ_some (a ms : List JTree) (c : Cur) : preJ a (some (ms, c)) = some (a ++ ms, c) := rfl

theorem preJ_preJ (a b : List JTree) (o) : preJ a (preJ b o) = preJ (a ++ b) o := by
  cases o with
  | none => rfl
  | some p => obtain ⟨ms, c⟩ := p; simp

/-! The functions of the mutual block are unfolded by `show`ing the outer `match` of their bodies (true by
evaluation, the branches are filled in by unification): `rw [members]` would have Lean derive the equations of
the whole block first, which is slow. -/

theorem members_acc (f : Nat) : ∀ c acc, members f c acc = preJ acc (members f c []) := by
  induction f with
  | zero => intro c acc; rfl
  | succ f ih =>
    intro c acc
    show (match string c with | some (k, c1) => _ | none => _) =
      preJ acc (match string c with | some (k, c1) => _ | none => _)
    split
    · simp only []
      split
      · split
        · split
          · rw [ih _ (acc ++ _), ih _ ([] ++ _), preJ_preJ]; simp
          · simp
        · rfl
      · rfl
    · rfl

theorem elements_acc (f : Nat) : ∀ c acc, elements f c acc = preJ acc (elements f c []) := by
  induction f with
  | zero => intro c acc; rfl
  | succ f ih =>
    intro c acc
    show (match value f c with | some (v, c1) => _ | none => _) =
      preJ acc (match value f c with | some (v, c1) => _ | none => _)
    split
    · simp only []
      split
      · rw [ih _ (acc ++ _), ih _ ([] ++ _), preJ_preJ]; simp
      · simp
    · rfl

/-! The fuel-free unfoldings of `members` and `elements` need that `value` (with the smaller fuel) only moves
forward, for the fuel of the `ws` after it; that in turn is proved from the unfoldings, by induction on the
fuel (`struct_reach`). -/

/-- one `member` (key, colon, value). -/
def pairR (f : Nat) (c : Cur) : Option (JTree × Cur) :=
  match string c with
  | some (k, c1) =>
    match chL (· == ':') (wsC c1) with
    | some c2 =>
      match value f (wsC c2) with
      | some (v, c4) => some (.node "pair" c.pos c4.pos [k, v], c4)
      | none => none
    | none => none
  | none => none

theorem pairR_reach {f : Nat} (hv : AdvJ (value f)) {c : Cur} {t : JTree} {c' : Cur} (h : pairR f c = some (t, c')) :
    Reach c c' ∧ c'.rest.length < c.rest.length := by
  unfold pairR at h
  split at h
  · rename_i k c1 hs
    split at h
    · rename_i c2 h2
      split at h
      · rename_i v c4 hv4
        cases h
        have r := (wsC_reach c1).trans ((chL_reach h2).trans ((wsC_reach c2).trans (hv _ _ _ hv4)))
        exact ⟨(string_reach hs).1.trans r, by have := r.len; have := (string_reach hs).2; omega⟩
      · cases h
    · cases h
  · cases h

/-- what follows an item of a list: `ws` then a comma and more items, or the end. -/
def tailR (next : Cur → Option (List JTree × Cur)) (c4 : Cur) : Option (List JTree × Cur) :=
  match chL (· == ',') (wsC c4) with
  | some c5 => next (wsC c5)
  | none => some ([], wsC c4)

/-- one step of a list of items: an item and what follows it. -/
def stepR (itemR : Option (JTree × Cur)) (next : Cur → Option (List JTree × Cur)) : Option (List JTree × Cur) :=
  match itemR with
  | some (m, c4) => preJ [m] (tailR next c4)
  | none => none

theorem stepR_reach {c : Cur} {itemR : Option (JTree × Cur)} {next : Cur → Option (List JTree × Cur)}
    (hi : ∀ t c4, itemR = some (t, c4) → Reach c c4) (hn : AdvJ next) {ms : List JTree} {c' : Cur}
    (h : stepR itemR next = some (ms, c')) : Reach c c' := by
  unfold stepR at h
  split at h
  · rename_i m c4
    have r4 := (hi m c4 rfl).trans (wsC_reach c4)
    unfold tailR at h
    split at h
    · rename_i c5 h5
      cases hx : next (wsC c5) with
      | none => rw [hx] at h; cases h
      | some p =>
        obtain ⟨l, c6⟩ := p
        rw [hx] at h
        cases h
        exact r4.trans ((chL_reach h5).trans ((wsC_reach c5).trans (hn _ _ _ hx)))
    · cases h; exact r4
  · cases h

/-- what `members` and `elements` do after an item `m`, given fuel for their `ws`. -/
theorem tail_eq {n : Nat} {c4 : Cur} (hn : c4.rest.length < n) {next : Cur → List JTree → Option (List JTree × Cur)}
    (hacc : ∀ c a, next c a = preJ a (next c [])) (m : JTree) :
    (match (ws n c4).rest with
      | ',' :: _ => next (ws n (ws n c4).adv) ([] ++ [m])
      | _ => some ([] ++ [m], ws n c4)) = preJ [m] (tailR (fun c6 => next c6 []) c4) := by
  have h5 := (wsC_reach c4).len
  rw [ws_eq _ c4 (by omega)]
  unfold tailR
  split
  · rename_i tl hr
    have h6 := adv_len_lt hr
    rw [chL_lit hr, ws_eq _ (wsC c4).adv (by omega), hacc]
    rfl
  · rename_i hne; rw [chL_lit_none (fun tl e => hne tl e)]; rfl

theorem members_succ {f : Nat} (hv : AdvJ (value f)) (c : Cur) :
    members (f + 1) c [] =
      stepR (pairR f c) (fun c6 => members f c6 []) := by
  show (match string c with | some (k, c1) => _ | none => _) = _
  rw [pairR]
  unfold stepR
  cases hs : string c with
  | none => rfl
  | some p =>
    obtain ⟨k, c1⟩ := p
    have h1 := (string_reach hs).1.len
    have h2 := (wsC_reach c1).len
    simp only []
    rw [ws_eq _ c1 (by omega)]
    split
    · rename_i tl hr
      have h3 := adv_len_lt hr
      have h3' := (wsC_reach (wsC c1).adv).len
      rw [chL_lit hr, ws_eq _ (wsC c1).adv (by omega)]
      simp only []
      cases hv4 : value f (wsC (wsC c1).adv) with
      | none => rfl
      | some q =>
        obtain ⟨v, c4⟩ := q
        have h4 := (hv _ _ _ hv4).len
        exact tail_eq (by omega) (members_acc f) _
    · rename_i hne; rw [chL_lit_none (fun tl e => hne tl e)]

theorem elements_succ {f : Nat} (hv : AdvJ (value f)) (c : Cur) :
    elements (f + 1) c [] =
      stepR (value f c) (fun c6 => elements f c6 []) := by
  show (match value f c with | some (v, c1) => _ | none => _) = _
  unfold stepR
  cases hv1 : value f c with
  | none => rfl
  | some q =>
    obtain ⟨v, c1⟩ := q
    have h1 := (hv _ _ _ hv1).len
    exact tail_eq (by omega) (elements_acc f) _

/-- the closing bracket after the items. -/
def closeR (label : String) (cl : Char) (start : Nat) (o : Option (List JTree × Cur)) : Option (JTree × Cur) :=
  match o with
  | some (ms, c2) =>
    match chL (· == cl) c2 with
    | some c3 => some (.node label start c3.pos ms, c3)
    | none => none
  | none => none

/-- an opening bracket (at `c`), then the closing one at once, or items and the closing one. -/
def bracketR (label : String) (cl : Char) (items : Cur → Option (List JTree × Cur)) (c : Cur) : Option (JTree × Cur) :=
  closeR label cl c.pos (if hd (wsC c.adv) cl then some ([], wsC c.adv) else items (wsC c.adv))

theorem object_succ (f : Nat) (c : Cur) :
    object (f + 1) c = bracketR "object" '}' (fun c1 => members f c1 []) c := by
  show (match (ws (c.rest.length + 1) c.adv).rest with | '}' :: _ => _ | _ => _) = _
  rw [ws_eq _ c.adv (by have := (Reach.adv c).len; omega)]
  unfold bracketR closeR
  split
  · rename_i tl hr; rw [hd_of_rest hr, if_pos rfl]; simp only [chL_lit hr]
  · rename_i hne
    rw [hd_of_not_rest (fun tl e => hne tl e), if_neg Bool.false_ne_true]
    simp only []
    cases members f (wsC c.adv) [] with
    | none => rfl
    | some p =>
      obtain ⟨ms, c2⟩ := p
      simp only []
      split
      · rename_i tl hr; simp only [chL_lit hr]
      · rename_i hne2; simp only [chL_lit_none (fun tl e => hne2 tl e)]

theorem array_succ (f : Nat) (c : Cur) :
    array (f + 1) c = bracketR "array" ']' (fun c1 => elements f c1 []) c := by
  show (match (ws (c.rest.length + 1) c.adv).rest with | ']' :: _ => _ | _ => _) = _
  rw [ws_eq _ c.adv (by have := (Reach.adv c).len; omega)]
  unfold bracketR closeR
  split
  · rename_i tl hr; rw [hd_of_rest hr, if_pos rfl]; simp only [chL_lit hr]
  · rename_i hne
    rw [hd_of_not_rest (fun tl e => hne tl e), if_neg Bool.false_ne_true]
    simp only []
    cases elements f (wsC c.adv) [] with
    | none => rfl
    | some p =>
      obtain ⟨ms, c2⟩ := p
      simp only []
      split
      · rename_i tl hr; simp only [chL_lit hr]
      · rename_i hne2; simp only [chL_lit_none (fun tl e => hne2 tl e)]

theorem bracketR_reach {label : String} {cl : Char} {items : Cur → Option (List JTree × Cur)} (hi : AdvJ items) :
    AdvJ (bracketR label cl items) := by
  intro c t c' h
  unfold bracketR closeR at h
  split at h
  · rename_i ms c2 hm
    split at h
    · rename_i c3 h3
      cases h
      have r2 : Reach (wsC c.adv) c2 := by
        split at hm
        · cases hm; exact Reach.refl _
        · exact hi _ _ _ hm
      exact (Reach.adv c).trans ((wsC_reach c.adv).trans (r2.trans (chL_reach h3)))
    · cases h
  · cases h

theorem struct_reach (f : Nat) :
    AdvJ (value f) ∧ AdvJ (object f) ∧ AdvJ (fun c => members f c []) ∧ AdvJ (array f) ∧
      AdvJ (fun c => elements f c []) := by
  induction f with
  | zero =>
    refine ⟨?_, ?_, ?_, ?_, ?_⟩ <;> intro c t c' h <;> cases h
  | succ f ih =>
    obtain ⟨ihv, iho, ihm, iha, ihe⟩ := ih
    refine ⟨?_, ?_, ?_, ?_, ?_⟩ <;> intro c t c' h
    · rw [value_succ] at h
      cases hi : valueInner f c with
      | none => simp [hi] at h
      | some p =>
        obtain ⟨t1, c1⟩ := p
        rw [hi] at h
        cases h
        unfold valueInner at hi
        split at hi
        · exact (string_reach hi).1
        · exact iho _ _ _ hi
        · exact iha _ _ _ hi
        · exact literal_reach hi (by decide)
        · exact literal_reach hi (by decide)
        · exact literal_reach hi (by decide)
        · exact number_reach hi
    · rw [object_succ] at h
      exact bracketR_reach ihm _ _ _ h
    · simp only [members_succ ihv] at h
      exact stepR_reach (fun _ _ e => (pairR_reach ihv e).1) ihm h
    · rw [array_succ] at h
      exact bracketR_reach ihe _ _ _ h
    · simp only [elements_succ ihv] at h
      exact stepR_reach (fun _ _ e => ihv _ _ _ e) ihe h

theorem value_adv (f : Nat) : AdvJ (value f) := (struct_reach f).1

end PestModel.Json
