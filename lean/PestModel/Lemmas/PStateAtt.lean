import PestModel.Model.PStateSpec
/-! The attempt bookkeeping `(attemptPos, posAtt, negAtt)` of a `PState`, and `track` as a function of it. -/
namespace PestModel.Track
open PestModel.PS

abbrev Att := Nat × List Nat × List Nat

def att (s : PState) : Att := (s.attemptPos, s.posAtt, s.negAtt)

/-- `ParserState::track` as a function of the bookkeeping triple. -/
def trackA (atomic neg : Bool) (a : Att) (rule pos pai nai prev : Nat) : Att :=
  if atomic then a else
  let curr := if a.1 = pos then a.2.1.length + a.2.2.length else 0
  if curr > prev ∧ curr - prev = 1 then a else
  let a := if pos = a.1 then (a.1, a.2.1.take pai, a.2.2.take nai) else a
  let a := if pos > a.1 then (pos, [], []) else a
  if pos = a.1 then (if neg then (a.1, a.2.1, a.2.2 ++ [rule]) else (a.1, a.2.1 ++ [rule], a.2.2)) else a

end PestModel.Track
namespace PestModel.PS
open PestModel.Track

def setAtt (s : PState) (a : Att) : PState := { s with attemptPos := a.1, posAtt := a.2.1, negAtt := a.2.2 }

/-- `track` rewrites the three attempt fields and reads, besides them, only `atomicity` and `lookahead`. -/
theorem track_norm (s : PState) (rule pos pai nai prev : Nat) :
    track s rule pos pai nai prev =
      setAtt s (trackA (decide (s.atomicity = .atomic)) (decide (s.lookahead = .negative)) (att s) rule pos pai nai prev) := by
  obtain ⟨_, _, _, la, pa, na, ap, at_, _, _, _⟩ := s
  unfold track trackA setAtt att attemptsAt
  dsimp only
  by_cases h1 : at_ = .atomic
  · simp [h1]
  · simp only [h1, decide_false, if_false, Bool.false_eq_true]
    by_cases h3 : la = .negative <;> by_cases h2 : pos = ap
    · subst h2
      by_cases h5 : (pa.length + na.length > prev ∧ pa.length + na.length - prev = 1) <;>
        simp [h3, h5]
    · have h2' : ¬ ap = pos := fun h => h2 h.symm
      by_cases h4 : pos > ap <;> simp [h2, h2', h3, h4]
    · subst h2
      by_cases h5 : (pa.length + na.length > prev ∧ pa.length + na.length - prev = 1) <;>
        simp [h3, h5]
    · have h2' : ¬ ap = pos := fun h => h2 h.symm
      by_cases h4 : pos > ap <;> simp [h2, h2', h3, h4]
end PestModel.PS
