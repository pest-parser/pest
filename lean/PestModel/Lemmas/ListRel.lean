/-! `F2 R`: two lists related position by position, and the list operations the relation passes through. -/
namespace PestModel.Ref

/-- position-wise related lists. -/
inductive F2 {α β : Type} (R : α → β → Prop) : List α → List β → Prop
  | nil : F2 R [] []
  | cons {x y xs ys} : R x y → F2 R xs ys → F2 R (x :: xs) (y :: ys)

theorem F2.replicate {α β : Type} {R : α → β → Prop} {x : α} {y : β} (h : R x y) (n : Nat) :
    F2 R (List.replicate n x) (List.replicate n y) := by
  induction n with
  | zero => exact .nil
  | succ n ih => exact .cons h ih

theorem F2.append {α β : Type} {R : α → β → Prop} {l1 l2 : List α} {l1' l2' : List β} (h1 : F2 R l1 l1')
    (h2 : F2 R l2 l2') : F2 R (l1 ++ l2) (l1' ++ l2') := by
  induction h1 with
  | nil => exact h2
  | cons hx _ ih => exact .cons hx ih

theorem F2.map {α β γ : Type} {R : α → β → Prop} {f : γ → α} {g : γ → β} (l : List γ) (h : ∀ i, R (f i) (g i)) :
    F2 R (l.map f) (l.map g) := by
  induction l with
  | nil => exact .nil
  | cons x xs ih => exact .cons (h x) ih

theorem F2.length_eq {α β : Type} {R : α → β → Prop} {l : List α} {l' : List β} (h : F2 R l l') :
    l.length = l'.length := by
  induction h with
  | nil => rfl
  | cons _ _ ih => simp [ih]

theorem F2.of_index {α β : Type} {R : α → β → Prop} : ∀ (l : List α) (l' : List β), l.length = l'.length →
    (∀ i (h : i < l.length) (h' : i < l'.length), R l[i] l'[i]) → F2 R l l'
  | [], [], _, _ => .nil
  | [], _ :: _, h, _ => by simp at h
  | _ :: _, [], h, _ => by simp at h
  | x :: xs, y :: ys, h, hr =>
    .cons (hr 0 (by simp) (by simp))
      (F2.of_index xs ys (by simpa using h) (fun i h1 h2 => by
        have := hr (i + 1) (by simp; omega) (by simp; omega)
        simpa using this))

theorem F2.get {α β : Type} {R : α → β → Prop} {l : List α} {l' : List β} (h : F2 R l l') :
    ∀ i (h1 : i < l.length) (h2 : i < l'.length), R l[i] l'[i] := by
  induction h with
  | nil => intro i h1; simp at h1
  | cons hx _ ih =>
    intro i h1 h2
    cases i with
    | zero => simpa using hx
    | succ i => simpa using ih i (by simpa using h1) (by simpa using h2)

theorem F2.mono {α β : Type} {R R' : α → β → Prop} {l : List α} {l' : List β} (h : F2 R l l')
    (hr : ∀ x y, R x y → R' x y) : F2 R' l l' := by
  induction h with
  | nil => exact .nil
  | cons hx _ ih => exact .cons (hr _ _ hx) ih

theorem F2.flip {α β : Type} {R : α → β → Prop} {l : List α} {l' : List β} (h : F2 R l l') :
    F2 (fun y x => R x y) l' l := by
  induction h with
  | nil => exact .nil
  | cons hx _ ih => exact .cons hx ih

theorem F2.map_right {α β γ : Type} {R : α → β → Prop} {R' : α → γ → Prop} {g : β → γ} {l : List α} {l' : List β}
    (h : F2 R l l') (hr : ∀ a b, R a b → R' a (g b)) : F2 R' l (l'.map g) := by
  induction h with
  | nil => exact .nil
  | cons hx _ ih => exact .cons (hr _ _ hx) ih

theorem F2.of_mapM {α β : Type} (f : α → Option β) : ∀ (l : List α) (l' : List β), l.mapM f = some l' →
    F2 (fun a b => f a = some b) l l'
  | [], l', h => by
    simp only [List.mapM_nil] at h
    cases h; exact .nil
  | x :: xs, l', h => by
    simp only [List.mapM_cons, Option.bind_eq_bind, Option.bind_eq_some_iff] at h
    obtain ⟨y, hy, ys, hys, h⟩ := h
    cases h
    exact .cons hy (F2.of_mapM f xs ys hys)

end PestModel.Ref
