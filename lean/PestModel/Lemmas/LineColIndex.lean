import PestModel.Lemmas.LineColLoop
/-! The cut of a prefix into closed lines and the head of the current line (`linePre`, `lineHead`, `cut_cases`);
`charIndices`; `LineIndex`. -/
namespace PestModel.LineCol

/-- the part of `pre` up to and including its last newline -/
def linePre (pre : Str) : Str := (pre.reverse.dropWhile (· ≠ '\n')).reverse

def Closed (A : Str) : Prop := A = [] ∨ ∃ d, A = d ++ ['\n']

theorem linePre_append_lineHead (pre : Str) : linePre pre ++ lineHead pre = pre := by
  unfold linePre lineHead
  rw [← List.reverse_append, List.takeWhile_append_dropWhile, List.reverse_reverse]

theorem dropWhile_head_false {α : Type} (p : α → Bool) (l : List α) :
    l.dropWhile p = [] ∨ ∃ x xs, l.dropWhile p = x :: xs ∧ p x = false := by
  induction l with
  | nil => simp
  | cons a as ih =>
    by_cases h : p a
    · simpa [List.dropWhile_cons, h] using ih
    · right; exact ⟨a, as, by simp [h], by simpa using h⟩

theorem dropWhile_of_all_neg {α : Type} {p : α → Bool} {l : List α} (h : ∀ x ∈ l, p x = false) :
    l.dropWhile p = l := by
  cases l with
  | nil => rfl
  | cons a as => rw [List.dropWhile_cons_of_neg]; simp [h a (by simp)]

theorem takeWhile_of_all_neg {α : Type} {p : α → Bool} {l : List α} (h : ∀ x ∈ l, p x = false) :
    l.takeWhile p = [] := by
  cases l with
  | nil => rfl
  | cons a as => rw [List.takeWhile_cons_of_neg]; simp [h a (by simp)]

theorem linePre_closed (pre : Str) : Closed (linePre pre) := by
  unfold linePre Closed
  rcases dropWhile_head_false (· ≠ '\n') pre.reverse with h | ⟨x, xs, h, hx⟩
  · left; rw [h]; rfl
  · right
    simp at hx
    subst hx
    exact ⟨xs.reverse, by rw [h]; simp⟩

theorem lineHead_no_nl (pre : Str) : '\n' ∉ lineHead pre := by
  unfold lineHead
  intro h
  rw [List.mem_reverse] at h
  have h2 := List.all_takeWhile (l := pre.reverse) (p := (· ≠ '\n'))
  rw [List.all_eq_true] at h2
  have := h2 _ h
  simp at this

theorem count_linePre (pre : Str) : (linePre pre).count '\n' = pre.count '\n' := by
  conv => rhs; rw [← linePre_append_lineHead pre]
  rw [List.count_append, List.count_eq_zero_of_not_mem (lineHead_no_nl pre)]; rfl

/-- Every prefix is `A ++ H`: closed lines, then the head of the current line. -/
theorem cut_cases {P : Str → Prop}
    (h : ∀ A H, Closed A → '\n' ∉ H → linePre (A ++ H) = A → lineHead (A ++ H) = H → P (A ++ H)) (pre : Str) :
    P pre := by
  have e := linePre_append_lineHead pre
  have := h (linePre pre) (lineHead pre) (linePre_closed pre) (lineHead_no_nl pre) (by rw [e]) (by rw [e])
  rwa [e] at this

theorem charIndices_append (a b : Str) (o : Nat) :
    charIndices (a ++ b) o = charIndices a o ++ charIndices b (o + bLen a) := by
  induction a generalizing o with
  | nil => simp [charIndices]
  | cons c cs ih => simp [charIndices, ih, Nat.add_assoc]

theorem charIndices_mem {a : Str} {o : Nat} {p : Nat × Char} (hp : p ∈ charIndices a o) :
    o ≤ p.1 ∧ p.1 + cLen p.2 ≤ o + bLen a ∧ p.2 ∈ a := by
  induction a generalizing o with
  | nil => simp [charIndices] at hp
  | cons c cs ih =>
    simp only [charIndices, List.mem_cons] at hp
    rcases hp with rfl | hp
    · simp
    · obtain ⟨h1, h2, h3⟩ := ih hp
      exact ⟨by omega, by simp; omega, List.mem_cons_of_mem _ h3⟩

theorem lineOffsetsGo_eq (a : Str) (o : Nat) :
    lineOffsetsGo a o = (charIndices a o).filterMap fun p => if p.2 = '\n' then some (p.1 + 1) else none := by
  induction a generalizing o with
  | nil => rfl
  | cons c cs ih =>
    simp only [lineOffsetsGo, charIndices, List.filterMap_cons, ih]
    split
    · rename_i h; subst h; simp
    · rfl

theorem lineOffsetsGo_append (a b : Str) (o : Nat) :
    lineOffsetsGo (a ++ b) o = lineOffsetsGo a o ++ lineOffsetsGo b (o + bLen a) := by
  simp [lineOffsetsGo_eq, charIndices_append]

theorem lineOffsetsGo_no_nl {a : Str} (h : '\n' ∉ a) (o : Nat) : lineOffsetsGo a o = [] := by
  rw [lineOffsetsGo_eq, List.filterMap_eq_nil_iff]
  intro p hp
  exact if_neg fun (e : p.2 = '\n') => h (e ▸ (charIndices_mem hp).2.2)

theorem lineOffsetsGo_length (a : Str) (o : Nat) : (lineOffsetsGo a o).length = a.count '\n' := by
  fun_induction lineOffsetsGo a o <;> simp [*]

theorem lineOffsetsGo_mem {a : Str} {o x : Nat} (hx : x ∈ lineOffsetsGo a o) : o < x ∧ x ≤ o + bLen a := by
  rw [lineOffsetsGo_eq, List.mem_filterMap] at hx
  obtain ⟨p, hp, hpx⟩ := hx
  have := charIndices_mem hp
  split at hpx
  · rename_i h
    cases hpx
    rw [h, cLen_nl] at this
    omega
  · cases hpx

theorem partitionPoint_lineOffsets (pre mid : Str) :
    partitionPoint (lineOffsets (pre ++ mid)) (bLen pre) = 1 + pre.count '\n' := by
  unfold partitionPoint lineOffsets
  rw [lineOffsetsGo_append]
  have h1 : ∀ x ∈ 0 :: lineOffsetsGo pre 0, decide (x ≤ bLen pre) = true := by
    intro x hx
    simp at hx
    rcases hx with rfl | hx
    · simp
    · have := lineOffsetsGo_mem hx; simp; omega
  rw [← List.cons_append, List.takeWhile_append_of_pos h1]
  have h2 : (lineOffsetsGo mid (0 + bLen pre)).takeWhile (fun x => decide (x ≤ bLen pre)) = [] :=
    takeWhile_of_all_neg fun x hx => by have := lineOffsetsGo_mem hx; simp; omega
  rw [h2]
  simp [lineOffsetsGo_length]; omega

theorem lineOffsets_getElem {A : Str} (hA : Closed A) (r : Str) :
    (lineOffsets (A ++ r))[A.count '\n']? = some (bLen A) := by
  have hlt : A.count '\n' < (0 :: lineOffsetsGo A 0).length := by
    simp [lineOffsetsGo_length]
  unfold lineOffsets
  rw [lineOffsetsGo_append, ← List.cons_append, List.getElem?_append_left hlt]
  rcases hA with rfl | ⟨d, rfl⟩
  · simp [lineOffsetsGo]
  · rw [lineOffsetsGo_append]
    simp only [lineOffsetsGo, List.count_append, if_true]
    simp
    rw [List.getElem?_append_right (by simp [lineOffsetsGo_length])]
    simp [lineOffsetsGo_length]

theorem lineIndex_spec (pre mid rest : Str) :
    lineIndexLineCol (lineOffsets (pre ++ mid)) (pre ++ mid ++ rest) (bLen pre)
      = some (lineColSpecChars pre) := by
  unfold lineIndexLineCol
  simp only [partitionPoint_lineOffsets]
  rw [if_neg (by omega)]
  induction pre using cut_cases with | _ A H hA hH eA eH =>
  have hidx : (lineOffsets (A ++ H ++ mid))[1 + (A ++ H).count '\n' - 1]? = some (bLen A) := by
    rw [show 1 + (A ++ H).count '\n' - 1 = A.count '\n' by rw [← count_linePre, eA]; omega, List.append_assoc]
    exact lineOffsets_getElem hA _
  have hs : slice? (A ++ H ++ mid ++ rest) (bLen A) (bLen (A ++ H)) = some (lineHead (A ++ H)) := by
    rw [eH]; simpa using slice_append A H (mid ++ rest)
  rw [hidx]
  simp only [hs]
  simp [lineColSpecChars, lineHead]; omega

end PestModel.LineCol
