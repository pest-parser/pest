import PestModel.Lemmas.RefMono
/-! `step` is continuous; the limit semantics `V c` is a fixed point of it. -/
namespace PestModel.Ref
open PestModel.G
open PestModel.LineCol (Str bLen cLen splitAt?)
open PestModel.Views (Tree)
open PestModel.PS (Atomicity CharSet restAt asciiLower eqIgnoreAsciiCase normalizeIndex)

def Chain (f : Nat → Res) : Prop := ∀ n, (f n).le (f (n + 1))

/-- the sequence is eventually constant `= r`. -/
def Conv (f : Nat → Res) (r : Res) : Prop := ∃ N, ∀ n, N ≤ n → f n = r

open Classical in
noncomputable def lim (f : Nat → Res) : Res :=
  if h : ∃ n, f n ≠ .fuel then f (Classical.choose h) else .fuel

theorem chain_le {f : Nat → Res} (hc : Chain f) {n n' : Nat} (h : n ≤ n') : (f n).le (f n') := by
  induction h with
  | refl => exact Res.le_refl _
  | step _ ih => exact Res.le_trans ih (hc _)

theorem conv_lim {f : Nat → Res} (hc : Chain f) : Conv f (lim f) := by
  unfold lim
  split
  · rename_i h
    refine ⟨Classical.choose h, fun n hn => ?_⟩
    rcases chain_le hc hn with h1 | h1
    · exact absurd h1 (Classical.choose_spec h)
    · exact h1.symm
  · rename_i h
    refine ⟨0, fun n _ => ?_⟩
    apply Classical.byContradiction
    intro hne
    exact h ⟨n, hne⟩

theorem conv_le {f : Nat → Res} {r : Res} (hc : Chain f) (h : Conv f r) (n : Nat) : (f n).le r := by
  obtain ⟨N, hN⟩ := h
  exact hN (n + N) (by omega) ▸ chain_le hc (Nat.le_add_right n N)

theorem conv_unique {f : Nat → Res} {r r' : Res} (h : Conv f r) (h' : Conv f r') : r = r' := by
  obtain ⟨N, hN⟩ := h
  obtain ⟨N', hN'⟩ := h'
  rw [← hN (N + N') (by omega), ← hN' (N + N') (by omega)]

theorem conv_const (r : Res) : Conv (fun _ => r) r := ⟨0, fun _ _ => rfl⟩

theorem conv_of_shift {f : Nat → Res} {r : Res} (h : Conv (fun n => f (n + 1)) r) : Conv f r := by
  obtain ⟨N, hN⟩ := h
  refine ⟨N + 1, fun n hn => ?_⟩
  have := hN (n - 1) (by omega)
  simpa [show n - 1 + 1 = n by omega] using this

theorem conv_shift {f : Nat → Res} {r : Res} (h : Conv f r) : Conv (fun n => f (n + 1)) r := by
  obtain ⟨N, hN⟩ := h
  exact ⟨N, fun n hn => hN (n + 1) (by omega)⟩

theorem conv1 {f g : Nat → Res} {r r' : Res} (h1 : Conv f r) (H : ∀ n, f n = r → g n = r') : Conv g r' := by
  obtain ⟨N, hN⟩ := h1
  exact ⟨N, fun n hn => H n (hN n hn)⟩

theorem conv2 {f1 f2 g : Nat → Res} {r1 r2 r' : Res} (h1 : Conv f1 r1) (h2 : Conv f2 r2)
    (H : ∀ n, f1 n = r1 → f2 n = r2 → g n = r') : Conv g r' := by
  obtain ⟨N1, hN1⟩ := h1
  obtain ⟨N2, hN2⟩ := h2
  exact ⟨N1 + N2, fun n hn => H n (hN1 n (by omega)) (hN2 n (by omega))⟩

def FamConv (X : Nat → Fam) (Y : Fam) : Prop := ∀ q, Conv (fun n => (X n).at q) (Y.at q)

section
variable {X : Nat → Fam} {Y : Fam} (h : FamConv X Y)
include h
theorem FamConv.l m la e s acc : Conv (fun n => (X n).l m la e s acc) (Y.l m la e s acc) := h (.l m la e s acc)
theorem FamConv.k m la s : Conv (fun n => (X n).k m la s) (Y.k m la s) := h (.k m la s)
theorem FamConv.st la n s acc : Conv (fun i => (X i).st la n s acc) (Y.st la n s acc) := h (.st la n s acc)
theorem FamConv.cl la s acc : Conv (fun n => (X n).cl la s acc) (Y.cl la s acc) := h (.cl la s acc)
end

theorem Res.rel_conv : Res.Rel (ι := Nat) Conv where
  const := conv_const
  bind := fun {_ _ r _ _ _} h hk ha => by
    cases r with
    | ok s fo => exact conv2 h (hk s fo rfl) fun n e1 e2 => by simp only [e1, e2]
    | fail => exact conv2 h ha fun n e1 e2 => by simp only [e1, e2]
    | _ => exact conv1 h fun n e1 => by simp only [e1]

theorem step_conv (c : Ctx) {X : Nat → Fam} {Y : Fam} (h : FamConv X Y) : FamConv (fun n => step c (X n)) (step c Y) :=
  fun q => step_rel Res.rel_conv c Y.keeps_true (fun q _ => h q) q trivial

/-- the limit semantics. -/
noncomputable def V (c : Ctx) : Fam where
  d m la e s := lim fun n => denote c n m la e s
  l m la e s acc := lim fun n => repLoop c n m la e s acc
  k m la s := lim fun n => skipWs c n m la s
  st la nm s acc := lim fun n => star c n la nm s acc
  cl la s acc := lim fun n => commentLoop c n la s acc
  ca m la nm s := lim fun n => call c n m la nm s

theorem V_at (c : Ctx) (q : Q) : (V c).at q = lim fun n => (lev c n).at q := by cases q <;> rfl

theorem lev_conv (c : Ctx) : FamConv (lev c) (V c) :=
  fun q => V_at c q ▸ conv_lim fun n => lev_mono1 c n q

theorem V_fix (c : Ctx) : V c = step c (V c) :=
  Fam.ext_at fun q => conv_unique (lev_conv c q) <| conv_of_shift <| by
    simp only [lev_succ]; exact step_conv c (lev_conv c) q

theorem lev_le_V (c : Ctx) (n : Nat) : (lev c n).le (V c) :=
  fun q => conv_le (fun k => lev_mono1 c k q) (lev_conv c q) n

end PestModel.Ref
