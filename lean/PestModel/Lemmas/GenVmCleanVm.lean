import PestModel.Lemmas.GenVmClean
import PestModel.Lemmas.VmRefEnv
/-! C02: `ErrSpecN` for the VM lowering of every expression. -/
namespace PestModel.GenVm
open PestModel.PS PestModel.Stack PestModel.Lower PestModel.G
open PestModel.LineCol (Str isBoundary slice?)
open PestModel.VmRef (Dirty index_some index_none)

def cfgOf (b : Backend) (env : Env) (memchr : Bool) : Cfg := { memchr, env := lowerAll b env }

variable {env : Env} {memchr : Bool} {n : Nat}

theorem es_builtin (hsize : env.rules.length ≤ 333333333) (name : String) :
    ErrSpecN (cfgOf .vm env memchr) n (builtin env name) (Dirty env.rules (.ident name)) :=
  builtin_ind env name (M := fun p => ErrSpecN _ n p (Dirty env.rules (.ident name)))
    (es_skip _ _) (es_rule _ (es_endOfInput _)) (es_startOfInput _) (es_stackPeek _)
    (es_stackMatchPeek _) (fun h => es_stackPop.weaken fun _ => h ▸ Dirty.pop)
    (fun h => es_stackMatchPop.weaken fun _ => h ▸ Dirty.popAll) (es_stackDrop _) (es_matchRange · · _)
    (es_matchString · _) (es_matchCharBy · _) (es_call_none (VmRef.undefined_none hsize))
    fun h1 h2 => (es_orElse h1 h2).weaken fun h => h.elim id id

def ES (env : Env) (memchr : Bool) (n : Nat) : Prop :=
  ∀ e ctx, ErrSpecN (cfgOf .vm env memchr) n (vmExpr env ctx e) (Dirty env.rules e)

theorem es_vmRule (h : ES env memchr n) (i : Nat) (r : ORule) (ctx : Atomicity) :
    ErrSpecN (cfgOf .vm env memchr) n (vmRule env i r ctx) (Dirty env.rules r.expr) := by
  unfold vmRule
  split
  · cases r.ty with
    | normal => exact es_rule _ (es_atomic _ (h _ _))
    | silent => exact es_atomic _ (h _ _)
    | atomic => exact es_rule _ (es_atomic _ (h _ _))
    | compound => exact es_atomic _ (es_rule _ (h _ _))
    | nonAtomic => exact es_atomic _ (es_rule _ (es_atomic _ (h _ _)))
  · cases r.ty with
    | normal => exact es_rule _ (h _ _)
    | silent => exact h _ _
    | atomic => exact es_rule _ (es_atomic _ (h _ _))
    | compound => exact es_atomic _ (es_rule _ (h _ _))
    | nonAtomic => exact es_atomic _ (es_rule _ (h _ _))

theorem es_callRule (hsize : env.rules.length ≤ 333333333) (h : ES env memchr n) (name : String)
    (ctx : Atomicity) :
    ErrSpecN (cfgOf .vm env memchr) (n + 1) (callRule env name ctx) (Dirty env.rules (.ident name)) := by
  unfold callRule
  cases hi : env.index name with
  | none => exact es_builtin hsize name
  | some i =>
    obtain ⟨r, hr, -, hl, -, -⟩ := index_some (extras := false) (input := []) hi
    exact (es_call (VmRef.env_get ctx hr) (es_vmRule h i r ctx)).weaken fun hd => Dirty.ident hl hd

theorem es_all (hsize : env.rules.length ≤ 333333333) : ∀ n, ES env memchr n
  | 0 => fun e ctx m hm s s' _ hr => by
    have : m = 0 := by omega
    subst this; rw [run_zero] at hr; cases hr
  | n + 1 => by
    have ih := es_all hsize n
    intro e
    induction e with
    | str s => intro ctx; exact es_matchString _ _
    | insens s => intro ctx; exact es_matchInsensitive _ _
    | range a b => intro ctx; exact es_matchRange _ _ _
    | ident name => intro ctx; exact es_callRule hsize ih name ctx
    | peekSlice a b => intro ctx; exact es_peekSlice _ _ _ _
    | posPred e _ => intro ctx; exact es_lookahead _ _ _
    | negPred e _ => intro ctx; exact es_lookahead _ _ _
    | seq a b _ _ => intro ctx; exact es_sequence _ _
    | choice a b iha ihb =>
      intro ctx
      exact (es_orElse (iha ctx) (ihb ctx)).weaken fun h => h.elim Dirty.choiceL Dirty.choiceR
    | opt e _ => intro ctx; exact es_optional _ _
    | rep e _ => intro ctx; exact es_sequence _ _
    | repOnce e _ => intro ctx; exact es_sequence _ _
    | skip ss => intro ctx; exact es_skipUntil _ _
    | push e ih' => intro ctx; exact (es_stackPush (ih' ctx)).weaken Dirty.push
    | pushLiteral s => intro ctx; exact es_pushLiteral _ _
    | nodeTag e t ih' => intro ctx; exact (es_andThen_tag t (ih' ctx)).weaken Dirty.nodeTag
    | restoreOnErr e ih' => intro ctx; exact es_restoreOnErr (ih' ctx)

/-- `P` fails with position, queue and stack contents as before. -/
def ErrCleanP (C : Cfg) (P : Prog) : Prop :=
  ∀ m s s', Good s → run C m P s = .err s' →
    s'.pos = s.pos ∧ s'.queue = s.queue ∧ s'.stack.cache = s.stack.cache

theorem errClean_vm (hsize : env.rules.length ≤ 333333333) {e : OExpr} (hd : ¬ Dirty env.rules e)
    (ctx : Atomicity) : ErrCleanP (cfgOf .vm env memchr) (vmExpr env ctx e) := by
  intro m s s' hg hr
  obtain ⟨a, b, c⟩ := es_all (memchr := memchr) hsize m e ctx m (Nat.le_refl _) s s' hg hr
  exact ⟨a, b, Classical.byContradiction fun x => hd (c x)⟩

end PestModel.GenVm
