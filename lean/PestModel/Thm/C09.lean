import PestModel.Model.Grammar
import PestModel.Lemmas.MetaRules
import PestModel.Lemmas.ReaderNoPanic
import PestModel.Lemmas.ReaderAgree
import PestModel.Lemmas.OptTotal
import PestModel.Thm.C07Pairs
import PestModel.Lemmas.PipelineNoPanic
import PestModel.Lemmas.PipelineNames
/-!
# C09 — the grammar front-end is total

`ReaderP` is `pest_meta::parser::{parse, consume_rules}` with every panic site of `parser.rs` explicit
(`unwrap()` on a missing pair, `unreachable!()` on an unexpected rule, string slices, the Pratt parser's
panics) and kept apart from the located errors the code returns. The theorems:

* `meta_pairs_shape` — whatever `parse(Rule::grammar_rules, text)` returns (the reference denotation of the
  REGENERATED `grammar.pest`, for any text and any amount of fuel) has the shape `GrammarForest`: every pair has
  exactly the inner pairs the reader unwraps, string/character literals are opened and closed by their quote,
  tags start with `#`, the spans the reader slices (identifiers, numbers, literals, tags) are slices of the text (Hoare
  rule over the rules of the meta-grammar, `MetaPost.metaPostOK`);
* `consume_rules_no_panic` — on pairs of that shape no panic site of `consume_rules` is reachable;
* `frontend_no_panic` — the two together: for EVERY text the reader's outcome is rules or a located error, never a panic
  (`none`, the reference denotation giving no verdict within its fuel, is not excluded here).
* `unrollF_total` — the unroller's `unwrap` (empty unrolling) is unreachable for the counts the reader lets through.
* `pipeline_no_panic` — the whole of `parse_and_optimize` (with `validate_pairs`) on every text;
* `optimizer_no_panic` — behind the reader: on the rules it returns (any text), the seven optimizer passes and the conversion
  to `OptimizedRule` reach none of their panic sites (`OptTotal`: the unroller leaves nothing it should have unrolled, the
  passes around it keep that, `rule_to_optimized_rule`'s `unreachable!` cannot fire).

Not covered by a theorem (sampled by the correspondence only): the panic sites of `validator.rs`, error rendering (C10's `render_total_pos` / `render_total_span` are about `pest::error`), time
bounds, and native stack depth (the recorded finding).
-/
namespace PestModel.C09
open PestModel.G

theorem seqOfList_isSome : ∀ (l : List Expr), l ≠ [] → (seqOfList l).isSome = true :=
  fun _ h => Option.isSome_iff_ne_none.2 (mt seqOfList_eq_none.1 h)

/-- `unroll` panics on an empty unrolling (`e{0}`, `e{,0}`, `e{m,0}`), which the reader
rejects ("cannot repeat 0 times"): for positive counts `unrollF` is total. -/
theorem unrollF_total (extras : Bool) (e : Expr) (n m : Nat) (hn : 0 < n) :
    (unrollF extras (.repExact e n)).isSome ∧ (unrollF extras (.repMin e m)).isSome ∧
    (unrollF extras (.repMax e n)).isSome ∧ (unrollF extras (.repMinMax e m n)).isSome := by
  have hc : decide (n ≠ 0) = true := decide_eq_true (by omega)
  exact ⟨PestModel.OptTotal.unrollF_isSome extras _ hc, PestModel.OptTotal.unrollF_isSome extras _ rfl,
    PestModel.OptTotal.unrollF_isSome extras _ hc, PestModel.OptTotal.unrollF_isSome extras _ hc⟩

open PestModel.ReaderShape PestModel.ReaderP in
/-- the pairs the meta-grammar produces have the shape the reader relies on (any text, any fuel). -/
theorem meta_pairs_shape (text : PestModel.LineCol.Str) (n : Nat) (s' : PestModel.Ref.St) (F : List PestModel.Views.Tree)
    (h : PestModel.Ref.meaning PestModel.Gen.Meta.rules false PestModel.ReaderFull.noUni n "grammar_rules" text = .ok s' F) :
    GrammarForest text F :=
  PestModel.MetaPost.meta_forest text n s' F h

open PestModel.ReaderShape PestModel.ReaderP in
/-- on pairs of that shape no panic site of `consume_rules` is reachable. -/
theorem consume_rules_no_panic (extras : Bool) (text : PestModel.LineCol.Str) (forest : List PestModel.Views.Tree)
    (h : GrammarForest text forest) : consumeRules extras text forest ≠ .panic :=
  consumeRules_np extras text forest h

open PestModel.ReaderP in
/-- **The reader never panics**: for every text (and both feature settings) the outcome of `parse` + `consume_rules`, when the
reference denotation gives one within its fuel, is rules or a located error — never one of the
`unwrap`/`unreachable!`/slice/Pratt panics of `parser.rs`. -/
theorem frontend_no_panic (extras : Bool) (text : PestModel.LineCol.Str) :
    readGrammar extras text ≠ some .panic := by
  unfold readGrammar
  split
  · rename_i s' forest h
    intro hc
    have := consume_rules_no_panic extras text forest (meta_pairs_shape text _ s' forest h)
    simp only [Option.some.injEq] at hc
    exact this hc
  · simp
  · simp

open PestModel.ReaderP in
/-- **The two reader models are one reader**: on every text the three-valued model (`ReaderP`, this file) and the two-valued
model the C07 theorems are about (`ReaderFull`) return the same rules, or both none. -/
theorem readerP_agrees (extras : Bool) (text : PestModel.LineCol.Str) :
    (readGrammar extras text).map R3.toOption = PestModel.ReaderFull.readGrammarOutcome extras text := by
  unfold readGrammar PestModel.ReaderFull.readGrammarOutcome
  cases PestModel.Ref.meaning PestModel.Gen.Meta.rules false PestModel.ReaderFull.noUni 1000000 "grammar_rules" text with
  | ok s' forest => exact congrArg some (PestModel.ReaderAgree.consumeRules_agree extras text forest)
  | fail => rfl
  | stuck => rfl
  | fuel => rfl

/-- **Behind the reader, the optimizer does not panic**: whatever rules the reader returns for a text, `optimize` (with or
without the `list` pass) converts them — the unroller's `unwrap` and `rule_to_optimized_rule`'s `unreachable!` are unreachable. -/
theorem optimizer_no_panic (extras : Bool) (text : PestModel.LineCol.Str) (rs : List Rule)
    (h : PestModel.ReaderFull.readGrammar extras text = some rs) (withList : Bool) :
    (optimizeWith extras withList rs).isSome = true := by
  obtain ⟨_, forest, _, hr, _⟩ := (PestModel.C07Pairs.reader_exact extras text rs).1 h
  exact PestModel.OptTotal.optimizeWith_total extras withList rs (PestModel.OptTotal.posCounts_rulesV hr)

/-- **`parse_and_optimize` never panics** (`Model/Pipeline`: `parser::parse`, `validate_pairs` with the regenerated
`PEST_KEYWORDS` / `BUILTINS`, `consume_rules`, `validate_ast`, `optimize`): for every text and both feature settings the
outcome of the pipeline is never a panic — `validate_pairs`' `unwrap`, the reader's panic sites, the unroller's
`unwrap` and `rule_to_optimized_rule`'s `unreachable!` are all unreachable. Uses the generic `Ref.meaning_sliced` (every pair
of a successful parse of any grammar spans a slice of the input). -/
theorem pipeline_no_panic (extras : Bool) (text : PestModel.LineCol.Str) :
    PestModel.Pipeline.parseAndOptimize extras text ≠ some .panic :=
  PestModel.Pipeline.pipeline_no_panic extras text

/-! non-vacuity: the pairs of `a={b}` (written out) have the shape, so the hypothesis of `consume_rules_no_panic` is met
by a real forest. -/
section
open PestModel.ReaderShape PestModel.Views PestModel.C07Full
def exText : PestModel.LineCol.Str := "a={b}".toList
def exTerm : Tree := .node (ix "term") 3 4 none [.node (ix "identifier") 3 4 none []]
def exRule : Tree := .node (ix "grammar_rule") 0 5 none
  [.node (ix "identifier") 0 1 none [], .node (ix "assignment_operator") 1 2 none [], .node (ix "opening_brace") 2 3 none [],
   .node (ix "expression") 3 4 none [exTerm], .node (ix "closing_brace") 4 5 none []]

example : GrammarForest exText [exRule] := by
  intro t ht _
  simp only [List.mem_singleton] at ht
  subst ht
  refine Or.inr ⟨_, _, [], _, _, _, rfl, by decide, ⟨['a'], by decide⟩, Or.inl rfl, by decide, by decide, ?_⟩
  have hu : UnArgs exText exTerm.children :=
    .plain (.leaf (Or.inr (Or.inr (Or.inl ⟨by decide, ⟨['b'], by decide⟩⟩))) (by simp))
  have := ExprKids.mk (text := exText) [] exTerm [] (Or.inl rfl) (by decide) hu (by simp) (by simp)
  simpa [Tree.children] using this
end

/-- **The skipper's output is bounded**: the search list of a `Skip` node the `skip` pass creates never has more strings than
`MAX_SKIP_STRINGS` (regenerated from skipper.rs; the statement fails to check when the bound is removed). Before the repair
f10b39f a chain of `n` rules that mention the next one twice produced `2^n` strings in `2^n` steps. -/
theorem skipper_bounded (rules : List Rule) (e : Expr) (l : List PestModel.LineCol.Str) (h : skipF rules e = .skip l)
    (he : ∀ l', e ≠ .skip l') : ∃ c, PestModel.Gen.Consts.maxSkipStrings = some c ∧ l.length ≤ c := by
  have hs : PestModel.Gen.Consts.maxSkipStrings.isSome = true := by decide
  obtain ⟨c, hc⟩ := Option.isSome_iff_exists.1 hs
  refine ⟨c, hc, ?_⟩
  unfold skipF at h
  split at h
  · split at h
    · rename_i x hx
      split at h
      · exact absurd h (by simp)
      · rename_i hlong
        subst h
        simp only [skipTooLong, hc, decide_eq_true_eq] at hlong
        omega
    · exact absurd h (by simp)
  · exact absurd h (he l)

/-- not vacuous: a three-link chain is inlined into a `Skip` of 2^3 strings. -/
example : skipF [⟨"c0", .normal, .choice (.ident "c1") (.ident "c1")⟩, ⟨"c1", .normal, .choice (.ident "c2") (.ident "c2")⟩,
    ⟨"c2", .normal, .choice (.ident "c3") (.ident "c3")⟩, ⟨"c3", .normal, .str ['a']⟩]
    (.rep (.seq (.negPred (.ident "c0")) (.ident "ANY"))) = .skip (List.replicate 8 ['a']) := by decide

/-- **The name errors are located**: every error `validate_pairs` reports (a keyword used as a rule name, a rule defined twice,
an undefined rule) is about a pair of the parse — a definition or a used identifier — whose text it quotes; that pair's span, a slice
of the grammar text (`Ref.meaning_sliced`, in `Lemmas/RefSliced`), is the error's location. -/
theorem name_errors_located (text : PestModel.LineCol.Str) (forest : List PestModel.Views.Tree) (errs : List (String × String))
    (h : PestModel.Pipeline.validatePairs text forest = .ok errs) :
    ∀ e ∈ errs, ∃ t ∈ PestModel.Views.preorderList forest, (PestModel.ReaderFull.strOf text t).map String.ofList = some e.2 := by
  obtain ⟨defs, names, used, hd, hn, hu, rfl⟩ := PestModel.Pipeline.validatePairs_inv h
  intro e he
  have hnames : ∀ n ∈ names, ∃ t ∈ PestModel.Views.preorderList forest, (PestModel.ReaderFull.strOf text t).map String.ofList = some n := by
    intro n hn'
    obtain ⟨t, ht, hx⟩ := PestModel.Pipeline.namesOf_mem defs names hn n hn'
    exact ⟨t, PestModel.Pipeline.definitions_mem forest defs hd t ht, hx⟩
  simp only [List.mem_append, List.mem_map, List.mem_filter] at he
  rcases he with (⟨n, ⟨hn', _⟩, rfl⟩ | ⟨n, hn', rfl⟩) | ⟨n, ⟨hn', _⟩, rfl⟩
  · exact hnames n hn'
  · exact hnames n (PestModel.Pipeline.duplicates_subset names [] n hn')
  · obtain ⟨t, ht, hx⟩ := PestModel.Pipeline.namesOf_mem _ used hu n hn'
    exact ⟨t, PestModel.Pipeline.called_mem forest t ht, hx⟩

end PestModel.C09
