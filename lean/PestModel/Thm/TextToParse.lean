import PestModel.Thm.EndToEnd
import PestModel.Thm.C09
import PestModel.Lemmas.PipelineNames
import PestModel.Lemmas.PipelineIdents
import PestModel.Lemmas.NoPanicParts
import PestModel.Lemmas.PipelineExample
import PestModel.Lemmas.OptListIdle
/-!
# From grammar TEXT to parses — the chain C07/C09 → C06 → C05 → C01/C02/C08 on one grammar text.
-/
namespace PestModel.E2E
theorem length_mapM_some {α β : Type} (f : α → Option β) : ∀ (l : List α) (r : List β), l.mapM f = some r → r.length = l.length :=
  fun _ _ h => PestModel.G.length_mapM h
open PestModel.G PestModel.PS PestModel.Lower PestModel.Ref PestModel.V
open PestModel.LineCol (Str)

/-- **A grammar text the reader accepts is an accepted grammar**: whatever rules `rules` the reader returns for a text
(C07 `reader_exact`: exactly the rules its pairs denote, `validate_ast` silent), the optimizer converts them (C09
`optimizer_no_panic`); if moreover the names are distinct and not `ANY` (what `validate_pairs` checks; `accepted_of_pipeline` below obtains both from the pipeline model), the
grammar is stack-free and untagged and the `list` pass leaves it alone, then all of `accepted_grammar_parses_as_documented`,
`accepted_grammar_generated_parser_agrees` and `accepted_grammar_failure_report` apply to it. -/
theorem accepted_of_text (extras : Bool) (text : Str) (rules : List Rule)
    (hread : PestModel.ReaderFull.readGrammar extras text = some rules)
    (nodup : (rules.map (·.name)).Nodup) (notAny : ∀ r ∈ rules, r.name ≠ "ANY")
    (stackFree : ∀ r ∈ rules, PestModel.C06.StackFree r.expr = true) (noTag : ∀ r ∈ rules, NoTagE r.expr = true)
    (listIdle : optimize extras rules = optimizeWith extras false rules) (small : rules.length ≤ 333333333) :
    ∃ rs, Accepted extras rules rs := by
  obtain ⟨rs, ho⟩ := Option.isSome_iff_exists.1 (PestModel.C09.optimizer_no_panic extras text rules hread false)
  obtain ⟨_, _, _, _, hvalid⟩ := (PestModel.C07Pairs.reader_exact extras text rules).1 hread
  exact ⟨rs, nodup, notAny, stackFree, noTag, hvalid, listIdle ▸ ho, ho, by rw [optimizeWith_length ho]; exact small⟩

/-- **From `parse_and_optimize` to parses**: when the pipeline model (`parse`, `validate_pairs`, `consume_rules` with
`validate_ast`, `optimize`) returns rules `rs` for a text, the reader returns rules with pairwise distinct names, none of them
`ANY` (both from `validate_pairs`, `pipeline_ok`), on which `validate_ast` is silent and whose optimization is `rs`; so a
stack-free, untagged grammar that the `list` pass leaves alone is `Accepted`, with no hypothesis about names left. -/
theorem accepted_of_pipeline (extras : Bool) (text : Str) (rs : List ORule)
    (h : PestModel.Pipeline.parseAndOptimize extras text = some (.ok rs)) :
    ∃ rules, PestModel.ReaderFull.readGrammar extras text = some rules ∧
      ((∀ r ∈ rules, PestModel.C06.StackFree r.expr = true) → (∀ r ∈ rules, NoTagE r.expr = true) →
        optimizeWith extras false rules = some rs → rules.length ≤ 333333333 → Accepted extras rules rs) := by
  obtain ⟨rules, hread, hva, ho, hnd, hkw⟩ := PestModel.Pipeline.pipeline_ok extras text rs h
  refine ⟨rules, hread, fun sf nt li sm => ?_⟩
  exact ⟨hnd, fun r hr hc => hkw r hr (by rw [hc]; decide), sf, nt, hva, ho, li, by rw [optimizeWith_length li]; exact sm⟩

/-- not vacuous: the pipeline model accepts the two-rule grammar text `a = { "x" ~ b }⏎b = { "y" }`. -/
example : isOk (PestModel.Pipeline.parseAndOptimize false
    ['a',' ','=',' ','{',' ','"','x','"',' ','~',' ','b',' ','}','\n','b',' ','=',' ','{',' ','"','y','"',' ','}']) = true :=
  isOk_of_hypothesesHold hypothesesHold_two_rules

open PestModel.ReaderValue (idents) in
/-- **From the grammar TEXT to "never panics"**: when the pipeline model of `parse_and_optimize` accepts a text, and the grammar
it reads is stack-free, untagged and left alone by the `list` pass, then for every rule of the grammar as start rule and every
input the VM model, run on what the pipeline returned, ends with pairs or with an error — no `undefined rule`, no index or slice
out of range, no missing answer. The names come from `validate_pairs` (`pipeline_ok_idents`); the only assumption about the
Unicode table is that it knows the property names the validator lets through. -/
theorem pipeline_grammar_never_panics (extras : Bool) (text : Str) (rs : List ORule)
    (h : PestModel.Pipeline.parseAndOptimize extras text = some (.ok rs)) :
    ∃ rules, PestModel.ReaderFull.readGrammar extras text = some rules ∧
      ((∀ r ∈ rules, PestModel.C06.StackFree r.expr = true) → (∀ r ∈ rules, NoTagE r.expr = true) →
        optimizeWith extras false rules = some rs → rules.length ≤ 333333333 →
        ∀ (uni : String → Option CharSet),
          (∀ n, PestModel.V.isBuiltin n = true → ¬ n ∈ PestModel.Gen.Unicode.builtinsExplicit → (uni n).isSome = true) →
        ∀ (memchr detail : Bool) (name : String), name ∈ rules.map (·.name) → ∀ (input : Str),
          ∃ fuel, match PestModel.C01.vmParse rs uni memchr detail fuel name input with
            | .ok _ => True
            | .err _ => True
            | .panic => False
            | .fuel => False) := by
  obtain ⟨rules, hread, _, _, _, _, hid, hpc⟩ := PestModel.Pipeline.pipeline_ok_idents extras text rs h
  obtain ⟨rules', hread', hacc⟩ := accepted_of_pipeline extras text rs h
  obtain rfl : rules' = rules := Option.some.inj (hread'.symm.trans hread)
  refine ⟨rules', hread, fun sf nt li sm uni huni memchr detail name hname input => ?_⟩
  have hacc := hacc sf nt li sm
  let c : Ctx := { rules := rules', input, extras, uni }
  have hnameOK : ∀ r ∈ rules', ∀ n ∈ idents r.expr, nameOK c n = true := by
    intro r hr n hn
    have hsb := stackFree_idents r.expr (sf r hr) n hn
    rcases hid r hr n hn with hdef | hb
    · simp only [nameOK, Bool.or_eq_true]
      exact .inl (.inl (has_of_mem_names (c := c) (by simpa using hdef)))
    · by_cases hex : n ∈ PestModel.Gen.Unicode.builtinsExplicit
      · simp only [nameOK, Bool.or_eq_true]
        exact .inl (.inr (explicit_plain n hex hsb))
      · have hu := huni n hb hex
        have h1 : n ≠ "PEEK" := fun he => hex (by rw [he]; decide)
        have h2 : n ≠ "POP" := fun he => hex (by rw [he]; decide)
        simp only [nameOK, Bool.or_eq_true, Bool.and_eq_true, decide_eq_true_eq]
        exact .inr ⟨⟨h1, h2⟩, hu⟩
  have hns : RulesNS c := by
    intro nm id r hr
    obtain ⟨_, hmem, _⟩ := PestModel.V.lookup_of_rule? hr
    exact ns_of_parts c r.expr (sf r hmem) (hpc r hmem) (hnameOK r hmem)
  have hstart : nameOK c name = true := by
    simp only [nameOK, Bool.or_eq_true]
    exact .inl (.inl (has_of_mem_names (c := c) (by simpa using hname)))
  exact accepted_ns_grammar_never_panics extras rules' rs hacc uni memchr detail name input hns hstart

/-- not vacuous: the hypotheses of `pipeline_grammar_never_panics` hold for `a = { "x" ~ b }⏎b = { "y" }` with start rule `a`. -/
example : hypothesesHold
    ['a',' ','=',' ','{',' ','"','x','"',' ','~',' ','b',' ','}','\n','b',' ','=',' ','{',' ','"','y','"',' ','}'] "a" = true :=
  hypothesesHold_two_rules

end PestModel.E2E
