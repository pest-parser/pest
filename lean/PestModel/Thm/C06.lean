import PestModel.Model.Validator
import PestModel.Model.Ref
import PestModel.Model.RefSpec
import PestModel.Lemmas.Validator
import PestModel.Lemmas.ValidatorSound
/-!
# C06 — validation guarantees termination and accepts well-formed grammars

`PestModel.V.validateAst` is `pest_meta::validator::validate_ast` (tied to the real validator by the
verdict correspondence), after the fixes of `left_recursion::check_expr`: the trace is a chain of
(rule, skipping inside it) pairs, and the implicit `WHITESPACE`/`COMMENT` calls behind a sequence
head — or behind the first copy of a bounded repetition — that may match nothing are entered too.
`PestModel.Ref` is the reference semantics.

* `validator_sound_partial`: every rule call of an accepted stack-free grammar terminates, provided
  that without `grammar-extras` the rules contain no tagged expression. With `grammar-extras` there is
  no side condition (`validator_sound_extras`).
* Soundness as first stated (`ValidatorSoundStmt`, any hand-built AST) is **false** for exactly that
  reason: `validator_sound_refuted_tag` (tags without `grammar-extras` are not looked into).
* The two grammars on which the earlier versions of the check were unsound are now rejected, and
  still diverge in the reference semantics: `cexWs` (`WHITESPACE = _{ a }  a = !{ EOI ~ "x" }`, implicit
  skip behind a sequence head) and `cexRep` (`WHITESPACE = _{ a ~ "y" }  a = !{ "x"{,2} }`, implicit skip
  between the unrolled copies of a bounded repetition).
* Completeness (`validator_complete`): strictly guarded grammars are accepted.
-/
namespace PestModel.C06
open PestModel.V PestModel.G PestModel.Ref
open PestModel.PS (Atomicity CharSet)
open PestModel.LineCol (Str)

/-- the four grammars the old check accepted are rejected (the fix of `check_expr` is mirrored). -/
theorem left_recursion_examples :
    leftRecursion false [⟨"a", .normal, .seq (.opt (.ident "a")) (.str ['x'])⟩] = [.leftRecursive "a"] ∧
    leftRecursion false [⟨"a", .normal, .seq (.negPred (.ident "a")) (.str ['x'])⟩] = [.leftRecursive "a"] ∧
    leftRecursion false [⟨"a", .normal, .repExact (.ident "a") 2⟩] = [.leftRecursive "a"] ∧
    leftRecursion false [⟨"a", .normal, .seq (.ident "b") (.str ['x'])⟩, ⟨"b", .normal, .opt (.ident "a")⟩] =
      [.leftRecursive "a", .leftRecursive "b"] := by decide

/-- the stack built-ins. -/
def stackBuiltins : List String := ["PUSH", "PEEK", "PEEK_ALL", "POP", "POP_ALL", "DROP"]

/-- names with a fixed meaning that a grammar cannot redefine (`validate_pest_keywords` /
`validate_rust_keywords` reject them before `validate_ast` runs). -/
def reserved : List String := ["ANY", "SOI", "EOI"] ++ stackBuiltins

/-- the expression does not use the stack. -/
def StackFree : Expr → Bool
  | .ident n => !stackBuiltins.contains n
  | .peekSlice _ _ | .push _ | .pushLiteral _ => false
  | .posPred e | .negPred e | .opt e | .rep e | .repOnce e | .nodeTag e _ => StackFree e
  | .repExact e _ | .repMin e _ | .repMax e _ | .repMinMax e _ _ => StackFree e
  | .seq a b | .choice a b => StackFree a && StackFree b
  | _ => true

/-- what the earlier validation stages (`validate_pairs`) guarantee: distinct rule names, none reserved. -/
def WellNamed (rules : List Rule) : Prop :=
  (rules.map (·.name)).Nodup ∧ ∀ r ∈ rules, r.name ∉ reserved

/-- **Soundness, as originally stated** (a proposition, not a theorem): if the validator accepts a
stack-free grammar, then parsing any input from any of its rules, in any mode, from any position,
terminates (the reference semantics reaches a definite result: success, failure, or `stuck` on an
undefined name). It is **false** (`validator_sound_refuted`, because of tags without
`grammar-extras`); `validator_sound_partial` is the nearest true statement. -/
def ValidatorSoundStmt : Prop :=
  ∀ (extras : Bool) (rules : List Rule), WellNamed rules →
    (∀ r ∈ rules, StackFree r.expr = true) → validateAst extras rules = [] →
    ∀ (uni : String → Option CharSet) (input : Str) (name : String) (m : Atomicity) (la : Bool) (s : St),
      ∃ fuel, call { rules, input, extras, uni } fuel m la name s ≠ .fuel

/-! ### the grammars the earlier versions of the check wrongly accepted -/

/-- `WHITESPACE = _{ a }   a = !{ EOI ~ "x" }`: a `!{…}` rule reachable from `WHITESPACE`. Inside
`a` the sequence skips implicit whitespace, which calls `WHITESPACE`, which calls `a` … at the
same position. The left-recursion check now enters the implicit call. -/
def cexWs : List Rule :=
  [⟨"WHITESPACE", .silent, .ident "a"⟩, ⟨"a", .nonAtomic, .seq (.ident "EOI") (.str ['x'])⟩]

/-- the fixed check rejects it. -/
theorem cexWs_rejected : ∀ extras, validateAst extras cexWs = [.leftRecursive "WHITESPACE", .leftRecursive "a"] := by
  decide

theorem cexWs_wellNamed : WellNamed cexWs := by
  constructor
  · decide
  · decide

theorem cexWs_stackFree : ∀ r ∈ cexWs, StackFree r.expr = true := by decide

theorem cexWs_step (extras : Bool) (uni : String → Option CharSet) (k : Nat) (m : Atomicity) (la : Bool)
    (h : call { rules := cexWs, input := [], extras, uni } k .atomic la "a" ⟨0, []⟩ = .fuel) :
    call { rules := cexWs, input := [], extras, uni } (k + 6) m la "a" ⟨0, []⟩ = .fuel := by
  -- `a` → (`EOI` matches) → implicit skip → `WHITESPACE*` → `WHITESPACE` → `a`: each passes `.fuel` on
  show (match (match (match (match call _ k .atomic la "a" _ with | .ok s1 f1 => _ | res => res) with
      | .ok s1 f1 => _ | .fail => _ | r => r) with | .ok s2 f2 => _ | r => r) with | .ok s1 f1 => _ | res => res) = _
  rw [h]

/-- on the empty input, calling `a` needs unbounded fuel (so the rejection is justified). -/
theorem cexWs_diverges (extras : Bool) (uni : String → Option CharSet) :
    ∀ (k : Nat) (m : Atomicity) (la : Bool),
      call { rules := cexWs, input := [], extras, uni } k m la "a" ⟨0, []⟩ = .fuel :=
  fun k m la => call_diverges_of_step (P := fun _ _ s => s = ⟨0, []⟩)
    (fun k ih m la s hs => hs ▸ cexWs_step extras uni k m la (ih .atomic la _ rfl)) (by omega) k m la _ rfl

/-- `WHITESPACE = _{ a ~ "y" }   a = !{ "x"{,2} }`: `"x"{,2}` means `"x"? ~ "x"?`; when the first copy
matches nothing, the implicit skip between the copies calls `WHITESPACE` at the same position, which
calls `a`. The left-recursion check now enters the implicit call behind the first copy of a bounded
repetition. -/
def cexRep : List Rule :=
  [⟨"WHITESPACE", .silent, .seq (.ident "a") (.str ['y'])⟩, ⟨"a", .nonAtomic, .repMax (.str ['x']) 2⟩]

/-- the fixed check rejects it. -/
theorem cexRep_rejected : ∀ extras, validateAst extras cexRep = [.leftRecursive "WHITESPACE", .leftRecursive "a"] := by
  decide

theorem cexRep_stackFree : ∀ r ∈ cexRep, StackFree r.expr = true := by decide

theorem cexRep_step (extras : Bool) (uni : String → Option CharSet) (k : Nat) (m : Atomicity) (la : Bool)
    (h : call { rules := cexRep, input := [], extras, uni } k .atomic la "a" ⟨0, []⟩ = .fuel) :
    call { rules := cexRep, input := [], extras, uni } (k + 8) m la "a" ⟨0, []⟩ = .fuel := by
  -- `a` → (first `"x"?` matches nothing) → implicit skip → `WHITESPACE*` → `WHITESPACE` → `a ~ "y"` → `a`
  show (match (match (match (match (match call _ k .atomic la "a" _ with | .ok s1 f1 => _ | r => r) with
      | .ok s1 f1 => _ | res => res) with | .ok s1 f1 => _ | .fail => _ | r => r) with | .ok s2 f2 => _ | r => r) with
      | .ok s1 f1 => _ | res => res) = _
  rw [h]

/-- on the empty input, calling `a` needs unbounded fuel. -/
theorem cexRep_diverges (extras : Bool) (uni : String → Option CharSet) :
    ∀ (k : Nat) (m : Atomicity) (la : Bool),
      call { rules := cexRep, input := [], extras, uni } k m la "a" ⟨0, []⟩ = .fuel :=
  fun k m la => call_diverges_of_step (P := fun _ _ s => s = ⟨0, []⟩)
    (fun k ih m la s hs => hs ▸ cexRep_step extras uni k m la (ih .atomic la _ rfl)) (by omega) k m la _ rfl

/-! ### the remaining counterexample to the statement for hand-built ASTs -/

/-- `a = { #t = a }` without `grammar-extras`: the validator does not look into tagged expressions
(the meta-grammar cannot produce a tag without `grammar-extras`, so this needs a hand-built AST). -/
def cexTag : List Rule := [⟨"a", .normal, .nodeTag (.ident "a") ['t']⟩]

theorem cexTag_accepted : validateAst false cexTag = [] := by decide

theorem cexTag_step (uni : String → Option CharSet) (input : Str) (k : Nat) (m : Atomicity) (la : Bool) (s : St)
    (h : call { rules := cexTag, input, extras := false, uni } k m la "a" s = .fuel) :
    call { rules := cexTag, input, extras := false, uni } (k + 3) m la "a" s = .fuel := by
  show (match (match call _ k m la "a" s with | .ok s1 f1 => _ | r => r) with | .ok s1 f1 => _ | res => res) = _
  rw [h]

theorem cexTag_diverges (uni : String → Option CharSet) (input : Str) :
    ∀ (k : Nat) (m : Atomicity) (la : Bool) (s : St),
      call { rules := cexTag, input, extras := false, uni } k m la "a" s = .fuel :=
  fun k m la s => call_diverges_of_step (P := fun _ _ _ => True)
    (fun k ih m la s _ => cexTag_step uni input k m la s (ih m la s trivial)) (by omega) k m la s trivial

/-- the statement for arbitrary ASTs is false: tags without `grammar-extras` are not looked into. -/
theorem validator_sound_refuted_tag : ¬ ValidatorSoundStmt := by
  intro H
  obtain ⟨fuel, h⟩ := H false cexTag (by constructor <;> decide) (by decide) cexTag_accepted
    (fun _ => none) [] "a" .nonAtomic false ⟨0, []⟩
  exact h (cexTag_diverges _ _ fuel _ _ _)

/-- **the soundness statement (for arbitrary ASTs) is false.** -/
theorem validator_sound_refuted : ¬ ValidatorSoundStmt := validator_sound_refuted_tag

theorem stackFree_eq_SF : ∀ e : Expr, StackFree e = SF e := by
  intro e
  induction e with
  | seq a b iha ihb | choice a b iha ihb => show (StackFree a && StackFree b) = (SF a && SF b); rw [iha, ihb]
  | posPred e ih | negPred e ih | opt e ih | rep e ih | repOnce e ih | nodeTag e _ ih | repExact e _ ih
  | repMin e _ ih | repMax e _ ih | repMinMax e _ _ ih => exact ih
  | _ => rfl

/-- **Soundness.** If the validator accepts a stack-free grammar — and, without `grammar-extras`, the
rules contain no tagged expression (`NoTag`; the meta-grammar cannot produce one) — then every rule
call, in every mode, from every state, terminates. `WellNamed` is not needed. The hypothesis `htag`
excludes exactly the counterexample `cexTag`. -/
theorem validator_sound_partial (extras : Bool) (rules : List Rule)
    (hsf : ∀ r ∈ rules, StackFree r.expr = true) (hv : validateAst extras rules = [])
    (htag : extras = false → ∀ r ∈ rules, NoTag r.expr = true)
    (uni : String → Option CharSet) (input : Str) (name : String) (m : Atomicity) (la : Bool) (s : St) :
    ∃ fuel, call { rules, input, extras, uni } fuel m la name s ≠ .fuel := by
  let c : Ctx := { rules, input, extras, uni }
  have hsf' : ∀ r ∈ c.rules, SF r.expr = true := fun r hr => by rw [← stackFree_eq_SF]; exact hsf r hr
  have htag' : ∀ r ∈ c.rules, TagOK c.extras r.expr = true := by
    intro r hr
    cases hx : extras with
    | true => simp [TagOK, c, hx]
    | false => simp [TagOK, c, hx, htag hx r hr]
  have hne := sound_core (c := c) hsf' htag' hv name s m la
  obtain ⟨n, hn⟩ := exists_call c m la name s
  exact ⟨n, by rw [hn]; exact hne⟩

/-- **Soundness with `grammar-extras`**: no side condition besides stack-freeness. -/
theorem validator_sound_extras (rules : List Rule)
    (hsf : ∀ r ∈ rules, StackFree r.expr = true) (hv : validateAst true rules = [])
    (uni : String → Option CharSet) (input : Str) (name : String) (m : Atomicity) (la : Bool) (s : St) :
    ∃ fuel, call { rules, input, extras := true, uni } fuel m la name s ≠ .fuel :=
  validator_sound_partial true rules hsf hv (fun h => by cases h) uni input name m la s

/-- in particular a parse from any rule (`meaning`) terminates. -/
theorem validator_sound_meaning (extras : Bool) (rules : List Rule)
    (hsf : ∀ r ∈ rules, StackFree r.expr = true) (hv : validateAst extras rules = [])
    (htag : extras = false → ∀ r ∈ rules, NoTag r.expr = true)
    (uni : String → Option CharSet) (rule : String) (input : Str) :
    ∃ fuel, meaning rules extras uni fuel rule input ≠ .fuel :=
  validator_sound_partial extras rules hsf hv htag uni input rule .nonAtomic false ⟨0, []⟩

/-- the counterexample `cexTag` violates exactly `htag`. -/
theorem cexTag_not_noTag : ¬ ∀ r ∈ cexTag, NoTag r.expr = true := by decide

/-- `e` begins by matching at least one character through a non-empty literal, a range or a
single-character built-in (a name the grammar does not define and that is not `SOI`/`EOI`/a stack
built-in). -/
def Lead (rules : List Rule) : Expr → Bool
  | .str s | .insens s => !s.isEmpty
  | .range _ _ => true
  | .ident n => (lookup rules n).isNone && n ≠ "SOI" && n ≠ "EOI" && !stackBuiltins.contains n
  | .seq a _ => Lead rules a
  | .choice a b => Lead rules a && Lead rules b
  | .repOnce e | .nodeTag e _ => Lead rules e
  | .repExact e n | .repMin e n => decide (0 < n) && Lead rules e
  | .repMinMax e lo _ => decide (0 < lo) && Lead rules e
  | _ => false

/-- every reference to a grammar rule sits behind a leading character (so no path from a rule back
to itself starts without consuming input), every repetition body and every non-final choice
alternative is `Lead`. `leftmost = true` while nothing has been consumed yet on this path. -/
def Guarded (rules : List Rule) : Bool → Expr → Bool
  | leftmost, .ident n => !(leftmost && (lookup rules n).isSome)
  | leftmost, .seq a b => Guarded rules leftmost a && Guarded rules (leftmost && !Lead rules a) b
  | leftmost, .choice a b => Lead rules a && Guarded rules leftmost a && Guarded rules leftmost b
  | leftmost, .rep e | leftmost, .repOnce e => Lead rules e && Guarded rules leftmost e
  | leftmost, .repMin e _ => Lead rules e && Guarded rules leftmost e
  | leftmost, .repExact e _ | leftmost, .repMax e _ | leftmost, .repMinMax e _ _ => Guarded rules leftmost e
  | leftmost, .opt e | leftmost, .posPred e | leftmost, .negPred e | leftmost, .push e | leftmost, .nodeTag e _ =>
    Guarded rules leftmost e
  | _, _ => true

/-- the whole grammar is strictly guarded; `WHITESPACE` and `COMMENT`, if defined, begin with a character. -/
def StrictlyGuarded (rules : List Rule) : Prop :=
  (∀ r ∈ rules, Guarded rules true r.expr = true) ∧
  (∀ r ∈ rules, (r.name = "WHITESPACE" ∨ r.name = "COMMENT") → Lead rules r.expr = true)

/-- tags (grammar-extras) are only put on expressions that are not silent rules or built-ins. -/
def TagsOk (extras : Bool) (rules : List Rule) : Prop := validateTags extras rules = []

/-- a leading character makes both "may match nothing" tests negative, whatever the fuel and the trace. -/
theorem lead_definite (rules : List Rule) : ∀ (fuel : Nat) (e : Expr) (trace : List String), Lead rules e = true →
    isNonFailing rules fuel e trace = false ∧ isNonProgressing rules fuel e trace = false := by
  intro fuel
  induction fuel with
  | zero => intros; exact ⟨rfl, rfl⟩
  | succ fuel ih =>
    intro e trace h
    cases e with
    | str s | insens s =>
      replace h : s.isEmpty = false := Bool.not_eq_true' _ ▸ h
      simp only [isNonFailing, isNonProgressing, h, and_self]
    | ident n =>
      simp only [Lead, Bool.and_eq_true] at h
      have hl : lookup rules n = none := by simpa using h.1.1.1
      have h1 : n ≠ "SOI" := by simpa using h.1.1.2
      have h2 : n ≠ "EOI" := by simpa using h.1.2
      simp only [isNonFailing, isNonProgressing, hl, h1, h2, or_self, if_false, ite_self, and_self]
    | seq a b => simp only [isNonFailing, isNonProgressing, ih a trace h, Bool.false_and, and_self]
    | choice a b =>
      have h := Bool.and_eq_true_iff.1 h
      simp only [isNonFailing, isNonProgressing, ih a trace h.1, ih b trace h.2, Bool.or_self, and_self]
    | repOnce e | nodeTag e t => exact ih e trace h
    | repExact e n | repMin e n | repMinMax e n hi =>
      have h := Bool.and_eq_true_iff.1 h
      have : (n == 0) = false := beq_eq_false_iff_ne.2 (Nat.pos_iff_ne_zero.1 (of_decide_eq_true h.1))
      simp only [isNonFailing, isNonProgressing, this, ih e trace h.2, Bool.or_self, and_self]
    | range a b => exact ⟨rfl, rfl⟩
    | _ => exact absurd h Bool.false_ne_true
theorem lead_choiceNode (rules : List Rule) (lhs : Expr) :
    Lead rules lhs = true → Lead rules (match lhs with | .choice _ rhs => rhs | _ => lhs) = true := by
  intro hl
  split
  · exact (Bool.and_eq_true_iff.1 hl).2
  · exact hl

/-- every sub-expression of a guarded expression is guarded (for some `leftmost` flag). -/
theorem guarded_subExprs (extras : Bool) (rules : List Rule) : ∀ (e : Expr) (lm : Bool), Guarded rules lm e = true →
    ∀ x ∈ subExprs extras e, ∃ lm', Guarded rules lm' x = true := by
  intro e
  induction e with
  | seq a b iha ihb =>
    intro lm h x hx
    simp only [subExprs, List.mem_cons, List.mem_append] at hx
    rcases hx with rfl | hx | hx
    · exact ⟨lm, h⟩
    · exact iha _ (Bool.and_eq_true_iff.1 h).1 x hx
    · exact ihb _ (Bool.and_eq_true_iff.1 h).2 x hx
  | choice a b iha ihb =>
    intro lm h x hx
    simp only [subExprs, List.mem_cons, List.mem_append] at hx
    rcases hx with rfl | hx | hx
    · exact ⟨lm, h⟩
    · exact iha _ (Bool.and_eq_true_iff.1 (Bool.and_eq_true_iff.1 h).1).2 x hx
    · exact ihb _ (Bool.and_eq_true_iff.1 h).2 x hx
  | rep a ih | repOnce a ih | repMin a n ih =>
    intro lm h x hx
    simp only [subExprs, List.mem_cons] at hx
    rcases hx with rfl | hx
    · exact ⟨lm, h⟩
    · exact ih _ (Bool.and_eq_true_iff.1 h).2 x hx
  | posPred a ih | negPred a ih | opt a ih | push a ih | repExact a n ih | repMax a n ih | repMinMax a lo hi ih =>
    intro lm h x hx
    simp only [subExprs, List.mem_cons] at hx
    rcases hx with rfl | hx
    · exact ⟨lm, h⟩
    · exact ih _ h x hx
  | nodeTag a t ih =>
    intro lm h x hx
    simp only [subExprs, List.mem_cons] at hx
    rcases hx with rfl | hx
    · exact ⟨lm, h⟩
    · cases extras
      · simp at hx
      · exact ih _ h x (by simpa using hx)
  | _ =>
    intro lm h x hx
    simp only [subExprs, List.mem_singleton] at hx
    subst hx
    exact ⟨lm, h⟩

/-- the left-recursion check never fires on a guarded expression: it stops at the first leading
character, no grammar rule is referenced before it, and the implicit rules (which it may enter where
skipping is on) begin with a character. -/
theorem guarded_checkExpr (extras : Bool) (rules : List Rule) (hG : ∀ r ∈ rules, Guarded rules true r.expr = true) :
    ∀ (fuel : Nat) (e : Expr) (trace : List (String × Bool)) (skips : Bool),
    (∀ k ∈ trace, (lookup rules k.1).isSome = true) →
    (skips = true → trace.head? ≠ some ("WHITESPACE", false) ∧ trace.head? ≠ some ("COMMENT", false)) →
    Guarded rules true e = true → checkExpr extras rules fuel e trace skips = false := by
  intro fuel
  induction fuel with
  | zero => intros; rfl
  | succ fuel ih =>
    intro e trace skips htr hsk h
    have himpl : implF extras rules fuel trace skips = false := by
      cases skips with
      | false => simp [implF]
      | true =>
        have key : ∀ nm, (nm = "WHITESPACE" ∨ nm = "COMMENT") → enterF extras rules fuel trace true nm = false := by
          intro nm hn
          have hs : skipsInside rules nm true = false := skipsInside_ws rules hn true
          have hh : trace.head? ≠ some (nm, false) := by
            rcases hn with rfl | rfl
            · exact (hsk rfl).1
            · exact (hsk rfl).2
          by_cases hc : (nm, false) ∈ trace
          · exact enterF_eq_false (by rwa [hs]) (Or.inl (by rwa [hs]))
          · cases hl : lookup rules nm with
            | none => exact enterF_eq_false (by rwa [hs]) (Or.inr hl)
            | some body =>
              rw [enterF_step (by rw [hs]; exact hc) hl, hs]
              obtain ⟨r, hr, _, hrb⟩ := lookup_some_mem hl
              refine ih body _ false ?_ (fun h => by cases h) (hrb ▸ hG r hr)
              intro k hk
              simp only [List.mem_append, List.mem_singleton] at hk
              rcases hk with hk | rfl
              · exact htr k hk
              · simp [hl]
        simp [implF, key _ (Or.inl rfl), key _ (Or.inr rfl)]
    cases e with
    | ident n =>
      have hl : lookup rules n = none := by simpa using (show (!(true && (lookup rules n).isSome)) = true from h)
      have hnot : ∀ b, (n, b) ∉ trace := fun b hm => by have := htr _ hm; simp [hl] at this
      exact enterF_eq_false (fun hh => hnot _ (List.mem_of_mem_head? hh)) (Or.inr hl)
    | seq a b =>
      have h := Bool.and_eq_true_iff.1 h
      rw [checkExpr_seq]
      cases hL : Lead rules a with
      | true =>
        rw [(lead_definite rules _ a _ hL).1, (lead_definite rules _ a _ hL).2]
        exact ih a trace skips htr hsk h.1
      | false =>
        have hb : Guarded rules true b = true := by simpa [hL] using h.2
        simp only [ih a trace skips htr hsk h.1, ih b trace skips htr hsk hb, himpl, Bool.or_self, ite_self]
    | choice a b =>
      obtain ⟨h1, h2⟩ := Bool.and_eq_true_iff.1 h
      show (checkExpr extras rules fuel a trace skips || checkExpr extras rules fuel b trace skips) = false
      rw [ih a trace skips htr hsk (Bool.and_eq_true_iff.1 h1).2, ih b trace skips htr hsk h2]; rfl
    | rep a | repOnce a | repMin a n =>
      exact ih a trace skips htr hsk (Bool.and_eq_true_iff.1 h).2
    | opt a | posPred a | negPred a | push a => exact ih a trace skips htr hsk h
    | repMinMax a lo hi =>
      rw [checkExpr_repMinMax]; simp only [ih a trace skips htr hsk h, himpl, Bool.and_false, Bool.or_self]
    | repExact a n =>
      rw [checkExpr_repExact, checkExpr_repMinMax]; simp only [ih a trace skips htr hsk h, himpl, Bool.and_false, Bool.or_self]
    | repMax a n =>
      rw [checkExpr_repMax, checkExpr_repMinMax]; simp only [ih a trace skips htr hsk h, himpl, Bool.and_false, Bool.or_self]
    | nodeTag a t =>
      cases extras
      · rfl
      · exact ih a trace skips htr hsk h
    | _ => rfl

/-- **Completeness.** A strictly guarded, well-named grammar is accepted. -/
theorem validator_complete (extras : Bool) (rules : List Rule) (hwn : WellNamed rules)
    (hg : StrictlyGuarded rules) (ht : TagsOk extras rules) : validateAst extras rules = [] := by
  have _ := hwn
  obtain ⟨hG, hW⟩ := hg
  have hrep : validateRepetition extras rules = [] := by
    refine validateRepetition_eq_nil.2 fun r hr x hx => ?_
    obtain ⟨lm, hgx⟩ := guarded_subExprs extras rules r.expr true (hG r hr) x hx
    cases x <;> try trivial
    all_goals
      simp only [Guarded, Bool.and_eq_true] at hgx
      exact lead_definite rules _ _ _ hgx.1
  have hch : validateChoices extras rules = [] := by
    unfold validateChoices
    rw [List.flatMap_eq_nil_iff]
    intro r hr
    rw [List.filterMap_eq_nil_iff]
    intro x hx
    obtain ⟨lm, hgx⟩ := guarded_subExprs extras rules r.expr true (hG r hr) x hx
    split
    · rename_i lhs rhs
      simp only [Guarded, Bool.and_eq_true] at hgx
      have hl := hgx.1.1
      have key : ∀ node, Lead rules node = true →
          (if isNonFailing rules (fuelFor rules node) node [] = true then some (Err.choiceUnreachable r.name) else none) = none := by
        intro node hn
        rw [(lead_definite rules _ _ _ hn).1]
        rfl
      exact key _ (lead_choiceNode rules lhs hl)
    · rfl
  have hws : validateWsComment rules = [] :=
    validateWsComment_eq_nil.2 fun r hr hn =>
      lead_definite rules _ _ _ (hW r hr hn)
  have hlr : leftRecursion extras rules = [] := by
    refine leftRecursion_eq_nil.2 fun r hr b => guarded_checkExpr extras rules hG _ r.expr _ _ ?_ ?_ (hG r hr)
    · intro k hk
      rw [List.mem_singleton.1 hk]
      exact lookup_isSome_of_mem hr
    · intro hsk
      simp only [List.head?_cons]
      constructor <;>
      · intro heq
        simp only [Option.some.injEq, Prod.mk.injEq] at heq
        rw [heq.2] at hsk
        cases hsk
  unfold validateAst
  rw [hrep, hch, hws, hlr, ht]
  rfl

/-- non-vacuity: a recursive, strictly guarded grammar with implicit whitespace, accepted, stack-free. -/
def exRules : List Rule :=
  [⟨"WHITESPACE", .silent, .str [' ']⟩,
   ⟨"list", .normal, .seq (.str ['[']) (.seq (.opt (.seq (.ident "item") (.rep (.seq (.str [',']) (.ident "item"))))) (.str [']']))⟩,
   ⟨"item", .normal, .choice (.repOnce (.ident "ASCII_DIGIT")) (.seq (.str ['(']) (.seq (.ident "list") (.str [')'])))⟩]

example : validateAst false exRules = [] ∧ (∀ r ∈ exRules, StackFree r.expr = true) ∧
    (∀ r ∈ exRules, Guarded exRules true r.expr = true) := by
  decide

/-- … and the soundness theorem applies to it: parsing from `list` terminates on every input. -/
theorem exRules_terminates (uni : String → Option CharSet) (input : Str) :
    ∃ fuel, meaning exRules false uni fuel "list" input ≠ .fuel :=
  validator_sound_meaning false exRules (by decide) (by decide) (fun _ => by decide) uni "list" input

/-- a `!{…}` rule reachable from `WHITESPACE` (a comment with skipping inside it) that is fine:
`WHITESPACE = _{ " " | c }   c = !{ "/*" ~ "x"* ~ "*/" }   main = { c* }`. -/
def exWsNonAtomic : List Rule :=
  [⟨"WHITESPACE", .silent, .choice (.str [' ']) (.ident "c")⟩,
   ⟨"c", .nonAtomic, .seq (.str ['/', '*']) (.seq (.rep (.str ['x'])) (.str ['*', '/']))⟩,
   ⟨"main", .normal, .rep (.ident "c")⟩]

theorem exWsNonAtomic_terminates (extras : Bool) (uni : String → Option CharSet) (input : Str) :
    validateAst extras exWsNonAtomic = [] ∧ ∃ fuel, meaning exWsNonAtomic extras uni fuel "main" input ≠ .fuel :=
  ⟨by revert extras; decide,
   validator_sound_meaning extras exWsNonAtomic (by decide) (by revert extras; decide) (fun _ => by decide) uni "main" input⟩

end PestModel.C06
