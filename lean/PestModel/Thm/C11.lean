import PestModel.Model.StackSpec
import PestModel.Lemmas.Stack
/-!
# C11 — the backtracking stack is transactional for every history

Property theorems only (helper lemmas live in `PestModel/Lemmas/Stack.lean`).
`step`/`run` model `pest::Stack` with every Rust panic site an explicit `none`;
`Naive` is the copy-at-snapshot specification from the property text.
-/
namespace PestModel.C11
open PestModel.Stack

variable {α : Type}

/-- The invariant holds initially. -/
theorem inv_init : StkInv (Stk.new : Stk α) := by
  simp [StkInv, StkInvL, Stk.new]

/-- No operation panics on a state satisfying the invariant. -/
theorem step_no_panic (s : Stk α) (op : Op α) (h : StkInv s) : (step s op).isSome := by
  obtain ⟨s', o, hs, -⟩ := step_spec s op h
  rw [hs]; rfl

/-- The invariant is preserved by every operation. -/
theorem step_inv (s s' : Stk α) (op : Op α) (o : Out α) (h : StkInv s)
    (hs : step s op = some (s', o)) : StkInv s' := by
  obtain ⟨s1, o1, hs1, hi, -⟩ := step_spec s op h
  cases hs1.symm.trans hs; exact hi

/-- One step of the implementation model is one step of the naive model, through `abs`. -/
theorem step_refines (s s' : Stk α) (op : Op α) (o : Out α) (h : StkInv s)
    (hs : step s op = some (s', o)) : Naive.step (abs s) op = (abs s', o) := by
  obtain ⟨s1, o1, hs1, -, hr⟩ := step_spec s op h
  cases hs1.symm.trans hs; exact hr

/-- Generalised form of `run_refines` from any state satisfying the invariant. -/
theorem run_refines_from (s : Stk α) (ops : List (Op α)) (h : StkInv s) :
    ∃ s', run s ops = some (s', (Naive.run (abs s) ops).2) ∧ StkInv s' ∧
      abs s' = (Naive.run (abs s) ops).1 := by
  induction ops generalizing s with
  | nil => exact ⟨s, rfl, h, rfl⟩
  | cons op ops ih =>
    obtain ⟨s1, o, hs, hi, hr⟩ := step_spec s op h
    obtain ⟨s2, h1, h2, h3⟩ := ih s1 hi
    refine ⟨s2, ?_, h2, ?_⟩
    · simp only [run, hs, h1, Naive.run, hr]
    · simp only [Naive.run, hr]; exact h3

/-- **Main theorem.** For every history from the empty stack: no operation panics, every
`pop`/`peek` returns what the naive model returns, and the contents afterwards are the naive
model's contents.  (Every prefix of a history is a history, so this is "after each operation".) -/
theorem run_refines (ops : List (Op α)) :
    ∃ s', run Stk.new ops = some (s', (Naive.run Naive.new ops).2) ∧
      s'.cache = (Naive.run Naive.new ops).1.cur := by
  have e : abs (Stk.new : Stk α) = Naive.new := rfl
  obtain ⟨s', h1, -, h3⟩ := run_refines_from (Stk.new : Stk α) ops inv_init
  rw [e] at h1 h3
  exact ⟨s', h1, by rw [← h3]; rfl⟩

/-- Non-vacuity: a reachable three-deep state with pops below the snapshot line and re-pushes
satisfies the invariant and is not the trivial state. -/
example :
    let ops : List (Op Nat) := [.push 1, .push 2, .snapshot, .pop, .snapshot, .pop, .push 3,
      .snapshot, .pop, .push 4, .push 5]
    ∃ s os, run Stk.new ops = some (s, os) ∧ s.lengths.length = 3 ∧ s.popped ≠ [] ∧ StkInv s := by
  refine ⟨_, _, rfl, rfl, by decide, ?_⟩
  simp [StkInv, StkInvL, Stk.new]

end PestModel.C11
