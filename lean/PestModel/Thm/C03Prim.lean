import PestModel.Model.PStateSpec
import PestModel.Lemmas.PStatePrim
/-!
# C03 — parser-state combinators … match exactly (part 2: matching primitives)

Property theorems only; helper lemmas in `PestModel/Lemmas/PStatePrim.lean`.
Each primitive advances over exactly the matched text, to a UTF-8 boundary, and does not move on
failure; the `memchr`-accelerated search equals the basic one.
-/
namespace PestModel.C03
open PestModel.PS PestModel.LineCol

/-- Advancing from a boundary over a prefix of the remaining characters lands on a boundary. -/
theorem boundary_advance (input rest pre post : Str) (pos : Nat)
    (h : restAt input pos = some rest) (hp : rest = pre ++ post) :
    restAt input (pos + bLen pre) = some post := by
  exact restAt_advance h hp

/-- `match_string`: succeeds iff the string is a prefix of the remaining input; then it advances by
exactly the string's byte length (to a boundary); otherwise it does not move. -/
theorem matchString_spec (input rest str : Str) (pos : Nat) (h : restAt input pos = some rest) :
    posMatchString input pos str =
      some (if str.isPrefixOf rest then (true, pos + bLen str) else (false, pos)) ∧
    (str.isPrefixOf rest = true → isBoundary input (pos + bLen str) = true) := by
  refine ⟨posMatchString_eq str h, fun hp => ?_⟩
  obtain ⟨t, ht⟩ := List.isPrefixOf_iff_prefix.1 hp
  exact restAt_isBoundary (restAt_advance h ht.symm)

/-- `match_insensitive`: succeeds iff some prefix `pre` of the remaining input with the same byte
length equals the string up to ASCII case folding only (it never splits a character); then it
advances over exactly `pre`. -/
theorem matchInsensitive_spec (input rest str : Str) (pos : Nat) (h : restAt input pos = some rest) :
    (∃ pre post, rest = pre ++ post ∧ bLen pre = bLen str ∧ pre.map asciiLower = str.map asciiLower ∧
        posMatchInsensitive input pos str = some (true, pos + bLen pre) ∧
        isBoundary input (pos + bLen pre) = true) ∨
    ((¬ ∃ pre post, rest = pre ++ post ∧ bLen pre = bLen str ∧ pre.map asciiLower = str.map asciiLower) ∧
        posMatchInsensitive input pos str = some (false, pos)) := by
  unfold posMatchInsensitive
  rw [h]
  simp only []
  cases hs : splitAt? rest (bLen str) with
  | none =>
    right
    refine ⟨?_, rfl⟩
    rintro ⟨pre, post, hr, hb, -⟩
    rw [(splitAt_iff rest pre post (bLen str)).2 ⟨hr, hb⟩] at hs
    cases hs
  | some p =>
    obtain ⟨pre, post⟩ := p
    obtain ⟨hr, hb⟩ := splitAt_some hs
    by_cases he : eqIgnoreAsciiCase pre str = true
    · left
      refine ⟨pre, post, hr, hb, by simpa [eqIgnoreAsciiCase] using he, by simp [he, hb], ?_⟩
      exact restAt_isBoundary (restAt_advance h hr)
    · right
      refine ⟨?_, by simp [he]⟩
      rintro ⟨pre', post', hr', hb', hm⟩
      have h2 := (splitAt_iff rest pre' post' (bLen str)).2 ⟨hr', hb'⟩
      rw [hs] at h2
      obtain ⟨rfl, rfl⟩ : pre = pre' ∧ post = post' := by simpa using h2
      exact he (by simpa [eqIgnoreAsciiCase] using hm)

/-- ASCII case folding changes only the 26 ASCII letters. -/
theorem asciiLower_spec (c : Char) :
    asciiLower c = (if 'A' ≤ c ∧ c ≤ 'Z' then Char.ofNat (c.toNat + 32) else c) ∧
    (c.toNat ≥ 128 → asciiLower c = c) := by
  refine ⟨rfl, fun hc => ?_⟩
  unfold asciiLower
  rw [if_neg]
  rintro ⟨-, h2⟩
  have h3 := Char.le_def.1 h2
  rw [UInt32.le_iff_toNat_le] at h3
  have h4 : ('Z' : Char).val.toNat = 90 := by decide
  rw [h4] at h3
  have : c.toNat ≤ 90 := h3
  omega

/-- `match_range` is inclusive at both ends and advances over exactly one character. -/
theorem matchRange_spec (input rest : Str) (pos : Nat) (a b : Char) (h : restAt input pos = some rest) :
    posMatchRange input pos a b =
      some (match rest with
        | [] => (false, pos)
        | c :: _ => if a ≤ c ∧ c ≤ b then (true, pos + cLen c) else (false, pos)) := by
  unfold posMatchRange
  cases rest with
  | nil => show _ = some (false, pos); rw [h]
  | cons c cs =>
    show _ = some (if _ then (true, pos + cLen c) else (false, pos))
    rw [h]; simp only []; split <;> rfl

/-- `match_char_by` advances over exactly one character satisfying the predicate. -/
theorem matchCharBy_spec (input rest : Str) (pos : Nat) (cs : CharSet) (h : restAt input pos = some rest) :
    posMatchCharBy input pos cs =
      some (match rest with
        | [] => (false, pos)
        | c :: _ => if cs.mem c then (true, pos + cLen c) else (false, pos)) := by
  unfold posMatchCharBy
  cases rest with
  | nil => show _ = some (false, pos); rw [h]
  | cons c cs =>
    show _ = some (if _ then (true, pos + cLen c) else (false, pos))
    rw [h]; simp only []; split <;> rfl

/-- `skip(n)` advances over exactly `n` characters, or fails without moving. -/
theorem skip_spec (input rest : Str) (pos n : Nat) (h : restAt input pos = some rest) :
    posSkip input pos n =
      some (if n ≤ rest.length then (true, pos + bLen (rest.take n)) else (false, pos)) ∧
    (n ≤ rest.length → isBoundary input (pos + bLen (rest.take n)) = true) := by
  unfold posSkip
  rw [h]
  simp only []
  refine ⟨by split <;> rfl, fun _ => ?_⟩
  exact restAt_isBoundary (restAt_advance h (List.take_append_drop n rest).symm)

/-- `skip_until` (basic search): stops at the first boundary strictly before the end of input
where one of the strings matches, otherwise at the end of input. -/
theorem skipUntil_spec (input rest : Str) (pos : Nat) (strs : List Str) (h : restAt input pos = some rest) :
    ∃ skipped rest', rest = skipped ++ rest' ∧
      posSkipUntil false input pos strs = some (pos + bLen skipped) ∧
      isBoundary input (pos + bLen skipped) = true ∧
      (rest' ≠ [] → strs.any (·.isPrefixOf rest') = true) ∧
      (∀ k, k < skipped.length → strs.any (·.isPrefixOf (rest.drop k)) = false) := by
  obtain ⟨sk, r', hr, h1, h2, h3⟩ := skipUntilBasicGo_spec strs rest pos
  refine ⟨sk, r', hr, ?_, restAt_isBoundary (restAt_advance h hr), h2, h3⟩
  unfold posSkipUntil
  rw [h]
  simp [h1]

/-- A non-empty string can only match where the first byte of the next character equals its own
first byte — the fact that makes the `memchr` candidate filter lossless. -/
theorem isPrefixOf_leadByte (a c : Char) (as cs : Str) (h : (a :: as).isPrefixOf (c :: cs) = true) :
    leadByte c = leadByte a := by
  rw [isPrefixOf_cons_head h]

/-- **The `memchr`-accelerated search and the basic search stop at the same position**, for every
list of strings (any number, empty strings included), input and start position. -/
theorem skipUntil_memchr_eq_basic (input : Str) (pos : Nat) (strs : List Str) :
    posSkipUntil true input pos strs = posSkipUntil false input pos strs := by
  unfold posSkipUntil
  cases hr : restAt input pos with
  | none => rfl
  | some rest =>
    simp only [Bool.not_true, Bool.not_false, Bool.false_eq_true, if_false, if_true]
    match strs with
    | [] => simp only [skipUntilBasicGo_nil]
    | [s1] => simp only [memmemGo_eq_basic]
    | [s1, s2] =>
      cases s1 with
      | nil => rfl
      | cons a as =>
        cases s2 with
        | nil => rfl
        | cons b bs =>
          simp only []
          rw [memchrGo_eq_basic _ _ _ _ (by simp)]
    | [s1, s2, s3] =>
      cases s1 with
      | nil => rfl
      | cons a as =>
        cases s2 with
        | nil => rfl
        | cons b bs =>
          cases s3 with
          | nil => rfl
          | cons c cs =>
            simp only []
            rw [memchrGo_eq_basic _ _ _ _ (by simp)]
    | _ :: _ :: _ :: _ :: _ => rfl

/-- `stack_match_peek_slice`: Rust slice semantics with negative indices; an out-of-range index
fails; an empty range succeeds without moving; otherwise the selected strings are matched one
after another (in the requested direction); the stack is never modified. -/
theorem peekSlice_spec (cfg : Cfg) (fuel : Nat) (start : Int) (stop : Option Int) (dir : MatchDir)
    (s : PState) :
    run cfg (fuel + 1) (.stackMatchPeekSlice start stop dir) s =
      match constrainIdxs start stop s.stack.cache.length with
      | none => .err s
      | some (a, b) =>
        if b ≤ a then .ok s else
        let sl := (s.stack.cache.reverse.drop a).take (b - a)
        match matchAll s.input (match dir with | .bottomToTop => sl | .topToBottom => sl.reverse) s.pos with
        | none => .panic
        | some (true, pos') => .ok { s with pos := pos' }
        | some (false, _) => .err s := rfl

/-- `normalize_index` is Rust's slice indexing with negative indices counting from the top. -/
theorem normalizeIndex_spec (i : Int) (len : Nat) :
    normalizeIndex i len =
      (if 0 ≤ i ∧ i ≤ len then some i.toNat
       else if i < 0 ∧ 0 ≤ (len : Int) + i then some ((len : Int) + i).toNat else none) := by
  unfold normalizeIndex
  by_cases h1 : i > (len : Int)
  · have a1 : ¬ (0 ≤ i ∧ i ≤ len) := by omega
    have a2 : ¬ (i < 0 ∧ 0 ≤ (len : Int) + i) := by omega
    rw [if_pos h1, if_neg a1, if_neg a2]
  · rw [if_neg h1]
    by_cases h2 : i ≥ 0
    · have a1 : 0 ≤ i ∧ i ≤ len := by omega
      rw [if_pos h2, if_pos a1]
    · have a1 : ¬ (0 ≤ i ∧ i ≤ len) := by omega
      rw [if_neg h2, if_neg a1]
      by_cases h3 : (len : Int) + i ≥ 0
      · have a2 : i < 0 ∧ 0 ≤ (len : Int) + i := by omega
        simp only [if_pos h3, if_pos a2]
      · have a2 : ¬ (i < 0 ∧ 0 ≤ (len : Int) + i) := by omega
        simp only [if_neg h3, if_neg a2]

/-- `matchAll` succeeds iff the concatenation of the strings is a prefix of the remaining input,
and then advances by its byte length. -/
theorem matchAll_spec (input rest : Str) (pos : Nat) (xs : List Str) (h : restAt input pos = some rest) :
    ∃ b pos', matchAll input xs pos = some (b, pos') ∧
      (b = true ↔ xs.flatten.isPrefixOf rest = true) ∧ (b = true → pos' = pos + bLen xs.flatten) := by
  exact matchAll_spec' input rest pos xs h

end PestModel.C03
