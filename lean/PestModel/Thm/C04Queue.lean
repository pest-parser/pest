import PestModel.Model.ViewsSpec
import PestModel.Lemmas.ViewsQueue
import PestModel.Lemmas.PStateInv
/-!
# C04 — the token stream is a well-formed tree … (part 2: every parse yields a well-formed stream)

Property theorems only; helper lemmas in `PestModel/Lemmas/ViewsQueue.lean` and `PStateInv*.lean`.
-/
namespace PestModel.C04
open PestModel.Views PestModel.PS PestModel.LineCol

/-- **Every run of any call tree from a fresh parser state — successful or not — leaves a token
queue that is the encoding of a forest**: start/end tokens are balanced and properly nested with
matching indices; and the spans nest: positions never decrease in stream order, lie on
UTF-8 boundaries inside the input (at most the final position), each pair's span contains its
children's and siblings do not overlap. -/
theorem parse_queue_wf (cfg : Cfg) (fuel : Nat) (p : Prog) (input : Str) (limit : Option Nat)
    (detail : Bool) (s' : PState)
    (h : (run cfg fuel p (PState.new input limit detail)).state? = some s') :
    ∃ forest, Encodes s'.queue 0 s'.queue.length forest ∧ nestedForest input 0 s'.pos forest = true := by
  have hx := run_ext cfg fuel p _ s' h (new_wf' input limit detail).1
  obtain ⟨forest, hl, hn⟩ := hx.layout
  exact ⟨forest, encodes_iff.2 hl, hn⟩

/-- What `pest::state` hands to `pairs::new` on success is therefore a valid `Pairs` over the whole
queue (no panic in `pairs::new`, the count is the number of top-level pairs). -/
theorem parse_pairs_new (cfg : Cfg) (fuel : Nat) (p : Prog) (input : Str) (limit : Option Nat)
    (detail : Bool) (s' : PState)
    (h : run cfg fuel p (PState.new input limit detail) = .ok s') :
    ∃ forest, Pairs.new s'.queue 0 s'.queue.length = some ⟨0, s'.queue.length, forest.length⟩ ∧
      PairsRep s'.queue ⟨0, s'.queue.length, forest.length⟩ forest := by
  have hx := run_ext cfg fuel p _ s' (by rw [h]; rfl) (new_wf' input limit detail).1
  obtain ⟨forest, hl, -⟩ := hx.layout
  exact ⟨forest, pairs_new_of_layout hl, encodes_iff.2 hl, rfl⟩

end PestModel.C04
