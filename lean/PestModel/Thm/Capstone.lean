import PestModel.Thm.EndToEnd
import PestModel.Thm.C18
import PestModel.Gen.JsonGrammar
import PestModel.Gen.MetaGrammar
import PestModel.Thm.C14
import PestModel.Lemmas.Capstone
/-!
# Capstones on the two grammars that ship compiled: `json.pest` (C18) and `grammar.pest` (C14)

Both grammars are REGENERATED into Lean values on every run (`PestModel.Gen.Json`, `PestModel.Gen.Meta`:
the rules as read by the real front-end and the real optimizer's output), so these theorems are
re-checked against what the source says now. They instantiate the end-to-end composition
(`PestModel.E2E`) — and for JSON compose it with C18's `json_iff` — so that the statement is about the
back-end models directly: the VM model and the generated-parser model accept exactly the RFC 8259 texts,
with exactly the RFC document tree as pairs.
-/
namespace PestModel.Capstone
open PestModel.G PestModel.PS PestModel.Lower PestModel.Ref
open PestModel.LineCol (Str)

/-- `json.pest` with the real optimizer's output satisfies every hypothesis of the end-to-end theorems
(accepted by the validator model, stack-free, untagged, `list` pass idle, Lean optimizer = real optimizer). -/
theorem json_accepted : PestModel.E2E.Accepted false PestModel.Gen.Json.rules PestModel.Gen.Json.optimized where
  nodup := nodup_of_byteCode (by decide +kernel)
  notAny := by decide +kernel
  stackFree := by decide +kernel
  noTag := by decide +kernel
  valid := by decide +kernel
  optimized := PestModel.C14.json_optimize_eq
  listIdle := PestModel.C14.json_untouched_by_lister.trans PestModel.C14.json_optimize_eq
  small := by decide +kernel

/-- the reference result of rule `json` is the RFC's. -/
theorem json_means (uni : String → Option CharSet) (input : Str) :
    Means PestModel.Gen.Json.rules false uni "json" input
      (match PestModel.Json.jsonText input with
       | some t => .ok ⟨PestModel.LineCol.bLen input, []⟩ [PestModel.C18.toTree t]
       | none => .fail) := by
  obtain ⟨n, hn⟩ := PestModel.C18.json_iff uni input
  refine means_of_meaning hn ?_
  cases PestModel.Json.jsonText input <;> simp

/-- **The VM (model) on `json.pest` accepts exactly RFC 8259 JSON, with exactly the RFC tree.** -/
theorem json_vm_conforms (uni : String → Option CharSet) (memchr detail : Bool) (input : Str) :
    ∃ fuel, match PestModel.C01.vmParse PestModel.Gen.Json.optimized uni memchr detail fuel "json" input with
      | .ok st => ∃ t, PestModel.Json.jsonText input = some t ∧ st.queue = PestModel.Views.build [PestModel.C18.toTree t]
      | .err _ => PestModel.Json.jsonText input = none
      | .panic => False
      | .fuel => False := by
  obtain ⟨r, fuel, hm, hv⟩ := PestModel.E2E.accepted_grammar_parses_as_documented false _ _ json_accepted uni
    memchr detail "json" input
  obtain rfl := means_det hm (json_means uni input)
  refine ⟨fuel, ?_⟩
  revert hv
  cases PestModel.Json.jsonText input <;>
    cases PestModel.C01.vmParse PestModel.Gen.Json.optimized uni memchr detail fuel "json" input <;> intro hv
  case some.ok t st =>
    obtain ⟨forest, hb, he⟩ := hv
    exact ⟨t, rfl, by rw [← hb, (Res.ok.inj he).2]⟩
  case none.ok st => obtain ⟨_, _, he⟩ := hv; cases he
  case none.err => rfl
  -- in the other cases the VM's outcome and the RFC's verdict contradict each other in `hv`
  all_goals first | exact hv | cases hv

/-- **… and so does the generated parser (model)**: it terminates with the VM's report. -/
theorem json_generated_conforms (uni : String → Option CharSet) (memchr detail : Bool) (input : Str) :
    ∃ fuel, match PestModel.C02.parseWith .gen PestModel.Gen.Json.optimized uni memchr detail fuel "json" input with
      | .ok st => ∃ t, PestModel.Json.jsonText input = some t ∧ st.queue = PestModel.Views.build [PestModel.C18.toTree t]
      | .err _ => PestModel.Json.jsonText input = none
      | .panic => False
      | .fuel => False := by
  obtain ⟨fv, hvm⟩ := json_vm_conforms uni memchr detail input
  have h := json_accepted
  have hv : PestModel.C01.vmParse PestModel.Gen.Json.optimized uni memchr detail fv "json" input ≠ .fuel :=
    fun hf => by rw [hf] at hvm; exact hvm
  obtain ⟨fg, oe⟩ := PestModel.GenVm.agree_out (env := { rules := PestModel.Gen.Json.optimized, uni })
    (memchr := memchr) (PestModel.GenVm.rulesOK_of_optimized false _ h.isOptimized h.tagsExtras h.small h.tagPlain)
    "json" input detail fv hv
  refine ⟨fg, ?_⟩
  change PestModel.GenVm.OEq (PestModel.C01.vmParse PestModel.Gen.Json.optimized uni memchr detail fv "json" input)
    (PestModel.C02.parseWith .gen PestModel.Gen.Json.optimized uni memchr detail fg "json" input) at oe
  -- related outcomes have the same constructor and the same queue
  revert hvm
  exact oe.1.elim (fun a b hs ⟨t, ht, hq⟩ => ⟨t, ht, by rw [hs.queue, hq]⟩) (fun _ _ _ h => h) id id

/-- `grammar.pest` (the meta-grammar) with the real optimizer's output satisfies the hypotheses too. -/
theorem meta_accepted : PestModel.E2E.Accepted false PestModel.Gen.Meta.rules PestModel.Gen.Meta.optimized where
  nodup := nodup_of_byteCode (by decide +kernel)
  notAny := by decide +kernel
  stackFree := by decide +kernel
  noTag := by decide +kernel
  valid := by decide +kernel
  optimized := PestModel.C14.meta_optimize_eq
  listIdle := PestModel.C14.meta_untouched_by_lister.trans PestModel.C14.meta_optimize_eq
  small := by decide +kernel

/-- **The bootstrap, on the model**: for every rule of `grammar.pest` and every text, the VM model run on
the optimizer's output terminates with exactly the result the documented semantics assign to
`grammar.pest` as written. -/
theorem meta_vm_conforms (uni : String → Option CharSet) (memchr detail : Bool) (name : String) (input : Str) :
    ∃ (r : Res) (fuel : Nat), Means PestModel.Gen.Meta.rules false uni name input r ∧
      match PestModel.C01.vmParse PestModel.Gen.Meta.optimized uni memchr detail fuel name input with
      | .ok st => ∃ forest, PestModel.Views.build forest = st.queue ∧ r = .ok ⟨st.pos, st.stack.cache⟩ forest
      | .err _ => r = .fail
      | .panic => r = .stuck
      | .fuel => False :=
  PestModel.E2E.accepted_grammar_parses_as_documented false _ _ meta_accepted uni memchr detail name input

/-- … and the generated-parser model terminates on `grammar.pest` too, with the VM's report. -/
theorem meta_generated_agrees (uni : String → Option CharSet) (memchr detail : Bool) (name : String) (input : Str) :
    ∃ fv fg, PestModel.C02.parseWith .vm PestModel.Gen.Meta.optimized uni memchr detail fv name input ≠ .fuel ∧
      PestModel.C02.parseWith .gen PestModel.Gen.Meta.optimized uni memchr detail fg name input ≠ .fuel ∧
      PestModel.C02.outcome (PestModel.C02.parseWith .vm PestModel.Gen.Meta.optimized uni memchr detail fv name input) =
        PestModel.C02.outcome (PestModel.C02.parseWith .gen PestModel.Gen.Meta.optimized uni memchr detail fg name input) :=
  PestModel.E2E.accepted_grammar_generated_parser_agrees false _ _ meta_accepted uni memchr detail name input

/-- **A text that is not a grammar is rejected with a position inside the text** (C09's "located errors", for the parse stage):
when the VM model of the bootstrapped meta-parser fails on a text, under any start rule of `grammar.pest`, its error position is
a UTF-8 boundary of that text (C08 `error_position_inside` on the regenerated, really-optimized meta-grammar). -/
theorem meta_error_located (uni : String → Option CharSet) (memchr detail : Bool) (fuel : Nat) (name : String) (input : Str)
    (st : PState) (h : PestModel.C01.vmParse PestModel.Gen.Meta.optimized uni memchr detail fuel name input = .err st) :
    PestModel.LineCol.isBoundary input st.attemptPos = true :=
  PestModel.C08.error_position_inside false _ meta_accepted.isOptimized meta_accepted.tagRules meta_accepted.small
    uni memchr detail fuel name input st h

/-- **The bootstrapped meta-parser (VM model) never panics**: `grammar.pest` only mentions its own rules and built-ins that cannot
get stuck, so for every one of its rules as start rule and every text the VM model ends with pairs or with an error — the parse
stage of C09's "never panics", for the model of the parser that `parse_and_optimize` runs first. -/
theorem meta_vm_never_panics (uni : String → Option CharSet) (memchr detail : Bool) (name : String)
    (hn : (PestModel.Gen.Meta.rules.map (·.name)).contains name = true) (input : Str) :
    ∃ fuel, match PestModel.C01.vmParse PestModel.Gen.Meta.optimized uni memchr detail fuel name input with
      | .ok _ => True
      | .err _ => True
      | .panic => False
      | .fuel => False :=
  PestModel.E2E.accepted_closed_grammar_never_panics false _ _ meta_accepted (by decide +kernel) uni memchr detail name hn input

end PestModel.Capstone
