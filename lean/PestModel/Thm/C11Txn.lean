import PestModel.Thm.C11
import PestModel.Lemmas.StackBalanced
/-!
# C11 — transactions: `snapshot; body; restore` is a no-op, `snapshot; body; clear_snapshot` is the body

Corollaries of `C11.run_refines` for *every* prefix history and *every* balanced body (nested
transactions at any depth, pops below the snapshot line, re-pushes): the statement the parser
relies on when it backtracks (`restore_on_err`, lookaheads) — stated on the model of `pest::Stack`,
not on the naive stack.
-/
namespace PestModel.C11
open PestModel.Stack
variable {α : Type}

theorem naive_run_append (n : Naive α) (a b : List (Op α)) :
    Naive.run n (a ++ b) =
      ((Naive.run (Naive.run n a).1 b).1, (Naive.run n a).2 ++ (Naive.run (Naive.run n a).1 b).2) :=
  Naive.run_append n a b

/-- A balanced body leaves the saved copies of the naive stack untouched. -/
theorem naive_balanced_saved (b : List (Op α)) (hb : Balanced b) (n : Naive α) :
    (Naive.run n b).1.saved = n.saved := by
  obtain ⟨c, os, h⟩ := naive_balanced b hb n.cur
  exact congrArg (·.1.saved) (h n.saved)

/-- On the specification an aborted transaction restores the *whole* state, saved copies included. -/
theorem naive_abort_state (n : Naive α) (b : List (Op α)) (hb : Balanced b) :
    (Naive.run n (.snapshot :: b ++ [.restore])).1 = n := by
  obtain ⟨c, os, h⟩ := naive_balanced b hb n.cur
  rw [naive_run_append]
  simp only [Naive.run, Naive.step, h]

/-- **Abort is a no-op on the contents.** After any history `h`, `snapshot; b; restore` with `b`
any balanced body (nested transactions, pops below the snapshot line, re-pushes) does not panic and
leaves exactly the contents `h` left. -/
theorem transaction_abort (h b : List (Op α)) (hb : Balanced b) :
    ∃ s s', run Stk.new h = some s ∧
      run Stk.new (h ++ .snapshot :: b ++ [.restore]) = some s' ∧ s'.1.cache = s.1.cache := by
  obtain ⟨s, hs, hc⟩ := run_refines h
  obtain ⟨s', hs', hc'⟩ := run_refines (h ++ .snapshot :: b ++ [.restore])
  refine ⟨_, _, hs, hs', ?_⟩
  rw [hc, hc', List.append_assoc, naive_run_append, naive_abort_state _ b hb]

/-- A balanced body computes its contents from the contents alone: the saved copies that were
there before it are never read. -/
theorem naive_balanced_cur (b : List (Op α)) (hb : Balanced b) (cur : List α) (sv sv' : List (List α)) :
    (Naive.run ⟨cur, sv⟩ b).1.cur = (Naive.run ⟨cur, sv'⟩ b).1.cur := by
  obtain ⟨c, os, h⟩ := naive_balanced b hb cur
  rw [h, h]

/-- **Commit keeps the body's effect.** `snapshot; b; clearSnapshot` leaves the contents that
`b` alone would have left after `h`. -/
theorem transaction_commit (h b : List (Op α)) (hb : Balanced b) :
    ∃ s s', run Stk.new (h ++ b) = some s ∧
      run Stk.new (h ++ .snapshot :: b ++ [.clearSnapshot]) = some s' ∧ s'.1.cache = s.1.cache := by
  obtain ⟨s, hs, hc⟩ := run_refines (h ++ b)
  obtain ⟨s', hs', hc'⟩ := run_refines (h ++ .snapshot :: b ++ [.clearSnapshot])
  refine ⟨_, _, hs, hs', ?_⟩
  rw [hc, hc', List.append_assoc, naive_run_append _ h, naive_run_append _ h, naive_commit _ b hb]

/-- Non-vacuity: a nested body (an inner aborted transaction that pops below both snapshot lines,
then an inner committed one) is balanced. -/
example : Balanced ([.pop, .snapshot, .pop, .pop, .push 7, .restore, .snapshot, .push 8,
    .clearSnapshot, .peek] : List (Op Nat)) :=
  .pop (@Balanced.abort _ [.pop, .pop, .push 7] _ (.pop (.pop (.push 7 .nil)))
    (@Balanced.commit _ [.push 8] _ (.push 8 .nil) (.peek .nil)))

theorem naive_run_out_length (n : Naive α) (ops : List (Op α)) :
    (Naive.run n ops).2.length = ops.length := by
  induction ops generalizing n with
  | nil => rfl
  | cons op ops ih => simp [Naive.run, ih]

/-- **An aborted transaction is invisible to every future.** For every prefix history `h`, balanced
body `b` and continuation `k` (arbitrary: it may restore or clear snapshots opened in `h`), running
`k` after `h; snapshot; b; restore` does not panic, returns from every `pop`/`peek` of `k` what it
returns after `h` alone, and ends with the same contents. -/
theorem transaction_abort_future (h b k : List (Op α)) (hb : Balanced b) :
    ∃ s s' oh ot ok, run Stk.new (h ++ k) = some (s, oh ++ ok) ∧
      run Stk.new (h ++ (.snapshot :: b ++ [.restore]) ++ k) = some (s', oh ++ ot ++ ok) ∧
      oh.length = h.length ∧ ot.length = b.length + 2 ∧ ok.length = k.length ∧
      s'.cache = s.cache := by
  obtain ⟨s, hs, hc⟩ := run_refines (h ++ k)
  obtain ⟨s', hs', hc'⟩ := run_refines (h ++ (.snapshot :: b ++ [.restore]) ++ k)
  rw [naive_run_append] at hs hc
  rw [naive_run_append, naive_run_append] at hs' hc'
  rw [naive_abort_state _ b hb] at hs' hc'
  refine ⟨s, s', _, _, _, hs, hs', naive_run_out_length _ _, ?_, naive_run_out_length _ _, ?_⟩
  · rw [naive_run_out_length]; simp
  · rw [hc, hc']

/-- A balanced body's `pop`/`peek` results do not depend on the saved copies that were there before it. -/
theorem naive_balanced_out (b : List (Op α)) (hb : Balanced b) (cur : List α) (sv sv' : List (List α)) :
    (Naive.run ⟨cur, sv⟩ b).2 = (Naive.run ⟨cur, sv'⟩ b).2 := by
  obtain ⟨c, os, h⟩ := naive_balanced b hb cur
  rw [h, h]

/-- On the specification a committed transaction ends in the state its body alone ends in. -/
theorem naive_commit_state (n : Naive α) (b : List (Op α)) (hb : Balanced b) :
    (Naive.run n (.snapshot :: b ++ [.clearSnapshot])).1 = (Naive.run n b).1 := by
  rw [naive_commit n b hb]

/-- **A committed transaction is its body, for every future.** For every prefix history `h`,
balanced body `b` and arbitrary continuation `k`: `h; snapshot; b; clear_snapshot; k` does not panic,
and the `pop`/`peek` results of `b` and of `k` and the final contents are those of `h; b; k`. -/
theorem transaction_commit_future (h b k : List (Op α)) (hb : Balanced b) :
    ∃ s s' oh ob ok, run Stk.new (h ++ b ++ k) = some (s, oh ++ ob ++ ok) ∧
      run Stk.new (h ++ (.snapshot :: b ++ [.clearSnapshot]) ++ k)
        = some (s', oh ++ (.unit :: ob ++ [.unit]) ++ ok) ∧
      oh.length = h.length ∧ ob.length = b.length ∧ ok.length = k.length ∧
      s'.cache = s.cache := by
  obtain ⟨s, hs, hc⟩ := run_refines (h ++ b ++ k)
  obtain ⟨s', hs', hc'⟩ := run_refines (h ++ (.snapshot :: b ++ [.clearSnapshot]) ++ k)
  rw [naive_run_append, naive_run_append] at hs hc
  rw [naive_run_append, naive_run_append] at hs' hc'
  rw [naive_commit _ b hb] at hs' hc'
  exact ⟨s, s', _, _, _, hs, hs', naive_run_out_length _ _, naive_run_out_length _ _,
    naive_run_out_length _ _, by rw [hc, hc']⟩

theorem absSaved_length (cur popped : List α) (ls : List (Nat × Nat)) :
    (absSaved cur popped ls).length = ls.length := by
  induction ls generalizing cur popped with
  | nil => rfl
  | cons p ls ih => obtain ⟨len, rem⟩ := p; simp [absSaved, ih]

/-- **No bookkeeping leaks.** After every history the real stack holds exactly one `(len, remained)`
pair per open snapshot of the specification, and once no snapshot is open (every transaction
committed or aborted) the `popped` side vector is empty again — whatever happened inside. -/
theorem bookkeeping_no_leak (ops : List (Op α)) :
    ∃ s os, run Stk.new ops = some (s, os) ∧
      s.lengths.length = (Naive.run Naive.new ops).1.saved.length ∧
      ((Naive.run Naive.new ops).1.saved = [] → s.popped = [] ∧ s.lengths = []) := by
  obtain ⟨s, h1, hi, h3⟩ := run_refines_from (Stk.new : Stk α) ops inv_init
  have e : abs (Stk.new : Stk α) = Naive.new := rfl
  rw [e] at h1 h3
  have hl : s.lengths.length = (Naive.run Naive.new ops).1.saved.length := by
    rw [← h3]; simp [abs, absSaved_length]
  refine ⟨s, _, h1, hl, ?_⟩
  intro hs
  rw [hs] at hl
  have hn : s.lengths = [] := List.eq_nil_of_length_eq_zero hl
  have hp : StkInvL s.cache.length s.popped.length s.lengths := hi
  rw [hn] at hp
  exact ⟨List.eq_nil_of_length_eq_zero hp, hn⟩

/-- In particular a balanced history from the empty stack leaves no bookkeeping behind. -/
theorem balanced_no_leak (b : List (Op α)) (hb : Balanced b) :
    ∃ s os, run Stk.new b = some (s, os) ∧ s.popped = [] ∧ s.lengths = [] := by
  obtain ⟨s, os, h1, -, h3⟩ := bookkeeping_no_leak b
  exact ⟨s, os, h1, h3 (naive_balanced_saved b hb Naive.new)⟩

end PestModel.C11
