import PestModel.Model.PStateSpec
import PestModel.Lemmas.PStateInv
import PestModel.Lemmas.PStateStackReaders
/-!
# C03 — parser-state combinators are all-or-nothing and match exactly (part 1: combinators)

Property theorems only; helper lemmas in `PestModel/Lemmas/PStateInv*.lean`, `PStateStackReaders.lean`.
`run` is the executable model of `pest::ParserState` (every public operation; Rust panics are the
outcome `panic`, model fuel exhaustion is `fuel`). All theorems hold for every program, input,
fuel and call limit, with and without `memchr`, and all but `run_no_panic` for either error-detail setting.
-/
namespace PestModel.C03
open PestModel.PS PestModel.LineCol PestModel.Stack

/-- The initial state is well formed. -/
theorem new_wf (input : Str) (limit : Option Nat) (detail : Bool) : (PState.new input limit detail).WF := by
  exact new_wf' input limit detail

/-- Well-formedness (boundary position, stack invariant) is preserved by every program; the input,
the look-ahead mode and the atomicity are the same after the call as before. -/
theorem run_wf (cfg : Cfg) (fuel : Nat) (p : Prog) (s s' : PState) (hwf : s.WF)
    (h : (run cfg fuel p s).state? = some s') :
    s'.WF ∧ s'.input = s.input ∧ s'.lookahead = s.lookahead ∧ s'.atomicity = s.atomicity := by
  have r := run_rel cfg fuel p s s' h
  exact ⟨r.wf hwf, r.input, r.la, r.atom⟩

/-- Snapshot discipline: every program leaves the saved snapshots of the stack exactly as they were
(each combinator that takes a snapshot clears or restores it). -/
theorem run_saved (cfg : Cfg) (fuel : Nat) (p : Prog) (s s' : PState) (hwf : s.WF)
    (h : (run cfg fuel p s).state? = some s') :
    (Stack.abs s'.stack).saved = (Stack.abs s.stack).saved := by
  exact ((run_rel cfg fuel p s s' h).stk hwf.2).2

/-- Tokens already in the queue are never removed or altered by a program, except that the tag of
the very last one may be set (by `tag_node`). -/
theorem run_queue (cfg : Cfg) (fuel : Nat) (p : Prog) (s s' : PState)
    (h : (run cfg fuel p s).state? = some s') :
    s.queue.length ≤ s'.queue.length ∧
    s'.queue.take (s.queue.length - 1) = s.queue.take (s.queue.length - 1) ∧
    (s'.queue.take s.queue.length).map QTok.eraseTag = s.queue.map QTok.eraseTag := by
  have r := run_rel cfg fuel p s s' h
  exact ⟨r.q.length, r.q.take_pred, r.q.take_erase⟩

/-- Inside look-ahead no token is emitted, removed or tagged. -/
theorem run_queue_lookahead (cfg : Cfg) (fuel : Nat) (p : Prog) (s s' : PState)
    (hla : s.lookahead ≠ .none) (h : (run cfg fuel p s).state? = some s') : s'.queue = s.queue := by
  exact (run_rel cfg fuel p s s' h).qla hla

/-- **A failed sequence leaves the position, the emitted tokens and the stack exactly as they were.** -/
theorem sequence_err_restores (cfg : Cfg) (fuel : Nat) (p : Prog) (s s' : PState) (hwf : s.WF)
    (h : run cfg fuel (.sequence p) s = .err s') :
    s'.pos = s.pos ∧ s'.queue = s.queue ∧ stackEq s'.stack s.stack := by
  exact sequence_err_restores' cfg fuel p s s' hwf h

/-- **Any look-ahead, whether it succeeds or fails, leaves position, tokens, stack and the
look-ahead mode exactly as they were.** -/
theorem lookahead_restores (cfg : Cfg) (fuel : Nat) (positive : Bool) (p : Prog) (s s' : PState)
    (hwf : s.WF) (h : (run cfg fuel (.lookahead positive p) s).state? = some s') :
    s'.pos = s.pos ∧ s'.queue = s.queue ∧ stackEq s'.stack s.stack ∧ s'.lookahead = s.lookahead := by
  exact lookahead_restores' cfg fuel positive p s s' hwf h

/-- **A rule that succeeds outside look-ahead and atomic mode emits one balanced start/end pair
around what its body emitted and consumed** (matching indices, start position = position at entry,
end position = position at exit). -/
theorem rule_ok_emits (cfg : Cfg) (fuel : Nat) (r : Nat) (p : Prog) (s s' : PState)
    (hla : s.lookahead = .none) (hat : s.atomicity ≠ .atomic)
    (h : run cfg fuel (.rule r p) s = .ok s') :
    ∃ inner, s'.queue = s.queue ++ [.start (s.queue.length + 1 + inner.length) s.pos] ++ inner ++
      [.end_ s.queue.length r none s'.pos] := by
  cases fuel with
  | zero => rw [run_zero] at h; cases h
  | succ fuel =>
    rw [run_rule] at h
    rcases wrap_inv cfg fuel h rfl with ⟨-, e⟩ | ⟨s1, ns, hic, ⟨hb, e⟩ | ⟨hb, e⟩⟩
    · cases e
    · obtain ⟨c, rfl⟩ := incCall_some hic
      obtain ⟨-, a, b, c', pa', q', rfl, -, h1, -⟩ := ruleOkPost_spec (run_ok_rel hb) (by rw [e]; rfl)
      obtain ⟨inner, -, rfl⟩ := h1 ⟨hla, hat⟩
      exact ⟨inner, by simp⟩
    · obtain ⟨h1, -⟩ := ruleErrPost_spec (s' := s') (run_err_rel hb) (by rw [e]; rfl)
      rw [e] at h1; cases h1

/-- A rule that fails outside look-ahead and atomic mode leaves the token queue as it was. -/
theorem rule_err_truncates (cfg : Cfg) (fuel : Nat) (r : Nat) (p : Prog) (s s' : PState)
    (hla : s.lookahead = .none) (hat : s.atomicity ≠ .atomic)
    (h : run cfg fuel (.rule r p) s = .err s') : s'.queue = s.queue := by
  cases fuel with
  | zero => rw [run_zero] at h; cases h
  | succ fuel =>
    rw [run_rule] at h
    rcases wrap_inv cfg fuel h rfl with ⟨-, e⟩ | ⟨s1, ns, hic, ⟨hb, e⟩ | ⟨hb, e⟩⟩
    · cases e; rfl
    · obtain ⟨h1, -⟩ := ruleOkPost_spec (s' := s') (run_ok_rel hb) (by rw [e]; rfl)
      rw [e] at h1; cases h1
    · obtain ⟨c, rfl⟩ := incCall_some hic
      obtain ⟨-, a, b, c', pa', q', rfl, -, h1, -⟩ := ruleErrPost_spec (run_err_rel hb) (by rw [e]; rfl)
      exact h1 ⟨hla, hat⟩

/-- In look-ahead or atomic mode a rule adds no token of its own: the queue afterwards is the queue
its body left. -/
theorem rule_silent (cfg : Cfg) (fuel : Nat) (r : Nat) (p : Prog) (s s' : PState)
    (hmode : s.lookahead ≠ .none ∨ s.atomicity = .atomic)
    (h : (run cfg (fuel + 1) (.rule r p) s).state? = some s') :
    s' = s ∨ ∃ s1 ns, s1.queue = s.queue ∧ (run cfg fuel p s1).state? = some ns ∧ s'.queue = ns.queue := by
  rw [run_rule] at h
  rcases wrap_state? cfg fuel h with ⟨-, rfl⟩ | ⟨s1, ns, hic, hb⟩
  · exact .inl rfl
  · obtain ⟨c, rfl⟩ := incCall_some hic
    have hc : ¬ ruleCond { s with calls := c } := fun ⟨h1, h2⟩ => hmode.elim (· h1) h2
    refine .inr ⟨{ s with calls := c }, ns, rfl, ?_⟩
    rcases hb with ⟨hb, h⟩ | ⟨hb, h⟩
    · obtain ⟨-, a, b, c', pa', q', rfl, -, -, h2⟩ := ruleOkPost_spec (run_ok_rel hb) h
      rw [rulePre_of_not hc] at hb
      exact ⟨by rw [hb]; rfl, h2 hc⟩
    · obtain ⟨-, a, b, c', pa', q', rfl, -, -, h2⟩ := ruleErrPost_spec (run_err_rel hb) h
      rw [rulePre_of_not hc] at hb
      exact ⟨by rw [hb]; rfl, h2 hc⟩

/-- `restore_on_err` undoes every stack change of a failed body. -/
theorem restoreOnErr_restores (cfg : Cfg) (fuel : Nat) (p : Prog) (s s' : PState) (hwf : s.WF)
    (h : run cfg fuel (.restoreOnErr p) s = .err s') : stackEq s'.stack s.stack := by
  exact restoreOnErr_restores' cfg fuel p s s' hwf h

/-- `stack_push` pushes exactly the span its body consumed. -/
theorem stackPush_pushes_span (cfg : Cfg) (fuel : Nat) (p : Prog) (s s' : PState)
    (h : run cfg (fuel + 1) (.stackPush p) s = .ok s') :
    ∃ s1 ns str, s1.pos = s.pos ∧ run cfg fuel p s1 = .ok ns ∧ s'.pos = ns.pos ∧
      slice? s'.input s.pos s'.pos = some str ∧ s'.stack.cache = str :: ns.stack.cache := by
  rw [run_stackPush] at h
  split at h
  · cases h
  · rename_i s1 hic
    obtain ⟨c, rfl⟩ := incCall_some hic
    split at h
    · rename_i ns hb
      unfold pushSpan at h
      split at h
      · rename_i str hs
        cases h
        exact ⟨{ s with calls := c }, ns, str, rfl, hb, rfl, hs, rfl⟩
      · cases h
    · rename_i o h1
      exact (h1 s' h).elim

/-- No program that avoids `stack_peek`/`stack_pop` (documented to panic on an empty stack) can
panic with error detail off: every slice, index, `unwrap`, `unreachable!` and `usize` subtraction of
the modelled code is safe on well-formed states. (With error detail on see C15.) -/
theorem run_no_panic (cfg : Cfg) (fuel : Nat) (p : Prog) (s : PState) (hwf : s.WF)
    (hclosed : cfg.closed p) (hnp : cfg.noPeekPop p) (hdet : s.pa.enabled = false) :
    run cfg fuel p s ≠ .panic := by
  exact run_np cfg (fun q hq => ⟨hclosed.2 q hq, hnp.2 q hq⟩) fuel p s ⟨hclosed.1, hnp.1⟩ ⟨hwf, hdet⟩

/-- **The stack readers do not move on failure**: when `PEEK`, `POP`, `PEEK_ALL`, `POP_ALL`, `PEEK[a..b]` or `DROP` fails, the
position is where it was (for `POP_ALL` also when some entries had matched and were popped before the one that did not). -/
theorem stack_readers_err_pos (cfg : Cfg) (fuel : Nat) (p : Prog) (s s' : PState)
    (hp : p = .stackPeek ∨ p = .stackPop ∨ p = .stackMatchPeek ∨ p = .stackMatchPop ∨ p = .stackDrop ∨
      ∃ a b d, p = .stackMatchPeekSlice a b d)
    (h : run cfg (fuel + 1) p s = .err s') : s'.pos = s.pos := by
  rcases hp with rfl | rfl | rfl | rfl | rfl | ⟨a, b, d, rfl⟩
  · simp only [PS.run] at h
    split at h
    · cases h; rfl
    · split at h
      · cases h
      · exact terminal_err_pos _ _ _ _ (fun p hp => posMatchString_false' hp) h
  · simp only [PS.run] at h
    split at h
    · cases h; rfl
    · split at h
      · cases h
      · cases h
      · have := terminal_err_pos _ _ _ _ (fun p hp => posMatchString_false' hp) h
        simpa using this
  · simp only [PS.run] at h
    split at h
    · cases h
    · split at h
      · cases h
      · cases h
      · cases h; rfl
  · simp only [PS.run] at h
    split at h
    · cases h
    · cases h
    · cases h; rfl
  · simp only [PS.run] at h
    split at h
    · cases h
    · cases h
    · cases h; rfl
  · simp only [PS.run] at h
    split at h
    · cases h; rfl
    · split at h
      · cases h
      · split at h
        · cases h
        · cases h
        · cases h; rfl

/-- **`POP_ALL` on success**: the stack is empty and the position has advanced over exactly the texts of the entries, matched one
after the other from the top down (what `PEEK_ALL` matches without popping). -/
theorem stackMatchPop_ok (cfg : Cfg) (fuel : Nat) (s s' : PState) (h : PS.run cfg (fuel + 1) .stackMatchPop s = .ok s') :
    s'.stack.cache = [] ∧ matchAll s.input s.stack.cache s.pos = some (true, s'.pos) := by
  simp only [PS.run] at h
  split at h
  · cases h
  · rename_i st pos' hm
    simp only [Out.ok.injEq] at h
    subst h
    exact matchPopLoop_ok _ _ _ _ _ _ (by omega) hm
  · cases h

end PestModel.C03
