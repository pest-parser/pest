import PestModel.Model.ReaderFull
import PestModel.Thm.C07
import PestModel.Lemmas.ReaderEqns
import PestModel.Lemmas.ReaderStage
import PestModel.Lemmas.ReaderMono
/-!
# C07 (whole reader) — facts about `ReaderFull.consumeRules`

`ReaderFull.readGrammar` is the executable model of `parse(Rule::grammar_rules, _)` followed by
`consume_rules`; it is tied to the real reader by the correspondence run (driver lines `R`/`RX`).
Proved here, about the model:

* `consumeRules_iff`       — `consumeRules` = the syntactic conversion, accepted iff `validate_ast` is silent;
* `consumeExpr_fold`       — the infix stage of `consume_expr` (the `PrattParser` of the reader, through
                             `C07.pratt_rebuilds`) is the fold in which `~` binds tighter than `|` and both
                             group to the left (`fold_groups`: choice-fold of the sequence-folds of the
                             `|`-separated groups); a leading `|` is skipped (`consumeExpr_lead`);
* `unaries_*`              — one lemma per pair kind: the optional tag wraps the whole term (and is dropped
                             without `grammar-extras`), prefix operators apply right to left around the
                             node with its postfix operators, postfix operators apply left to right;
* `consumeExpr_mono`/`unaries_mono`/`consumeRulesGo_mono` — a result obtained with some fuel is obtained
                             with any larger fuel (the fuel only bounds the recursion).

The tokenisation by the meta-grammar itself (spacing, comments) is not covered: that part is the
reference denotation of `Gen.Meta.rules`, compared with the generated parser by C14.
-/
namespace PestModel.C07Full
open PestModel.Reader PestModel.ReaderFull PestModel.G
open PestModel.Views (Tree)
open PestModel.LineCol (Str)

/-- `consume_rules` returns the converted rules exactly when `validate_ast` finds nothing. -/
theorem consumeRules_iff (extras : Bool) (text : Str) (forest : List Tree) (rs : List Rule) :
    consumeRules extras text forest = some rs ↔
      consumeRulesWithSpans extras text forest = some rs ∧ PestModel.V.validateAst extras rs = [] := by
  unfold consumeRules
  rcases consumeRulesWithSpans extras text forest with _ | rules
  · simp
  · simp only [List.isEmpty_iff, Option.ite_none_right_eq_some, Option.some.injEq]
    constructor
    · rintro ⟨h, rfl⟩; exact ⟨rfl, h⟩
    · rintro ⟨rfl, h⟩; exact ⟨h, rfl⟩

/-- without a parse there are no rules. -/
theorem readGrammar_some (extras : Bool) (text : Str) (rs : List Rule) (h : readGrammar extras text = some rs) :
    ∃ st forest, PestModel.Ref.meaning PestModel.Gen.Meta.rules false noUni 1000000 "grammar_rules" text = .ok st forest ∧
      consumeRules extras text forest = some rs := by
  unfold readGrammar at h
  split at h
  · rename_i st forest hm; exact ⟨st, forest, hm, h⟩
  · cases h

/-- the reader's Pratt parser on `term (op term)*` builds `shape ops`. -/
theorem pratt_shape (ops : List Bool) :
    ∃ t, Pratt.parse readerTable (100 :: opToks 1 ops) = .ok (t, []) ∧ ofTree t = some (shape ops) :=
  parse_shape ops

/-- **`consume_expr`**: the same for the function itself (with `term` = `unaries` on the inner pairs). -/
theorem consumeExpr_fold (extras : Bool) (text : Str) (f : Nat) (pairs : List Tree) (t0 : Tree) (ps : List Tree)
    (x0 : Expr) (xs : List (Bool × Expr)) (hd : dropLead pairs = t0 :: ps) (ht : IsTerm t0)
    (h0 : unaries extras text f t0.children = some x0)
    (h : Reads (fun p => unaries extras text f p.children) ps xs) :
    consumeExpr extras text (f + 1) pairs = some (foldGo none x0 xs) := by
  simp only [consumeExpr, consumeExprStep, hd]
  exact infixStage_fold (fun p => unaries extras text f p.children) t0 ps x0 xs ht h0 h

/-- a leading `|` is skipped (at every nesting level: `consumeExpr` is what `unaries` calls for a
parenthesised expression and for `PUSH(…)`). -/
theorem consumeExpr_lead (extras : Bool) (text : Str) (f : Nat) (p : Tree) (pairs : List Tree)
    (hp : kind p = "choice_operator") (hq : ∀ q r, pairs = q :: r → kind q ≠ "choice_operator") :
    consumeExpr extras text (f + 1) (p :: pairs) = consumeExpr extras text (f + 1) pairs := by
  have h1 : dropLead (p :: pairs) = pairs := by simp [dropLead, hp]
  have h2 : dropLead pairs = pairs := by
    cases pairs with
    | nil => rfl
    | cons q r => simp [dropLead, hq q r rfl]
  simp only [consumeExpr, consumeExprStep, h1, h2]

/-! #### `~` binds tighter than `|`, both group to the left -/

/-- a `|`-separated group `y₀ ~ y₁ ~ …`. -/
def seqFold (g : Expr × List Expr) : Expr := g.2.foldl .seq g.1

/-- the `(op, term)` list of the groups after the first one. -/
def flat : List (Expr × List Expr) → List (Bool × Expr)
  | [] => []
  | g :: gs => (true, g.1) :: g.2.map (fun y => (false, y)) ++ flat gs

theorem foldGo_seq (acc : Option Expr) (ys : List Expr) : ∀ (cur : Expr) (rest : List (Bool × Expr)),
    foldGo acc cur (ys.map (fun y => (false, y)) ++ rest) = foldGo acc (ys.foldl .seq cur) rest := by
  induction ys with
  | nil => intro cur rest; rfl
  | cons y r ih => intro cur rest; simp [foldGo, ih]

theorem foldGo_flat (gs : List (Expr × List Expr)) : ∀ (acc : Option Expr) (cur : Expr),
    foldGo acc cur (flat gs) = (gs.map seqFold).foldl .choice (joinE acc cur) := by
  induction gs with
  | nil => intro acc cur; rfl
  | cons g r ih =>
    intro acc cur
    simp only [flat, List.cons_append, foldGo, foldGo_seq, ih]
    simp [joinE, seqFold]

/-- **precedence and associativity**: `g₀ | g₁ | … | gₙ` with `gᵢ = yᵢ₀ ~ yᵢ₁ ~ …` is read as the
left-nested choice of the left-nested sequences. -/
theorem fold_groups (g0 : Expr × List Expr) (gs : List (Expr × List Expr)) :
    foldGo none g0.1 (g0.2.map (fun y => (false, y)) ++ flat gs) = (gs.map seqFold).foldl .choice (seqFold g0) := by
  rw [foldGo_seq, foldGo_flat]; rfl

/-! ### `unaries`: tag, prefix operators, node, postfix operators -/

/-- no `assignment_operator` in second position: the first pair is not a tag. -/
def NoTag (rest : List Tree) : Prop := ∀ q r, rest = q :: r → kind q ≠ "assignment_operator"

theorem getNodeTag_plain (text : Str) (p : Tree) (rest : List Tree) (h : NoTag rest) :
    getNodeTag text (p :: rest) = some (p, rest, none) := by
  cases rest with
  | nil => rfl
  | cons q r => simp [getNodeTag, h q r rfl]

theorem wrapTag_none (extras : Bool) (node : Option Expr) : wrapTag extras node none = node := by
  cases node <;> rfl

/-- an untagged term is read by the dispatch on its first pair. -/
theorem unaries_plain (extras : Bool) (text : Str) (f : Nat) (p : Tree) (rest : List Tree) (h : NoTag rest) :
    unaries extras text (f + 1) (p :: rest) =
      nodeOf extras text (consumeExpr extras text f) (unaries extras text f) p rest := by
  simp [unaries, unariesStep, getNodeTag_plain text p rest h, wrapTag_none]

/-- **the tag wraps the whole term** (prefix and postfix operators included) with `grammar-extras`, and
is dropped without: `#name = term` reads as `term` does, then `NodeTag(_, name)` around it. -/
theorem unaries_tag (extras : Bool) (text : Str) (f : Nat) (tg asg p : Tree) (rest : List Tree) (c : Char) (name : Str)
    (ha : kind asg = "assignment_operator") (hs : strOf text tg = some (c :: name)) (hc : c.utf8Size = 1)
    (h : NoTag rest) :
    unaries extras text (f + 1) (tg :: asg :: p :: rest) =
      (unaries extras text (f + 1) (p :: rest)).map fun e => if extras then .nodeTag e name else e := by
  rw [unaries_plain extras text f p rest h]
  simp only [unaries, unariesStep, getNodeTag, ha, hs, dropFirstByte, hc, if_true]
  cases nodeOf extras text (consumeExpr extras text f) (unaries extras text f) p rest with
  | none => rfl
  | some n => cases extras <;> rfl

/-- `&` applies to everything that follows it in the term. -/
theorem unaries_pos (extras : Bool) (text : Str) (f : Nat) (p : Tree) (rest : List Tree)
    (hk : kind p = "positive_predicate_operator") (h : NoTag rest) :
    unaries extras text (f + 1) (p :: rest) = (unaries extras text f rest).map .posPred := by
  rw [unaries_plain extras text f p rest h, nodeOf_pos hk]

/-- `!` applies to everything that follows it in the term. -/
theorem unaries_neg (extras : Bool) (text : Str) (f : Nat) (p : Tree) (rest : List Tree)
    (hk : kind p = "negative_predicate_operator") (h : NoTag rest) :
    unaries extras text (f + 1) (p :: rest) = (unaries extras text f rest).map .negPred := by
  rw [unaries_plain extras text f p rest h, nodeOf_neg hk]

/-- an opening parenthesis is transparent. -/
theorem unaries_paren (extras : Bool) (text : Str) (f : Nat) (p : Tree) (rest : List Tree)
    (hk : kind p = "opening_paren") (h : NoTag rest) :
    unaries extras text (f + 1) (p :: rest) = unaries extras text f rest := by
  rw [unaries_plain extras text f p rest h, nodeOf_paren hk]

/-- a parenthesised expression, then the postfix operators (the `closing_paren` is the first of them). -/
theorem unaries_expression (extras : Bool) (text : Str) (f : Nat) (p : Tree) (rest : List Tree)
    (hk : kind p = "expression") (h : NoTag rest) :
    unaries extras text (f + 1) (p :: rest) =
      (consumeExpr extras text f p.children).bind fun n => postfixes text n rest := by
  rw [unaries_plain extras text f p rest h, nodeOf_expression hk]

/-- `PUSH(e)`, then the postfix operators. -/
theorem unaries_push (extras : Bool) (text : Str) (f : Nat) (p o e : Tree) (cs rest : List Tree)
    (hk : kind p = "_push") (hc : p.children = o :: e :: cs) (h : NoTag rest) :
    unaries extras text (f + 1) (p :: rest) =
      (consumeExpr extras text f e.children).bind fun n => postfixes text (.push n) rest := by
  rw [unaries_plain extras text f p rest h, nodeOf_push hk hc]

/-- every other node is a leaf (`leafNode`), then the postfix operators. -/
theorem unaries_leaf (extras : Bool) (text : Str) (f : Nat) (p : Tree) (rest : List Tree)
    (h1 : kind p ≠ "opening_paren") (h2 : kind p ≠ "positive_predicate_operator")
    (h3 : kind p ≠ "negative_predicate_operator") (h4 : kind p ≠ "expression") (h5 : kind p ≠ "_push")
    (h : NoTag rest) :
    unaries extras text (f + 1) (p :: rest) = (leafNode extras text p).bind fun n => postfixes text n rest := by
  rw [unaries_plain extras text f p rest h, nodeOf_leaf h1 h2 h3 h4 h5]

/-- postfix operators apply left to right, the first one innermost. -/
theorem postfixes_cons (text : Str) (n : Expr) (p : Tree) (ps : List Tree) :
    postfixes text n (p :: ps) = (postfixOp text n p).bind fun m => postfixes text m ps := by
  simp [postfixes, List.foldlM_cons]

theorem postfixes_nil (text : Str) (n : Expr) : postfixes text n [] = some n := rfl

/-- without `grammar-extras`, `PUSH_LITERAL(…)` is an error wherever it occurs in a term. -/
theorem leafNode_pushLiteral_default (text : Str) (p : Tree) (hk : kind p = "_push_literal") :
    leafNode false text p = none := by
  simp [leafNode, hk]

/-! ### fuel only bounds the recursion -/

/-- **more fuel never changes a result** of `unaries`. -/
theorem unaries_mono (extras : Bool) (text : Str) (f g : Nat) (hfg : f ≤ g) (ps : List Tree) (e : Expr)
    (h : unaries extras text f ps = some e) : unaries extras text g ps = some e := by
  induction hfg with
  | refl => exact h
  | step _ ih => exact (mono_step extras text _).2 ps e ih

/-- **more fuel never changes the rules read** (so `consumeRulesWithSpans`, which supplies the size of
the forest, agrees with every larger budget whenever it answers). -/
theorem consumeRulesGo_mono (extras : Bool) (text : Str) (f g : Nat) (hfg : f ≤ g) (forest : List Tree) :
    ∀ rs, consumeRulesGo extras text f forest = some rs → consumeRulesGo extras text g forest = some rs := by
  induction forest with
  | nil => exact fun rs h => h
  | cons t ts ih =>
    intro rs h
    by_cases hk : kind t = "grammar_rule"
    · rcases hc : t.children with _ | ⟨c, cs⟩
      · rw [consumeRulesGo_nochild hk hc] at h; cases h
      · by_cases hl : kind c = "line_doc"
        · rw [consumeRulesGo_doc hk hc hl] at h ⊢; exact ih rs h
        · rw [consumeRulesGo_rule hk hc hl] at h ⊢
          obtain ⟨r, hr, h'⟩ := Option.bind_eq_some_iff.1 h
          rw [consumeRule_mono extras text f g hfg t r hr]
          exact map_some_of_le ih h'
    · rw [consumeRulesGo_other hk] at h ⊢; exact ih rs h

/-! ### non-vacuity

Pairs built by hand (rule numbers looked up by name, spans into the text): `|a~b|c` with its leading
`|`, and the term `#t=&a*`. The first also instantiates `consumeExpr_fold` (its hypotheses hold for the
pairs of `a~b|c`). -/

def ix (n : String) : Nat := metaNames.idxOf n
def identTerm (a b : Nat) : Tree := .node (ix "term") a b none [.node (ix "identifier") a b none []]
def opPair (n : String) (a : Nat) : Tree := .node (ix n) a (a + 1) none []

set_option maxRecDepth 100000 in
example : consumeExpr false "|a~b|c".toList 3
    [opPair "choice_operator" 0, identTerm 1 2, opPair "sequence_operator" 2, identTerm 3 4,
      opPair "choice_operator" 4, identTerm 5 6] =
    some (.choice (.seq (.ident "a") (.ident "b")) (.ident "c")) := by decide +kernel

set_option maxRecDepth 100000 in
example : consumeExpr false "|a~b|c".toList 3
    [opPair "choice_operator" 0, identTerm 1 2, opPair "sequence_operator" 2, identTerm 3 4,
      opPair "choice_operator" 4, identTerm 5 6] =
    some (foldGo none (.ident "a") [(false, .ident "b"), (true, .ident "c")]) :=
  consumeExpr_fold false _ 2 _ (identTerm 1 2)
    [opPair "sequence_operator" 2, identTerm 3 4, opPair "choice_operator" 4, identTerm 5 6]
    (.ident "a") [(false, .ident "b"), (true, .ident "c")]
    (by simp [dropLead, show kind (opPair "choice_operator" 0) = "choice_operator" by decide])
    (by unfold IsTerm; decide) (by decide +kernel)
    (.cons (by unfold IsOpOf; decide) (by unfold IsTerm; decide) (by decide +kernel)
      (.cons (by unfold IsOpOf; decide) (by unfold IsTerm; decide) (by decide +kernel) .nil))

set_option maxRecDepth 100000 in
example :
    let pairs := [Tree.node (ix "tag_id") 0 2 none [], opPair "assignment_operator" 2,
      opPair "positive_predicate_operator" 3, .node (ix "identifier") 4 5 none [], opPair "repeat_operator" 5]
    unaries true "#t=&a*".toList 3 pairs = some (.nodeTag (.posPred (.rep (.ident "a"))) ['t']) ∧
    unaries false "#t=&a*".toList 3 pairs = some (.posPred (.rep (.ident "a"))) := by decide +kernel

end PestModel.C07Full
