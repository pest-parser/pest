import PestModel.Model.Grammar
import PestModel.Gen.MetaGrammar
import PestModel.Gen.JsonGrammar
import PestModel.Lemmas.OptListIdle
import PestModel.Lemmas.OptRestorerIdle
/-!
# C14 — the bootstrapped grammar parser is the parser its grammar file denotes

`PestModel.Gen.Meta` is REGENERATED from `meta/src/grammar.pest` on every run (rules as read by the
real front-end, and what the real `optimize` made of them). These theorems re-check, against the
current source, that the Lean optimizer model reproduces the real optimizer on the grammar that
matters most, so the generic theorems C05 (`pipeline_preserves_without_list`) apply to it.
-/
namespace PestModel.C14
open PestModel.G

/-- the Lean transcription of `optimize` reproduces the real optimizer's output on `grammar.pest`: the AST passes and the
conversion are evaluated; the grammar has no stack operation (evaluated too), so the restorer changes nothing
(`optimizeWith_of_plain`). -/
theorem meta_optimize_eq : optimize false PestModel.Gen.Meta.rules = some PestModel.Gen.Meta.optimized :=
  optimizeWith_of_plain (by decide +kernel) (by decide +kernel)

/-- the `list` pass does not touch the meta-grammar: C05's `pipeline_preserves_without_list` covers it. -/
theorem meta_untouched_by_lister :
    optimizeWith false false PestModel.Gen.Meta.rules = optimize false PestModel.Gen.Meta.rules :=
  optimizeWith_of_list_idle (by decide +kernel)

theorem json_optimize_eq : optimize false PestModel.Gen.Json.rules = some PestModel.Gen.Json.optimized :=
  optimizeWith_of_plain (by decide +kernel) (by decide +kernel)

theorem json_untouched_by_lister :
    optimizeWith false false PestModel.Gen.Json.rules = optimize false PestModel.Gen.Json.rules :=
  optimizeWith_of_list_idle (by decide +kernel)

end PestModel.C14
