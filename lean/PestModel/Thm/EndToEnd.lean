import PestModel.Thm.C01
import PestModel.Thm.C02
import PestModel.Thm.C05
import PestModel.Thm.C06
import PestModel.Thm.C08
import PestModel.Lemmas.EndToEnd
import PestModel.Lemmas.RefClosed
/-!
# End to end — the composition of C06, C05, C01, C02 and C08

What pest does with a grammar the validator accepts — optimize it, then interpret it in the VM or
generate a parser for it — terminates on every input and yields exactly what the documented semantics
assign to the grammar *as written*: the same pairs with the same spans and nesting on success, a
failure on failure with the specified failure report, from every rule.

The hypotheses are what each component theorem needs: the grammar is accepted (`validateAst = []`),
well named, uses neither the stack nor node tags, and the `list` pass (which is not meaning preserving,
a recorded finding) does not change it.
-/
namespace PestModel.E2E
open PestModel.G PestModel.PS PestModel.Lower PestModel.Ref PestModel.V
open PestModel.LineCol (Str)

/-- no node tag anywhere in a source expression. -/
def NoTagE : Expr → Bool
  | .nodeTag _ _ => false
  | .posPred e | .negPred e | .opt e | .rep e | .repOnce e | .push e => NoTagE e
  | .repExact e _ | .repMin e _ | .repMax e _ | .repMinMax e _ _ => NoTagE e
  | .seq a b | .choice a b => NoTagE a && NoTagE b
  | _ => true

structure Accepted (extras : Bool) (rules : List Rule) (rs : List ORule) : Prop where
  nodup : (rules.map (·.name)).Nodup
  notAny : ∀ r ∈ rules, r.name ≠ "ANY"
  stackFree : ∀ r ∈ rules, PestModel.C06.StackFree r.expr = true
  noTag : ∀ r ∈ rules, NoTagE r.expr = true
  valid : validateAst extras rules = []
  /-- the optimizer's output, which the `list` pass leaves unchanged -/
  optimized : optimize extras rules = some rs
  listIdle : optimizeWith extras false rules = some rs
  small : rs.length ≤ 333333333

/-- `NoTagE` is the validator lemmas' `NoTag`. -/
theorem noTagE_eq_noTag : ∀ e : Expr, NoTagE e = PestModel.V.NoTag e := by
  intro e
  induction e <;> simp only [NoTagE, PestModel.V.NoTag, *]

namespace Accepted
variable {extras : Bool} {rules : List Rule} {rs : List ORule}

theorem noTagV (h : Accepted extras rules rs) : ∀ r ∈ rules, PestModel.V.NoTag r.expr = true :=
  fun r hr => by rw [← noTagE_eq_noTag]; exact h.noTag r hr

/-- the optimizer's output is an optimizer output … -/
theorem isOptimized (h : Accepted extras rules rs) : PestModel.C01.Optimized extras rs :=
  ⟨rules, false, h.listIdle⟩

/-- … without node tags (the passes introduce none) … -/
theorem noTagO (h : Accepted extras rules rs) : ∀ r ∈ rs, PestModel.VmRef.noTag r.expr = true :=
  noTag_optimizeWith extras false rules rs h.noTagV h.listIdle

/-- … so it satisfies the side condition of C01 and C08 … -/
theorem tagRules (h : Accepted extras rules rs) : PestModel.VmRef.TagRules extras rs :=
  PestModel.VmRef.tagRules_of_noTag extras rs h.noTagO

/-- … and those of C02. -/
theorem tagsExtras (h : Accepted extras rules rs) : ∀ r ∈ rs, PestModel.VmRef.tagsExtras extras r.expr :=
  fun r hr => Or.inr (h.noTagO r hr)

theorem tagPlain (h : Accepted extras rules rs) : ∀ r ∈ rs, PestModel.GenVm.TagPlain r.expr :=
  fun r hr => PestModel.C02.tagPlain_of_noTag _ (h.noTagO r hr)

/-- C06: the documented semantics assign a definite result to the grammar as written. -/
theorem terminates (h : Accepted extras rules rs) (uni : String → Option CharSet) (name : String) (input : Str) :
    ∃ r, Means rules extras uni name input r := by
  obtain ⟨fuel, hf⟩ := PestModel.C06.validator_sound_meaning extras rules h.stackFree h.valid
    (fun _ => h.noTagV) uni name input
  exact ⟨_, hf, fuel, rfl⟩

/-- C05: the grammar as written and the optimizer's output mean the same. -/
theorem means_iff_optimized (h : Accepted extras rules rs) (uni : String → Option CharSet) (name : String)
    (input : Str) (r : Res) :
    Means rules extras uni name input r ↔ Means (ofOptimizedRules rs) extras uni name input r :=
  PestModel.C05.pipeline_preserves_without_list rules extras rs uni h.notAny h.nodup h.listIdle name input r

end Accepted

/-- the VM run of C02 is the VM run of C01. -/
theorem parseWith_vm_eq (rs : List ORule) (uni : String → Option CharSet) (memchr detail : Bool) (fuel : Nat)
    (name : String) (input : Str) :
    PestModel.C02.parseWith .vm rs uni memchr detail fuel name input =
      PestModel.C01.vmParse rs uni memchr detail fuel name input := rfl

/-- **End to end, success and failure.** For an accepted grammar, every start rule and every input:
the documented semantics assign a definite result `r` to the grammar as written, and the VM (model)
run on the optimizer's output reaches a definite outcome that is this `r` — same end position, token
queue = the encoding of `r`'s forest of pairs; failure ↔ failure. -/
theorem accepted_grammar_parses_as_documented (extras : Bool) (rules : List Rule) (rs : List ORule)
    (h : Accepted extras rules rs) (uni : String → Option CharSet) (memchr detail : Bool)
    (name : String) (input : Str) :
    ∃ (r : Res) (fuel : Nat), Means rules extras uni name input r ∧
      match PestModel.C01.vmParse rs uni memchr detail fuel name input with
      | .ok st => ∃ forest, PestModel.Views.build forest = st.queue ∧ r = .ok ⟨st.pos, st.stack.cache⟩ forest
      | .err _ => r = .fail
      | .panic => r = .stuck
      | .fuel => False := by
  obtain ⟨r, hr⟩ := h.terminates uni name input
  obtain ⟨fuel, hf⟩ := PestModel.C01.vm_agrees_partial extras rs h.isOptimized h.tagRules h.small uni memchr
    detail name input r ((h.means_iff_optimized uni name input r).1 hr)
  exact ⟨r, fuel, hr, hf⟩

/-- **… and the generated parser does the same**: it terminates too and reports what the VM reports
(pairs; error position and expected / unexpected rules). -/
theorem accepted_grammar_generated_parser_agrees (extras : Bool) (rules : List Rule) (rs : List ORule)
    (h : Accepted extras rules rs) (uni : String → Option CharSet) (memchr detail : Bool)
    (name : String) (input : Str) :
    ∃ fv fg, PestModel.C02.parseWith .vm rs uni memchr detail fv name input ≠ .fuel ∧
      PestModel.C02.parseWith .gen rs uni memchr detail fg name input ≠ .fuel ∧
      PestModel.C02.outcome (PestModel.C02.parseWith .vm rs uni memchr detail fv name input) =
        PestModel.C02.outcome (PestModel.C02.parseWith .gen rs uni memchr detail fg name input) := by
  obtain ⟨r, fv, -, hv⟩ := accepted_grammar_parses_as_documented extras rules rs h uni memchr detail name input
  have hv' : PestModel.C02.parseWith .vm rs uni memchr detail fv name input ≠ .fuel := by
    rw [parseWith_vm_eq]
    intro hf
    rw [hf] at hv
    exact hv
  obtain ⟨hagree, hterm⟩ := PestModel.C02.gen_eq_vm_optimized extras rs h.isOptimized h.tagsExtras h.small
    h.tagPlain uni memchr detail name input
  obtain ⟨fg, hg⟩ := hterm.1 ⟨fv, hv'⟩
  exact ⟨fv, fg, hv', hg, hagree fv fg hv' hg⟩

/-- **… and a failure is reported as specified**: position and expected / unexpected rules are
`specReport` of the call tree of the reference semantics (of the optimized rule set). -/
theorem accepted_grammar_failure_report (extras : Bool) (rules : List Rule) (rs : List ORule)
    (h : Accepted extras rules rs) (uni : String → Option CharSet) (memchr detail : Bool)
    (name : String) (input : Str) (fuel : Nat) (st : PState)
    (he : PestModel.C01.vmParse rs uni memchr detail fuel name input = .err st) :
    Means rules extras uni name input .fail ∧
    ∃ f calls, PestModel.RefTrace.traceMeaning (ofOptimizedRules rs) extras uni f name input = (.fail, calls) ∧
      st.attemptPos = (PestModel.RefTrace.specReport calls).1 ∧
      sortDedup st.posAtt = sortDedup (PestModel.RefTrace.specReport calls).2.1 ∧
      sortDedup st.negAtt = sortDedup (PestModel.RefTrace.specReport calls).2.2 := by
  refine ⟨?_, PestModel.C08.track_eq_spec extras rs h.isOptimized h.tagRules h.small uni memchr detail fuel name
    input st he⟩
  have hp := PestModel.C01.vm_refines_denote_partial extras rs h.isOptimized h.tagRules h.small uni memchr detail
    fuel name input
  rw [he] at hp
  exact (h.means_iff_optimized uni name input .fail).2 hp

/-- what the optimizer makes of C06's recursive list grammar (`+` unrolled; `list` pass idle). -/
def exOptimized : List ORule :=
  [⟨"WHITESPACE", .silent, .str [' ']⟩,
   ⟨"list", .normal, .seq (.str ['[']) (.seq (.opt (.seq (.ident "item") (.rep (.seq (.str [',']) (.ident "item"))))) (.str [']']))⟩,
   ⟨"item", .normal, .choice (.seq (.ident "ASCII_DIGIT") (.rep (.ident "ASCII_DIGIT")))
      (.seq (.str ['(']) (.seq (.ident "list") (.str [')'])))⟩]

/-- non-vacuity: the recursive list grammar of C06 is `Accepted`. -/
theorem exRules_accepted : Accepted false PestModel.C06.exRules exOptimized where
  nodup := by decide
  notAny := by decide
  stackFree := by decide
  noTag := by decide
  valid := by decide
  optimized := by decide
  listIdle := by decide
  small := by decide

example : ∃ rs, Accepted false PestModel.C06.exRules rs := ⟨exOptimized, exRules_accepted⟩

/-- an accepted grammar whose rule bodies have no "no meaning" case never makes the VM panic. -/
theorem accepted_ns_grammar_never_panics (extras : Bool) (rules : List Rule) (rs : List ORule)
    (h : Accepted extras rules rs) (uni : String → Option CharSet) (memchr detail : Bool) (name : String) (input : Str)
    (hns : RulesNS { rules, input, extras, uni }) (hn : nameOK { rules, input, extras, uni } name = true) :
    ∃ fuel, match PestModel.C01.vmParse rs uni memchr detail fuel name input with
      | .ok _ => True
      | .err _ => True
      | .panic => False
      | .fuel => False := by
  obtain ⟨r, fuel, hm, hv⟩ := accepted_grammar_parses_as_documented extras rules rs h uni memchr detail name input
  refine ⟨fuel, ?_⟩
  obtain ⟨_, f0, hf0⟩ := hm
  have hstuck : meaning rules extras uni f0 name input ≠ .stuck := call_never_stuck _ hns f0 .nonAtomic false name _ hn
  cases ho : PestModel.C01.vmParse rs uni memchr detail fuel name input with
  | ok st => trivial
  | err st => trivial
  | panic => rw [ho] at hv; rw [hf0] at hstuck; exact hstuck hv
  | fuel => rw [ho] at hv; exact hv

/-- **An accepted, closed grammar never makes the VM panic**: for every defined start rule and every input the VM model, run on the
optimizer's output, ends with pairs or with an error — never with a panic (`undefined rule`, `pop`/`peek was called on empty stack`,
an index or slice out of range) and never without an answer. -/
theorem accepted_closed_grammar_never_panics (extras : Bool) (rules : List Rule) (rs : List ORule)
    (h : Accepted extras rules rs) (hc : closedRules rules = true) (uni : String → Option CharSet) (memchr detail : Bool)
    (name : String) (hn : (rules.map (·.name)).contains name = true) (input : Str) :
    ∃ fuel, match PestModel.C01.vmParse rs uni memchr detail fuel name input with
      | .ok _ => True
      | .err _ => True
      | .panic => False
      | .fuel => False :=
  accepted_ns_grammar_never_panics extras rules rs h uni memchr detail name input (rulesNS_of_closed _ hc)
    (by simp only [nameOK, Bool.or_eq_true]; exact .inl (.inl (has_of_mem_names hn)))

end PestModel.E2E
