import PestModel.Model.Unicode
import PestModel.Lemmas.Unicode
/-!
# C16 — Unicode property rules are consistent for every code point

The tables (`PestModel.Gen.Unicode`) are REGENERATED from `pest/src/unicode/*.rs` on every run, so
these theorems are re-checked against what the source says now. Each set is also one big number
(`bitsOf`, bit `cp` = membership); the finite-domain facts are single kernel computations on those
numbers (`decide +kernel`, GMP arithmetic — no `native_decide`), lifted to all code points by the
generic lemmas of `Lemmas/Unicode.lean`.
-/
namespace PestModel.C16
open PestModel.Unicode PestModel.Gen.Unicode

theorem testBit_bitsOf (rs : Ranges) (cp : Nat) : (bitsOf rs).testBit cp = mem rs cp :=
  PestModel.Unicode.testBit_bitsOf rs cp

theorem scalarMask_testBit (cp : Nat) : scalarMask.testBit cp = isScalar cp :=
  PestModel.Unicode.scalarMask_testBit cp

/-- if each set (restricted to `total`) is disjoint from the union of the earlier ones and the union
of all is `total`, then every point of `total` lies in exactly one set. -/
theorem partition_lift (sets : List Ranges) (total : Nat)
    (h : partitionCheck (sets.map fun rs => bitsOf rs &&& total) total = true)
    (cp : Nat) (hcp : total.testBit cp = true) : (sets.filter (mem · cp)).length = 1 :=
  PestModel.Unicode.partition_lift sets total h cp hcp

theorem disjoint_lift (sets : List Ranges) (h : disjointCheck (sets.map bitsOf) = true) (cp : Nat) :
    (sets.filter (mem · cp)).length ≤ 1 :=
  PestModel.Unicode.disjoint_lift sets h cp

theorem union_lift (g : Ranges) (parts : List Ranges) (h : bitsOf g = unionBits (parts.map bitsOf))
    (cp : Nat) : mem g cp = parts.any (mem · cp) :=
  PestModel.Unicode.union_lift g parts h cp

/-- The three facts about the general categories as one evaluation: the kernel computes `bitsOf` of each category once. -/
theorem gc_partition_bits : (partitionCheck (twoLetter.map fun rs => bitsOf rs &&& scalarMask) scalarMask &&
    (bitsOf ranges_category_SURROGATE &&& scalarMask == 0) && groupsCheck) = true := by
  decide +kernel

theorem surrogate_bits : bitsOf ranges_category_SURROGATE &&& scalarMask = 0 :=
  beq_iff_eq.mp (Bool.and_eq_true_iff.mp (Bool.and_eq_true_iff.mp gc_partition_bits).1).2

theorem groups_bits : groupsCheck = true := (Bool.and_eq_true_iff.mp gc_partition_bits).2

theorem scripts_bits : disjointCheck (scripts.map bitsOf) = true := by decide +kernel

theorem names_agree : namesCheck = true := by
  have h := advOk_of_namesFast (pre := []) (tbl := allByName)
    (gs := [("binary", byName_binary, advertised_binary, consts_binary),
      ("category", byName_category, advertised_category, consts_category),
      ("script", byName_script, advertised_script, consts_script)]) nofun (by decide +kernel)
    (by simp only [allByName, List.flatMap_cons, List.flatMap_nil, Group.seg, List.nil_append, List.append_nil,
      List.append_assoc])
  show (advOk allByName ("binary", advertised_binary, consts_binary) &&
    advOk allByName ("category", advertised_category, consts_category) &&
    advOk allByName ("script", advertised_script, consts_script)) = true
  rw [h _ (.head _), h _ (.tail _ (.head _)), h _ (.tail _ (.tail _ (.head _)))]
  rfl

/-- the validator's `BUILTINS` chains `unicode_property_names()`, so every advertised name is accepted. -/
theorem validator_accepts : builtinsChainUnicode = true := by decide

/-- the VM's hard-wired arms are exactly the generator's `insert_builtin!` set, and both fall back
to the Unicode properties (`by_name` / `::pest::unicode::NAME`). -/
theorem backend_builtins_agree : vmArms = genBuiltins ∧ vmUnicodeFallback = true ∧ genUnicodeLoop = true := by
  decide +kernel

/-- **For every Unicode scalar value exactly one two-letter general category matches.** -/
theorem gc_partition (cp : Nat) (h : isScalar cp = true) : (twoLetter.filter (mem · cp)).length = 1 :=
  partition_lift twoLetter scalarMask (Bool.and_eq_true_iff.mp (Bool.and_eq_true_iff.mp gc_partition_bits).1).1 cp
    ((scalarMask_testBit cp).trans h)

/-- `SURROGATE` matches no scalar value. -/
theorem surrogate_no_scalar (cp : Nat) (h : isScalar cp = true) : mem ranges_category_SURROGATE cp = false := by
  have hz := PestModel.Unicode.and_eq_zero_testBit surrogate_bits cp
  rw [testBit_bitsOf, scalarMask_testBit, h, Bool.and_true] at hz
  exact hz

/-- **Each grouped category matches exactly the union of its members** (LETTER, CASED_LETTER, MARK,
NUMBER, PUNCTUATION, SYMBOL, SEPARATOR, OTHER). -/
theorem group_eq_union (g : Ranges) (parts : List Ranges) (hg : (g, parts) ∈ groups) (cp : Nat) :
    mem g cp = parts.any (mem · cp) :=
  PestModel.Unicode.groups_lift groups groups_bits g parts hg cp

/-- **Script rules are pairwise disjoint.** -/
theorem scripts_disjoint (cp : Nat) : (scripts.filter (mem · cp)).length ≤ 1 :=
  disjoint_lift scripts scripts_bits cp

end PestModel.C16
